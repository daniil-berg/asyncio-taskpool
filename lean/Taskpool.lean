import Taskpool.Model.Basic
import Taskpool.Model.Pool
import Taskpool.Model.World
import Taskpool.Model.Bits
import Taskpool.Inv.Bits2
import Taskpool.Inv.Tame
import Taskpool.Inv.Sync
import Taskpool.Inv.SemLemmas
import Taskpool.Inv.MapSem
import Taskpool.Inv.Acc
import Taskpool.Inv.Task
import Taskpool.Inv.Spawner
import Taskpool.Inv.Steps
import Taskpool.Inv.Basics
import Taskpool.Inv.Elim
import Taskpool.Inv.Effects
import Taskpool.Inv.ApiStages
import Taskpool.Inv.UserCode
import Taskpool.Inv.Wrapper
import Taskpool.Inv.Loops
import Taskpool.Inv.Lift
import Taskpool.Inv.GoodInv
import Taskpool.Props.C01
import Taskpool.Props.C02
import Taskpool.Props.C06
import Taskpool.Props.C09
import Taskpool.Props.C14
import Taskpool.Props.C15
import Taskpool.Inv.Reg
import Taskpool.Inv.Count
import Taskpool.Props.C03
import Taskpool.Props.C04
import Taskpool.Props.C05
import Taskpool.Props.C07
import Taskpool.Props.C08
import Taskpool.Props.C10
import Taskpool.Props.C11
import Taskpool.Props.C12
import Taskpool.Props.C13
import Taskpool.Props.C20
import Taskpool.Inv.Mono
import Taskpool.Props.Temporal
import Taskpool.Inv.Gather
import Taskpool.Inv.GatherInv
import Taskpool.Inv.GatherApi
import Taskpool.Inv.GatherWorld
import Taskpool.Inv.Decimal
import Taskpool.Inv.Sched
import Taskpool.Inv.SchedWalk
import Taskpool.Inv.SchedWorld
import Taskpool.Inv.Want
import Taskpool.Inv.WantWalk
import Taskpool.Inv.WantWalk2
import Taskpool.Props.Idle
import Taskpool.Inv.Grows
import Taskpool.Inv.GatherCount
import Taskpool.Inv.GatherSpawners
import Taskpool.Inv.Fin
import Taskpool.Inv.FinWalk
import Taskpool.Inv.MapHeld
import Taskpool.Inv.MapHeldWalk
import Taskpool.Inv.ApiWant
import Taskpool.Inv.ApiWantWalk
import Taskpool.Props.Quiescence
import Taskpool.Inv.ErAttr
import Taskpool.Inv.NonInt
import Taskpool.Inv.NonInt2
import Taskpool.Inv.NonIntColl
import Taskpool.Props.C12NonInt
import Taskpool.Inv.Seal
import Taskpool.Inv.SealWalk1
import Taskpool.Inv.SealWalk2
import Taskpool.Inv.SealWalk
import Taskpool.Inv.SealInv
import Taskpool.Props.Sealed
import Taskpool.Inv.FinS
import Taskpool.Inv.FinSWalk
import Taskpool.Inv.EndOK
import Taskpool.Inv.EndWalk
import Taskpool.Inv.EndWalk2
import Taskpool.Inv.Emptied
import Taskpool.Inv.EmptiedWalk
import Taskpool.Inv.ClosedWalk
import Taskpool.Inv.SealInv2
import Taskpool.Props.Sealed2
import Taskpool.Props.SealedExamples
import Taskpool.Inv.Elem
import Taskpool.Inv.ElemWalk
import Taskpool.Inv.ElemWalk2
import Taskpool.Props.Elements
import Taskpool.Inv.Blame
import Taskpool.Inv.BlameWalk
import Taskpool.Inv.BlameWalk2
import Taskpool.Inv.BlameWalk3
import Taskpool.Props.Blame
import Taskpool.Model.Control
import Taskpool.Model.Control.Session
import Taskpool.Model.Control.Server
import Taskpool.Inv.Control
import Taskpool.Inv.ControlParse
import Taskpool.Inv.ControlSession
import Taskpool.Inv.ControlServer
import Taskpool.Props.C16
import Taskpool.Props.C17
import Taskpool.Props.C18
import Taskpool.Props.C19
