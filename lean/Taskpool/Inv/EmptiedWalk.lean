import Taskpool.Inv.Emptied
import Taskpool.Inv.SealWalk2
import Taskpool.Inv.Write
/-! **A closed pool holds no tasks — for good: the walk.**

`CStep p q` relates a state `p` to a later state `q` reached by steps that keep everything `Pool.EmptiedOK` reads:

* `closed` is the same (`cl`);
* **if the pool is closed**: a spawner filed as running in `q` was filed so in `p` — in particular no request is
  registered (`rq`) —, and an id filed in one of the three registries in `q` was filed in one of them in `p` (`ru`).

The relation is reflexive and transitive, and `EmptiedOK` is preserved along it (`CStep.emptied`).  Every write of the
machine (`Inv/Write.lean`) is such a step (`cstep_write`) **except**

* the creation of a task by a spawner that wakes up in `_enough_room.acquire()` with a slot in hand (`_start_task`
  checks `closed` itself, this one does not) when the pool is closed.  In a closed pool no spawner is filed as running
  (`EmptiedOK.nr`), so by `SealOK.fr` every live spawner is doomed: it does not wake up so (`cstep_stepMeta`);
* the closing step `gacAfter2`, which sets `closed` and clears the registries at once; it is reached from a
  `gather_and_close()` in its second gather (`SealOK.g2`: nobody filed as running) or synchronously from `gacAfter1`,
  which has just un-filed every spawner: `EmAt`, the predicate by stage of the call, and `em_staged`, the instance of
  `ApiStaged` (`Inv/ApiStages.lean`). -/
namespace Taskpool
namespace Pool

/-- no request gets filed as running -/
abbrev RqC := Grown (fun r' r : Req => r'.inRunning = true → r.inRunning = true) (·.inRunning ≠ true)

/-- the frame relation of `EmptiedOK` (file header) -/
structure CStep (p q : Pool) : Prop where
  cl : q.closed = p.closed
  rq : p.closed = true → RqC p.reqs q.reqs
  ru : p.closed = true → ∀ t, t ∈ q.running ++ q.cancelledR ++ q.ended → t ∈ p.running ++ p.cancelledR ++ p.ended

theorem CStep.refl (p : Pool) : CStep p p := ⟨rfl, fun _ => .refl (fun _ h => h) _, fun _ _ h => h⟩

theorem CStep.trans {p q s : Pool} (h1 : CStep p q) (h2 : CStep q s) : CStep p s where
  cl := h2.cl.trans h1.cl
  rq := fun hc => (h1.rq hc).trans (fun a b h => b (a h)) (fun k n h => n (k h)) (h2.rq (h1.cl.trans hc))
  ru := fun hc t ht => h1.ru hc t (h2.ru (h1.cl.trans hc) t ht)

theorem CStep.emptied {p q : Pool} (s : CStep p q) (h : EmptiedOK p) : EmptiedOK q where
  nr := fun hc m r' hq => by
    have hc' : p.closed = true := s.cl.symm.trans hc
    cases hi : r'.inRunning with
    | false => rfl
    | true =>
      obtain ⟨r, hp, hr⟩ := (s.rq hc').old hq (· hi)
      exact nomatch (h.nr hc' m r hp).symm.trans (hr hi)
  em := fun hc => by
    have hc' : p.closed = true := s.cl.symm.trans hc
    obtain ⟨e1, e2, e3⟩ := h.em hc'
    have hsub := s.ru hc'
    rw [e1, e2, e3] at hsub
    have nil : ∀ l : List Nat, (∀ t ∈ l, t ∈ q.running ++ q.cancelledR ++ q.ended) → l = [] :=
      fun l hl => List.eq_nil_iff_forall_not_mem.mpr fun t ht => nomatch hsub t (hl t ht)
    exact ⟨nil _ fun t ht => List.mem_append_left _ (List.mem_append_left _ ht),
      nil _ fun t ht => List.mem_append_left _ (List.mem_append_right _ ht),
      nil _ fun t ht => List.mem_append_right _ ht⟩

theorem cstep_of_eq (p q : Pool) (hc : q.closed = p.closed := by rfl) (hr : q.reqs = p.reqs := by rfl)
    (h1 : q.running = p.running := by rfl) (h2 : q.cancelledR = p.cancelledR := by rfl)
    (h3 : q.ended = p.ended := by rfl) : CStep p q where
  cl := hc
  rq := fun _ => by rw [hr]; exact .refl (fun _ h => h) _
  ru := fun _ _ h => by rw [h1, h2, h3] at h; exact h

theorem cstep_mapReqs (p q : Pool) (f : Req → Req) (hq : q.reqs = p.reqs.map f)
    (hf : ∀ r, (f r).inRunning = true → r.inRunning = true)
    (hc : q.closed = p.closed := by rfl)
    (h1 : q.running = p.running := by rfl) (h2 : q.cancelledR = p.cancelledR := by rfl)
    (h3 : q.ended = p.ended := by rfl) : CStep p q where
  cl := hc
  rq := fun _ => hq ▸ .map f hf
  ru := fun _ _ h => by rw [h1, h2, h3] at h; exact h

theorem cstep_modReq (p : Pool) (m : Nat) (f : Req → Req) (hf : ∀ r, (f r).inRunning = r.inRunning := by intro r; rfl) :
    CStep p (p.modReq m f) :=
  ⟨rfl, fun _ => .modify (fun _ h => h) m f fun x h => (hf x).symm.trans h, fun _ _ h => h⟩

theorem cstep_regs (p q : Pool)
    (hs : ∀ t, t ∈ q.running ++ q.cancelledR ++ q.ended → t ∈ p.running ++ p.cancelledR ++ p.ended)
    (hc : q.closed = p.closed := by rfl) (hr : q.reqs = p.reqs := by rfl) : CStep p q where
  cl := hc
  rq := fun _ => by rw [hr]; exact .refl (fun _ h => h) _
  ru := fun _ => hs

theorem register_closed (p : Pool) (r : Req) : (p.register r).closed = p.closed := rfl

theorem createTask_closed (p : Pool) (m : Nat) (isMap : Bool) : (p.createTask m isMap).closed = p.closed :=
  createTask_eq p m isMap ▸ rfl

/-- every write of the machine (`Inv/Write.lean`) but the closing step and the creation of a task by a spawner that
wakes up with a slot in hand.  An id enters the ended registry only from the running or the cancelled one, the
cancelled registry only from the running one; `_check_start` and `_start_task` do nothing in a closed pool -/
theorem cstep_write {w : Who} {p q : Pool} (h : Write w p q) (hw : (∀ m, w = .grant m → p.closed = false) ∧ w ≠ .closer) :
    CStep p q := by
  have opened : ∀ {q : Pool}, p.closed = false → q.closed = p.closed → CStep p q :=
    fun c e => ⟨e, fun x => (Bool.false_ne_true (c.symm.trans x)).elim, fun x => (Bool.false_ne_true (c.symm.trans x)).elim⟩
  cases h with
  | rest | emit | lost | modGather | newGather | flagApi | newApi | modApi | waitClosed | task | flagTask | completeTask =>
    exact cstep_of_eq _ _
  | req _ m f hf =>
    refine (cstep_modReq p m f fun x => ?_)
    cases hf x with
    | soft h => obtain ⟨_, _, _, e, _⟩ := h; rw [e]
    | own h => exact h.inRunning
    | reg _ h => rw [h]
  | flagReq _ m => exact (cstep_modReq p m fun x => { x with sched := true }).trans (cstep_of_eq _ _)
  | finishMeta _ m _ _ o =>
    exact (cstep_modReq p m fun x => { x with frame := .done, outcome := some o, sched := false, mustCancel := false }).trans
      (cstep_of_eq _ _)
  | fileCancelled _ f ms hf hm | unfiled _ f ms hf hm =>
    refine cstep_mapReqs p _ f rfl fun x a => ?_
    obtain ⟨_, _, _, e, i⟩ := hf x
    rw [e] at a
    exact i a
  | newReq _ _ _ _ _ _ _ _ _ _ hc => exact opened (checkStart_open hc) rfl
  | newTask _ m _ _ _ _ _ hc => exact opened (hc.elim (·.2) fun e => hw.1 m e) rfl
  | runToEnded _ t c =>
    refine cstep_regs p _ fun x hx => ?_
    simp only [List.mem_append, List.mem_singleton] at hx ⊢
    rcases hx with (a | a) | a | a
    · exact Or.inl (Or.inl (List.mem_of_mem_erase a))
    · exact Or.inl (Or.inr a)
    · exact Or.inr a
    · exact Or.inl (Or.inl (a ▸ List.contains_iff_mem.mp c))
  | canToEnded _ t c =>
    refine cstep_regs p _ fun x hx => ?_
    simp only [List.mem_append, List.mem_singleton] at hx ⊢
    rcases hx with (a | a) | a | a
    · exact Or.inl (Or.inl a)
    · exact Or.inl (Or.inr (List.mem_of_mem_erase a))
    · exact Or.inr a
    · exact Or.inl (Or.inr (a ▸ List.contains_iff_mem.mp c))
  | runToCan _ t c =>
    refine cstep_regs p _ fun x hx => ?_
    simp only [List.mem_append, List.mem_singleton] at hx ⊢
    rcases hx with (a | a | a) | a
    · exact Or.inl (Or.inl (List.mem_of_mem_erase a))
    · exact Or.inl (Or.inr a)
    · exact Or.inl (Or.inl (a ▸ List.contains_iff_mem.mp c))
    · exact Or.inr a
  | forget =>
    refine cstep_regs p _ fun x hx => ?_
    simp only [List.mem_append] at hx ⊢
    rcases hx with (b | b) | b
    · exact Or.inl (Or.inl b)
    · exact Or.inl (Or.inr (List.mem_filter.mp b).1)
    · exact Or.inr (List.mem_filter.mp b).1
  | close => exact absurd rfl hw.2

theorem cstep_steps {S : Who → Prop} (hS : (∀ m, ¬ S (.grant m)) ∧ ¬ S .closer) {p q : Pool} (h : Steps S p q) : CStep p q :=
  h.frame CStep.refl CStep.trans fun _ _ _ hs x => cstep_write x ⟨fun m e => (hS.1 m (e ▸ hs)).elim, fun e => hS.2 (e ▸ hs)⟩

/-- the stages of `flush()` and `until_closed()`, gathers, what a background call does to its own record -/
theorem cstep_flush {p q : Pool} (h : Steps (fun w => w = .gather ∨ w = .api) p q) : CStep p q :=
  cstep_steps ⟨fun _ => nofun, nofun⟩ h

theorem cstep_modApi (p : Pool) (a : Nat) (f : Api → Api) : CStep p (p.modApi a f) := cstep_of_eq _ _

theorem cstep_schedApi (p : Pool) (a : Nat) : CStep p (p.schedApi a) := schedApi_eq p a ▸ cstep_of_eq _ _

theorem cstep_finishApi (p : Pool) (a : Nat) (o : Outcome) : CStep p (p.finishApi a o) := cstep_of_eq _ _

theorem cstep_gatherStart (p : Pool) (children : List Child) (re : Bool) (owner : Nat) (setPrefix : Nat) :
    CStep p (p.gatherStart children re owner setPrefix).1 :=
  cstep_flush ((st_gather _ (.inl rfl) p).gatherStart (.refl p) children re owner setPrefix)

theorem cstep_stepMeta (p : Pool) (m : Nat) (hs : Seal p) (hW : Want p) (hnr : p.closed = true → NR p) :
    CStep p (p.stepMeta m) := by
  cases hc : p.closed with
  | false =>
    -- `closed` stays `false` along `CStep`, so that a task may be created
    refine (steps_runRef p (.spawner m)).frame (R := fun a b => a.closed = false → CStep a b) (fun a _ => .refl a)
      (fun h1 h2 c => (h1 c).trans (h2 ((h1 c).cl.trans c))) (fun w a b hw x c => cstep_write x ⟨fun _ _ => c, fun e => ?_⟩) hc
    exact nomatch e ▸ hw
  | true =>
    refine cstep_steps ⟨fun _ => nofun, nofun⟩ (steps_stepMeta_doomed p m fun r hp hfr => ?_)
    have ho : r.outcome = none := wk0_live hW.wk hp fun e => nomatch hfr.symm.trans e
    rcases hs.fr m r hp id ho with x | x
    · rw [hnr hc m r hp] at x; cases x
    · rcases x with d | ⟨_, d⟩ | ⟨d, _⟩
      · exact Or.inr d
      · exact Or.inl d
      · rw [hfr] at d; cases d

theorem cstep_applyOp (p : Pool) (op : Op) : CStep p (p.applyOp op).1 :=
  cstep_steps ⟨fun _ => nofun, nofun⟩ (steps_applyOp p op)

/-- `EmptiedOK` while a background call runs: once a `gather_and_close()` has passed its first gather, no spawner is
filed as running (it has un-filed them all; resumed in its second gather: `SealOK.g2`) -/
def EmAt (k : ApiKind) (b : Bool) (p : Pool) : Prop := EmptiedOK p ∧ (b = true → ∀ re, k = .gac re → NR p)

/-- `flush()` and `until_closed()` are steps of the frame (`cstep_flush`) -/
theorem em_staged (a : Nat) : ApiStaged (fun k c => EmAt k c.second) (fun k b q => EmAt k b q.1) EmptiedOK a :=
  have fl := fun p => (st_flush (fun w => w = .gather ∨ w = .api) (.inl rfl) (.inr rfl) p).staged a
  have fr : ∀ {p q : Pool} {re b b'}, EmAt (.flush re) b p → Steps (fun w => w = .gather ∨ w = .api) p q → EmAt (.flush re) b' q :=
    fun h s => ⟨(cstep_flush s).emptied h.1, fun _ _ e => nomatch e⟩
  { headF1 := fun re p n h => fr h ((fl p).headF1 re p n (.refl p))
    headF2 := fun re p g o h => fr h ((fl p).headF2 re p g o (.refl p))
    go := fun _ _ _ _ h _ => h
    suspend := fun _ _ q _ h _ => (cstep_modApi _ a _).emptied h.1
    finish := fun _ _ _ _ p h _ _ _ => (cstep_finishApi p a _).emptied h.1
    forget := fun re p g h => (cstep_flush ((fl p).forget re p g (.refl p))).emptied h.1
    seenClosed := fun p h _ => (cstep_finishApi p a _).emptied h.1
    waitClosed := fun p h c => (cstep_flush ((fl p).waitClosed p (.refl p) c)).emptied h.1
    headG1 := fun _ p h => ⟨((cstep_of_eq p _).trans (cstep_gatherStart _ _ true a 0)).emptied h.1, nofun⟩
    headG2 := fun _ p _ _ h =>
      have t1 : CStep p ({ p with metaCancelled := [], reqs := p.reqs.map fun (r : Req) => { r with inCancelled := false, inRunning := false } } : Pool) :=
        cstep_mapReqs p _ (fun (r : Req) => { r with inCancelled := false, inRunning := false }) rfl (fun _ h => nomatch h)
      ⟨(t1.trans (cstep_gatherStart _ _ _ a 0)).emptied h.1, fun _ _ _ => nr_gather.gatherStart (fun m r' hr' => by
        obtain ⟨r, _, rfl⟩ := getElem?_map_some hr'
        rfl) _ _ a 0⟩
    raised := fun _ p _ _ _ h _ => (cstep_finishApi p a _).emptied h.1
    closing := fun re p g h =>
      CStep.emptied ((foldl_keeps (P := CStep _) _ (fun q w h => h.trans (cstep_schedApi q w)) _ _ (.refl _)).trans
        (cstep_finishApi _ a _)) ⟨fun _ => h.2 rfl re rfl, fun _ => ⟨rfl, rfl, rfl⟩⟩ }

theorem emptied_stepApi {p : Pool} (hs : Seal p) (he : EmptiedOK p) (a : Nat) : EmptiedOK (p.stepApi a) :=
  have hp1 := (cstep_modApi p a fun x => { x with sched := false }).emptied he
  (em_staged a).stepApi _ rfl he (fun _ _ _ _ _ _ => hp1) (fun _ _ _ _ => ⟨hp1, nofun⟩)
    -- by `SealOK.g2` nobody is filed as running while a `gather_and_close()` is in its second gather
    (fun A b g o hA _ hf _ _ => ⟨hp1, fun e re hk => by cases (show b = true from e); exact (hs.g2 a A g hA (hk ▸ rfl) hf).1⟩)
    fun _ _ _ _ => (cstep_finishApi _ a _).emptied hp1

theorem emptied_init (cap : Cap) (simple : Option SpawnSpec) : EmptiedOK (Pool.init cap simple) :=
  ⟨fun h => (nomatch h), fun h => (nomatch h)⟩

theorem emptied_applyOp (p : Pool) (o : Op) (he : EmptiedOK p) : EmptiedOK (p.applyOp o).1 :=
  (cstep_applyOp p o).emptied he

theorem emptied_runRef (p : Pool) (r : Ref) (hw : Want p) (hs : Seal p) (he : EmptiedOK p) :
    EmptiedOK (p.runRef r) := by
  cases r with
  | spawner m => exact (cstep_stepMeta p m hs hw he.nr).emptied he
  | api a => exact emptied_stepApi hs he a
  | task | gchild => exact (cstep_steps ⟨fun _ => nofun, nofun⟩ (steps_runRef p _)).emptied he

theorem emptied_orders (p : Pool) (orders : List (List Nat)) (he : EmptiedOK p) : EmptiedOK { p with orders := orders } :=
  (cstep_of_eq p _).emptied he

theorem emptied_drain (p : Pool) (he : EmptiedOK p) : EmptiedOK { p with emit := [] } :=
  (cstep_of_eq p _).emptied he

end Pool
end Taskpool
