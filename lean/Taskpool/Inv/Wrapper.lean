import Taskpool.Inv.UserCode
import Taskpool.Inv.Effects
/-! The wrapper of a pool task (`_task_wrapper`, with the `_task_cancellation` and `_task_ending` it awaits), for
predicates that do read task records.

Before its asyncio Task completes the wrapper rewrites the record of its own task `t` only, and only in fields that say
how far it has come: whose task it is (`req`, `arg`, `isMap`) is never rewritten, the outcome is written by
`completeTask` alone, the done-callbacks by `asyncio.gather` alone (`SameTask`).  So a predicate kept by every such
rewrite of record `t`, by user code, the registry moves, the two `release()` calls and the ghost `lost` holds until the
step of the wrapper is over — proved here once (`WrapStaged`), for every walk.

Two things make the structure fit predicates that tie the record of `t` to the rest of the pool:

* **stages.**  What may be written into the record depends on how far `_task_ending` has come, so the predicate is
  indexed by a stage: `run` — up to the registry move of `_task_ending` (worker, cancel callback, `_task_cancellation`);
  `ended` — the id is filed as ended, the slot and (for a map task) the map slot are handed back; `endCb` — the end
  callback may run, the wrapper may suspend inside it or complete; `lost` — a `KeyError` in `_task_ending`, the wrapper
  completes at once.  `WrapWrite s` is what the wrapper writes at stage `s`: `SameTask`, the phase moves only where the
  code moves it (into `inEndCb` only at stage `endCb`, never to `finished`), a map slot is at most given up, the flag is
  not set.
* **exits.**  A step of the wrapper is over in one of four ways, and `Q` is asked for at each of them: the asyncio Task
  completes (`finish`, `finishLost`), the coroutine suspends on a fresh future (`suspend`, a field about `suspendTask` as
  a whole: the future is pending or the task is flagged), the handle finds the future it was suspended on still pending
  (hypothesis `hq` of `stepTask`), or there is no such task (`gone`) — so the predicate may have an exempt mode and need
  not imply `Q`.  Where it does (`weaken`), `WrapBody.ofWeaken` supplies `gone` and `suspend`.

`WrapKept P Q` is the case of one predicate for all stages with `weaken`; for a frame relation `Q = P`. -/
namespace Taskpool
namespace Pool

inductive WStage | run | lost | ended | endCb

structure WrapWrite (s : WStage) (k' k : PTask) : Prop extends SameTask k' k where
  ph : k'.phase = k.phase ∨ k'.phase = .wrapUp ∨ k'.phase = .inWorker ∨ k'.phase = .inCancelCb ∨
        (s = .endCb ∧ k'.phase = .inEndCb)
  mh : k.mapHeld = false → k'.mapHeld = false
  /-- the flag is set by `schedTask` alone -/
  sc : k'.sched = true → k.sched = true

/-- a phase in which the wrapper is suspended on a future of the environment -/
def Susp (ph : Phase) : Prop := ph = .inWorker ∨ ph = .inCancelCb ∨ ph = .inEndCb

/-- `Susp ph`, and `s` is the stage at which the wrapper gets there -/
def SuspAt (s : WStage) (ph : Phase) : Prop := (s = .run ∧ (ph = .inWorker ∨ ph = .inCancelCb)) ∨ (s = .endCb ∧ ph = .inEndCb)

theorem SuspAt.susp {s : WStage} {ph : Phase} (h : SuspAt s ph) : Susp ph :=
  h.elim (fun a => a.2.elim .inl fun b => .inr (.inl b)) fun a => .inr (.inr a.2)

/-- the two rewrites of `suspendTask` -/
theorem WrapWrite.susp {s : WStage} {ph : Phase} (h : SuspAt s ph) {k' k : PTask} (hs : SameTask k' k) (hp : k'.phase = ph)
    (hm : k'.mapHeld = k.mapHeld) (hc : k'.sched = k.sched) : WrapWrite s k' k :=
  ⟨hs, .inr (.inr (hp ▸ h.elim (fun a => a.2.elim .inl fun b => .inr (.inl b)) fun a => .inr (.inr a))),
    fun e => hm.trans e, fun e => hc ▸ e⟩

theorem cbCount_write (s : WStage) (isEnd : Bool) (x : PTask) : WrapWrite s (cbCount isEnd x) x := by
  unfold cbCount
  split <;> exact ⟨⟨rfl, rfl, rfl, rfl, rfl⟩, .inl rfl, id, id⟩

/-- what the wrapper keeps; `A hs`: the hook list `hs` may be run -/
structure WrapBody (P : WStage → Pool → Prop) (A : List HookOp → Prop) (t : Nat) : Prop where
  modTask : ∀ s p f, (∀ x, WrapWrite s (f x) x) → P s p → P s (p.modTask t f)
  logEv : ∀ s p e, P s p → P s (p.logEv e)
  runHooks : ∀ s p ctx hs, A hs → P s p → P s (p.runHooks ctx hs)
  /-- every hook list stored with the request of a task satisfies `A`: it may be run.  For ANY `tk`, not only a record
  of `p`: the model reads the hooks through `reqOf tk`, where `tk` is the record the wrapper read at the start of its
  step and may be stale by the time a hook list is run -/
  adm : ∀ s p, P s p → ∀ tk : PTask, A (p.reqOf tk).hooks.start ∧ A (p.reqOf tk).hooks.endCb ∧
    A (p.reqOf tk).hooks.cancelCb ∧ A (p.reqOf tk).hooks.next
  /-- `KeyError` in `_task_cancellation`: the wrapper goes on to `_task_ending` -/
  lost : ∀ (p : Pool), P .run p → P .run { p with lost := true }
  /-- `KeyError` in `_task_ending` -/
  toLost : ∀ (p : Pool), P .run p → P .lost { p with lost := true }
  runToCan : ∀ (p : Pool), p.running.contains t = true → P .run p →
    P .run { p with running := p.running.erase t, cancelledR := p.cancelledR ++ [t] }
  runToEnded : ∀ (p : Pool), p.running.contains t = true → P .run p →
    P .ended { p with running := p.running.erase t, ended := p.ended ++ [t] }
  canToEnded : ∀ (p : Pool), p.cancelledR.contains t = true → P .run p →
    P .ended { p with cancelledR := p.cancelledR.erase t, ended := p.ended ++ [t] }
  releasePool : ∀ p, P .ended p → P .ended p.releasePool
  releaseMap : ∀ p m, P .ended p → P .ended (p.releaseMap m)
  /-- the wrapped end callback of a map task has released the map slot -/
  unhold : ∀ p, P .ended p → P .endCb (p.modTask t fun k => { k with mapHeld := false })
  /-- `t` is not a map task: there is no map slot to release -/
  noMap : ∀ p tk, p.tasks[t]? = some tk → tk.isMap = false → P .ended p → P .endCb p

structure WrapStaged (P : WStage → Pool → Prop) (Q : Pool → Prop) (A : List HookOp → Prop) (t : Nat) : Prop
    extends WrapBody P A t where
  gone : ∀ s p, p.tasks[t]? = none → P s p → Q p
  suspend : ∀ s p ph, SuspAt s ph → P s p → Q (p.suspendTask t ph)
  finish : ∀ p o, P .endCb p → Q (p.completeTask t o)
  finishLost : ∀ p o, P .lost p → Q (p.completeTask t o)

section
variable {P : WStage → Pool → Prop} {Q : Pool → Prop} {A : List HookOp → Prop} {t : Nat}

theorem WrapBody.ofWeaken (b : WrapBody P A t) (weaken : ∀ s p, P s p → Q p) (schedTask : ∀ s p, P s p → P s (p.schedTask t))
    (finish : ∀ p o, P .endCb p → Q (p.completeTask t o)) (finishLost : ∀ p o, P .lost p → Q (p.completeTask t o)) :
    WrapStaged P Q A t :=
  { b with
    gone := fun s p _ h => weaken s p h
    suspend := fun s p ph c h => weaken s _ (by
      unfold Pool.suspendTask
      split
      · exact h
      · exact ite_keeps (schedTask _ _ (b.modTask _ _ _ (fun _ => .susp c ⟨rfl, rfl, rfl, rfl, rfl⟩ rfl rfl rfl) h))
          (b.modTask _ _ _ (fun _ => .susp c ⟨rfl, rfl, rfl, rfl, rfl⟩ rfl rfl rfl) h))
    finish := finish
    finishLost := finishLost }

variable (k : WrapStaged P Q A t) {p : Pool} {s : WStage}
include k

/-- a rewrite that leaves phase, map slot and flag alone -/
theorem WrapStaged.mod (h : P s p) (f : PTask → PTask)
    (hf : ∀ x, WrapWrite s (f x) x := by exact fun _ => ⟨⟨rfl, rfl, rfl, rfl, rfl⟩, .inl rfl, id, id⟩) :
    P s (p.modTask t f) := k.modTask s p f hf h

/-- a rewrite that moves the phase to `wrapUp` -/
theorem WrapStaged.modUp (h : P s p) (f : PTask → PTask)
    (hf : ∀ x, WrapWrite s (f x) x := by exact fun _ => ⟨⟨rfl, rfl, rfl, rfl, rfl⟩, .inr (.inl rfl), id, id⟩) :
    P s (p.modTask t f) := k.modTask s p f hf h

theorem WrapStaged.cbBegin (h : P s p) (tk : PTask) (isEnd : Bool) : P s (p.cbBegin t tk isEnd) :=
  k.runHooks _ _ _ _ (by cases isEnd; exact (k.adm s p h tk).2.2.1; exact (k.adm s p h tk).2.1)
    (k.logEv _ _ _ (k.mod h _ (cbCount_write s isEnd)))

/-- a user callback — the cancel callback at stage `run`, the end callback at stage `endCb`: the wrapper is suspended
inside it and the step is over, or it goes on -/
theorem WrapStaged.runCb (h : P s p) (tk : PTask) (isEnd : Bool) (hs : (isEnd = false ∧ s = .run) ∨ (isEnd = true ∧ s = .endCb)) :
    ((p.runCb t tk isEnd).2 = true → Q (p.runCb t tk isEnd).1) ∧ ((p.runCb t tk isEnd).2 = false → P s (p.runCb t tk isEnd).1) := by
  unfold Pool.runCb
  split
  · exact ⟨nofun, fun _ => h⟩
  · exact ⟨nofun, fun _ => k.logEv _ _ _ (k.cbBegin h tk isEnd)⟩
  · exact ⟨nofun, fun _ => k.mod (k.logEv _ _ _ (k.cbBegin h tk isEnd)) _⟩
  · refine ⟨fun _ => k.suspend _ _ _ ?_ (k.cbBegin h tk isEnd), nofun⟩
    rcases hs with ⟨rfl, e⟩ | ⟨rfl, e⟩
    · exact .inl ⟨e, .inr rfl⟩
    · exact .inr ⟨e, rfl⟩

theorem WrapStaged.finishTask (h : P .endCb p) : Q (p.finishTask t) := by
  unfold Pool.finishTask
  split
  · rename_i hn; exact k.gone _ p hn h
  · exact k.finish p _ h

theorem WrapStaged.moveToEnded (h : P .run p) (q : Pool) (e : p.moveToEnded t = some q) : P .ended q ∧ q.tasks = p.tasks := by
  unfold Pool.moveToEnded at e
  cases c1 : p.running.contains t with
  | true => rw [c1, if_pos rfl] at e; cases e; exact ⟨k.runToEnded p c1 h, rfl⟩
  | false =>
    rw [c1, if_neg Bool.false_ne_true] at e
    cases c2 : p.cancelledR.contains t with
    | true => rw [c2, if_pos rfl] at e; cases e; exact ⟨k.canToEnded p c2 h, rfl⟩
    | false => rw [c2, if_neg Bool.false_ne_true] at e; cases e

/-- `tk'`: the record of `t` as it is now; `tk`: the one the wrapper read when it entered `_task_ending` -/
theorem WrapStaged.releaseMapSlot (h : P .ended p) (tk tk' : PTask) (ht : p.tasks[t]? = some tk') (hm : tk'.isMap = tk.isMap) :
    P .endCb (p.releaseMapSlot t tk) :=
  dite_keeps (fun _ => k.unhold _ (k.releaseMap p _ h))
    fun c => k.noMap p tk' ht (hm.trans (Bool.eq_false_iff.mpr c)) h

theorem WrapStaged.endCallback (h : P .ended p) (tk tk' : PTask) (ht : p.tasks[t]? = some tk') (hm : tk'.isMap = tk.isMap) :
    Q (p.endCallback t tk) :=
  have h1 := k.runCb (k.releaseMapSlot h tk tk' ht hm) tk true (.inr ⟨rfl, rfl⟩)
  dite_keeps h1.1 fun c => k.finishTask (h1.2 (Bool.eq_false_iff.mpr c))

theorem WrapStaged.endingTail (h : P .ended p) (tk : PTask) (ht : p.tasks[t]? = some tk) : Q (p.endingTail t tk) :=
  k.endCallback (k.mod (k.releasePool p h) _) tk { tk with released := true }
    ((getElem?_modify_of ((congrArg (·[t]?) (releasePool_tasks p)).trans ht) t _).trans (congrArg some (if_pos rfl))) rfl

theorem WrapStaged.keyErrorFinish (h : P .run p) : Q (p.keyErrorFinish t) := by
  have h1 := k.mod (k.toLost p h) fun x => { x with pendingExc := some .keyError }
  unfold Pool.keyErrorFinish Pool.finishTask
  split
  · rename_i e; exact k.gone _ _ e h1
  · exact k.finishLost _ _ h1

theorem WrapStaged.taskEnding (h : P .run p) : Q (p.taskEnding t) := by
  unfold Pool.taskEnding
  split
  · rename_i hn; exact k.gone _ p hn h
  · rename_i tk htk
    split
    · exact k.keyErrorFinish h
    · rename_i p1 e
      have m := k.moveToEnded h p1 e
      exact k.endingTail m.1 tk ((congrArg (·[t]?) m.2).trans htk)

theorem WrapStaged.cancelCallback (h : P .run p) (tk : PTask) : Q (p.cancelCallback t tk) :=
  have h1 := k.runCb h tk false (.inl ⟨rfl, rfl⟩)
  dite_keeps h1.1 fun c => k.taskEnding (h1.2 (Bool.eq_false_iff.mpr c))

theorem WrapStaged.taskCancellation (h : P .run p) (tk : PTask) : Q (p.taskCancellation t tk) :=
  dite_keeps (fun c => k.cancelCallback (k.mod (k.runToCan p c h) _) tk) fun _ => k.taskEnding (k.mod (k.lost p h) _)

theorem WrapStaged.afterWorker (h : P .run p) (e : Option Err) : Q (p.afterWorker t e) := by
  cases e
  · exact k.taskEnding (k.modUp (k.logEv _ p _ h) _)
  · exact k.taskEnding (k.modUp (k.logEv _ p _ h) _)

theorem WrapStaged.stepCreated (h : P .run p) (tk : PTask) : Q (p.stepCreated t tk) := by
  refine ite_keeps (k.taskCancellation (k.modUp h _) tk) ?_
  have h1 := k.runHooks _ _ tk.req (p.reqOf tk).hooks.start (k.adm _ p h tk).1 (k.mod (k.logEv _ p (.started t tk.arg) h)
    (fun x => { x with phase := .inWorker, fut := .ok, unstarted := false })
    fun _ => ⟨⟨rfl, rfl, rfl, rfl, rfl⟩, .inr (.inr (.inl rfl)), id, id⟩)
  dsimp only
  split
  · exact k.afterWorker h1 _
  · exact k.afterWorker h1 _
  · exact k.suspend _ _ _ (.inl ⟨rfl, .inl rfl⟩) (k.mod h1 _)

theorem WrapStaged.workerCancelled (h : P .run p) (tk : PTask) : Q (p.workerCancelled t tk) :=
  have h1 := k.modUp (k.logEv _ p (.sawCancel t) h) fun x => { x with sawCancel := true, phase := .wrapUp, nSaw := x.nSaw + 1 }
  ite_keeps (k.suspend _ _ _ (.inl ⟨rfl, .inl rfl⟩) (k.mod (k.logEv _ p _ h) _))
    (ite_keeps (k.afterWorker h1 _) (k.taskCancellation h1 tk))

theorem WrapStaged.workerNext (h : P .run p) (tk : PTask) : Q (p.workerNext t tk) :=
  k.suspend _ _ _ (.inl ⟨rfl, .inl rfl⟩) (k.runHooks _ _ _ _ (k.adm _ p h tk).2.2.2 (k.mod (k.logEv _ p _ h) _))

/-- `hq`: the future the worker awaits is still pending -/
theorem WrapStaged.stepInWorker (h : P .run p) (tk : PTask) (hq : tk.fut = .pending → Q p) : Q (p.stepInWorker t tk) := by
  refine dite_keeps (fun _ => k.workerCancelled (k.mod h _) tk) fun c => ?_
  split
  · exact ite_keeps (k.workerNext h tk) (k.afterWorker h _)
  · exact k.afterWorker h _
  · rename_i h1 h2
    refine hq ?_
    cases hf : tk.fut with
    | pending => rfl
    | ok => exact absurd hf h1
    | exc e => exact absurd hf (h2 e)
    | cancelled => rw [hf] at c; exact absurd rfl c

theorem WrapStaged.stepInCancelCb (h : P .run p) (tk : PTask) (hq : tk.fut = .pending → Q p) : Q (p.stepInCancelCb t tk) := by
  unfold Pool.stepInCancelCb
  split
  · exact k.taskEnding (k.modUp (k.logEv _ p _ h) _)
  · exact k.taskEnding (k.modUp (k.logEv _ p _ h) _)
  · exact k.taskEnding (k.modUp (k.logEv _ p _ h) _)
  · rename_i hf; exact hq hf

theorem WrapStaged.stepInEndCb (h : P .endCb p) (tk : PTask) (hq : tk.fut = .pending → Q p) : Q (p.stepInEndCb t tk) := by
  unfold Pool.stepInEndCb
  split
  · exact k.finishTask (k.logEv _ p _ h)
  · exact k.finishTask (k.mod (k.logEv _ p _ h) _)
  · exact k.finishTask (k.mod (k.logEv _ p _ h) _)
  · rename_i hf; exact hq hf

/-- one step of the wrapper of pool task `t`.  `h` serves the handle that finds no flag to clear, `h1` the phases
`wrapUp` and `finished`, in which the step only clears the scheduling flag; a task inside its end callback enters at
stage `endCb` (`he`), any other at stage `run` (`hr`); `hq` serves the handle that finds its future still pending -/
theorem WrapStaged.stepTask (h : (∀ tk, p.tasks[t]? = some tk → tk.sched = false) → Q p)
    (h1 : ∀ tk, p.tasks[t]? = some tk → tk.phase = .wrapUp ∨ tk.phase = .finished →
      Q (p.modTask t fun x => { x with sched := false }))
    (hr : ∀ tk, p.tasks[t]? = some tk → tk.phase = .created ∨ tk.phase = .inWorker ∨ tk.phase = .inCancelCb →
      P .run (p.modTask t fun x => { x with sched := false }))
    (he : ∀ tk, p.tasks[t]? = some tk → tk.phase = .inEndCb → P .endCb (p.modTask t fun x => { x with sched := false }))
    (hq : ∀ tk, p.tasks[t]? = some tk → Susp tk.phase → tk.fut = .pending → Q (p.modTask t fun x => { x with sched := false })) :
    Q (p.stepTask t) := by
  unfold Pool.stepTask
  split
  · rename_i e; exact h fun _ a => nomatch e.symm.trans a
  · rename_i tk htk
    split
    · rename_i c; exact h fun _ a => Option.some.inj (htk.symm.trans a) ▸ (Bool.not_eq_true' _).mp c
    dsimp only
    split
    · rename_i e; exact k.stepCreated (hr tk htk (.inl e)) tk
    · rename_i e; exact h1 tk htk (.inl e)
    · rename_i e; exact k.stepInWorker (hr tk htk (.inr (.inl e))) tk (hq tk htk (.inl e))
    · rename_i e; exact k.stepInCancelCb (hr tk htk (.inr (.inr e))) tk (hq tk htk (.inr (.inl e)))
    · rename_i e; exact k.stepInEndCb (he tk htk e) tk (hq tk htk (.inr (.inr e)))
    · rename_i e; exact h1 tk htk (.inr e)

end

structure WrapKept (P Q : Pool → Prop) (A : List HookOp → Prop) (t : Nat) : Prop where
  weaken : ∀ p, P p → Q p
  modTask : ∀ p f, (∀ x, SameTask (f x) x) → (∀ x, (f x).sched = true → x.sched = true) → P p → P (p.modTask t f)
  schedTask : ∀ p, P p → P (p.schedTask t)
  logEv : ∀ p e, P p → P (p.logEv e)
  runHooks : ∀ p ctx hs, A hs → P p → P (p.runHooks ctx hs)
  adm : ∀ p, P p → ∀ tk : PTask, A (p.reqOf tk).hooks.start ∧ A (p.reqOf tk).hooks.endCb ∧
    A (p.reqOf tk).hooks.cancelCb ∧ A (p.reqOf tk).hooks.next
  lost : ∀ (p : Pool), P p → P { p with lost := true }
  runToEnded : ∀ (p : Pool), p.running.contains t = true → P p → P { p with running := p.running.erase t, ended := p.ended ++ [t] }
  canToEnded : ∀ (p : Pool), p.cancelledR.contains t = true → P p → P { p with cancelledR := p.cancelledR.erase t, ended := p.ended ++ [t] }
  runToCan : ∀ (p : Pool), p.running.contains t = true → P p → P { p with running := p.running.erase t, cancelledR := p.cancelledR ++ [t] }
  releasePool : ∀ p, P p → P p.releasePool
  releaseMap : ∀ p m, P p → P (p.releaseMap m)
  completeTask : ∀ p o, P p → Q (p.completeTask t o)

section
variable {P Q : Pool → Prop} {A : List HookOp → Prop} {t : Nat} (k : WrapKept P Q A t) {p : Pool}
include k

theorem WrapKept.mod (h : P p) (f : PTask → PTask)
    (hf : ∀ x, SameTask (f x) x := by exact fun _ => ⟨rfl, rfl, rfl, rfl, rfl⟩)
    (hs : ∀ x, (f x).sched = true → x.sched = true := by exact fun _ a => a) : P (p.modTask t f) := k.modTask p f hf hs h

theorem WrapKept.staged : WrapStaged (fun _ => P) Q A t :=
  WrapBody.ofWeaken
    { modTask := fun _ p f hw h => k.modTask p f (fun x => (hw x).toSameTask) (fun x => (hw x).sc) h
      logEv := fun _ => k.logEv
      runHooks := fun _ => k.runHooks
      adm := fun _ => k.adm
      lost := k.lost
      toLost := k.lost
      runToCan := k.runToCan
      runToEnded := k.runToEnded
      canToEnded := k.canToEnded
      releasePool := k.releasePool
      releaseMap := k.releaseMap
      unhold := fun _ h => k.mod h _
      noMap := fun _ _ _ _ h => h }
    (fun _ => k.weaken) (fun _ => k.schedTask) k.completeTask k.completeTask

/-- `P`, not `Q`: the worker goes on to its next `await`, and for the pool the task is running as before.
`WrapStaged.suspend` yields `Q` only (`ofWeaken` weakens after the suspension), so `suspendTask` is unfolded once more -/
theorem WrapKept.workerNext (h : P p) (tk : PTask) : P (p.workerNext t tk) := by
  have h1 := k.runHooks _ tk.req _ (k.adm p h tk).2.2.2 (k.mod (k.logEv p (.next t) h) fun x => { x with awaitsLeft := x.awaitsLeft - 1 })
  unfold Pool.workerNext Pool.suspendTask
  split
  · exact h1
  · exact ite_keeps (k.schedTask _ (k.mod h1 _)) (k.mod h1 _)

/-- one step of the wrapper of pool task `t`: `h1` serves the phases `.wrapUp` and `.finished`, in which the step only
clears the scheduling flag, `hl` the others -/
theorem WrapKept.stepTask (h : (∀ tk, p.tasks[t]? = some tk → tk.sched = false) → Q p)
    (h1 : Q (p.modTask t fun x => { x with sched := false }))
    (hl : ∀ tk, p.tasks[t]? = some tk → tk.phase ≠ .finished → P (p.modTask t fun x => { x with sched := false })) :
    Q (p.stepTask t) :=
  have ne : ∀ {tk : PTask}, Susp tk.phase ∨ tk.phase = .created → tk.phase ≠ .finished := fun c e =>
    c.elim (fun c => c.elim (nomatch e.symm.trans ·) (·.elim (nomatch e.symm.trans ·) (nomatch e.symm.trans ·)))
      (nomatch e.symm.trans ·)
  k.staged.stepTask h (fun _ _ _ => h1)
    (fun tk htk c => hl tk htk (ne (c.elim .inr fun c => .inl (c.elim .inl fun c => .inr (.inl c)))))
    (fun tk htk c => hl tk htk (ne (.inl (.inr (.inr c)))))
    fun tk htk c _ => k.weaken _ (hl tk htk (ne (.inl c)))

end

/-- `P` reads no task record: besides the changes of `SyncKept` it is kept by any rewrite of a task, by queueing a
handle, by the three registry moves of the wrapper, by the two `release()` calls and by the ghost `lost`; and it
knows that stored user code calls `unlock()` only if `U`.  Such a predicate is kept by the whole wrapper of a pool
task (`TaskBlind.stepTask`) and by the environment completing a future. -/
structure TaskBlind (P : Pool → Prop) (S : SpawnSpec → Prop) (U : Prop) : Prop extends SyncKept P S U where
  modTask : ∀ p t f, P p → P (p.modTask t f)
  emitRef : ∀ p r, P p → P (p.emitRef r)
  lost : ∀ (p : Pool), P p → P { p with lost := true }
  /-- `_tasks_ended[id] = _tasks_running.pop(id)` -/
  runToEnded : ∀ (p : Pool) t, p.running.contains t = true →
    P p → P { p with running := p.running.erase t, ended := p.ended ++ [t] }
  /-- `_tasks_ended[id] = _tasks_cancelled.pop(id)` -/
  canToEnded : ∀ (p : Pool) t, p.cancelledR.contains t = true →
    P p → P { p with cancelledR := p.cancelledR.erase t, ended := p.ended ++ [t] }
  /-- `_tasks_cancelled[id] = _tasks_running.pop(id)` -/
  runToCan : ∀ (p : Pool) t, p.running.contains t = true →
    P p → P { p with running := p.running.erase t, cancelledR := p.cancelledR ++ [t] }
  releasePool : ∀ p, P p → P p.releasePool
  releaseMap : ∀ p m, P p → P (p.releaseMap m)
  gated : S gatedSpec
  /-- stored user code calls `unlock()` only if `U`; with `A hs := HookOp.unlock ∈ hs → U` this gives `WrapKept.adm` -/
  adm : ∀ (p : Pool), P p → ∀ (m : Nat) (r : Req), p.reqs[m]? = some r →
    HookOp.unlock ∈ r.hooks.start ++ r.hooks.endCb ++ r.hooks.cancelCb ++ r.hooks.next → U

variable {P : Pool → Prop} {p : Pool} {S : SpawnSpec → Prop} {U : Prop} (b : TaskBlind P S U)
include b

theorem TaskBlind.wrap (t : Nat) : WrapKept P P (fun hs => HookOp.unlock ∈ hs → U) t where
  weaken := fun _ h => h
  modTask := fun p f _ _ h => b.modTask p t f h
  schedTask := fun p h => b.emitRef _ _ (b.modTask p t _ h)
  logEv := b.logEv
  runHooks := fun _ ctx hs ha h => b.toSyncKept.runHooks h ctx hs ha b.gated
  adm := fun p h tk => by
    have key : ∀ o, o ∈ (p.reqOf tk).hooks.start ++ (p.reqOf tk).hooks.endCb ++ (p.reqOf tk).hooks.cancelCb ++
        (p.reqOf tk).hooks.next → o = .unlock → U := by
      unfold Pool.reqOf
      cases hr : p.reqs[tk.req]? with
      | none => exact fun _ hm => nomatch hm
      | some r => exact fun _ hm e => b.adm p h _ r hr (e ▸ hm)
    exact ⟨fun hm => key _ (List.mem_append_left _ (List.mem_append_left _ (List.mem_append_left _ hm))) rfl,
      fun hm => key _ (List.mem_append_left _ (List.mem_append_left _ (List.mem_append_right _ hm))) rfl,
      fun hm => key _ (List.mem_append_left _ (List.mem_append_right _ hm)) rfl,
      fun hm => key _ (List.mem_append_right _ hm) rfl⟩
  lost := b.lost
  runToEnded := fun p => b.runToEnded p t
  canToEnded := fun p => b.canToEnded p t
  runToCan := fun p => b.runToCan p t
  releasePool := b.releasePool
  releaseMap := b.releaseMap
  completeTask := fun p o h => by
    unfold Pool.completeTask
    split
    · exact h
    · exact foldl_keeps _ (fun q _ hq => b.emitRef q _ hq) _ _ (b.modTask p t _ h)

theorem TaskBlind.stepTask (h : P p) (t : Nat) : P (p.stepTask t) :=
  (b.wrap t).stepTask (fun _ => h) (b.modTask p t _ h) fun _ _ _ => b.modTask p t _ h

theorem TaskBlind.workerNext (h : P p) (t : Nat) (tk : PTask) : P (p.workerNext t tk) := (b.wrap t).workerNext h tk

/-- the environment completes the future a task awaits -/
theorem TaskBlind.doGate (h : P p) (t : Nat) (o : FutSt) : P (p.doGate t o).1 := by
  unfold Pool.doGate
  split
  · exact b.emitRef _ _ (b.modTask _ t _ (b.modTask p t _ h))
  · exact h

end Pool
end Taskpool
