import Taskpool.Inv.GatherCount
import Taskpool.Inv.Seal
/-! **Every spawner child of a completed exception-collecting gather has finished** — every pool of every reachable
world, and the state right after `gather_and_close()` has started its first gather.

The counting invariant `PInv` (`Inv/GatherInv.lean`) carries two clauses for this:

* `regS` — a child spawner is an existing request, and as long as it has not completed it carries the registration of
  its slot (the analogue of `reg` for child tasks);
* `cmp` — a gather with `return_exceptions=True` whose outer future has been completed has a complete count
  (`_done_callback` completes such a gather with the last count only; `gather()` completes it at once only when it has
  no children).

With the count an equality (`cnt`), a complete count leaves no slot outstanding: no registration of a slot of that
gather sits on a request without an outcome — so, by `regS`, every child spawner has one. -/
namespace Taskpool
namespace Pool

theorem PInv.spawnersWaited {R} {p : Pool} (h : PInv R p) : p.SpawnersWaited := by
  intro g G hG hre hout m hm
  obtain ⟨i, hi, him⟩ := List.getElem_of_mem hm
  have hc : G.children[i]? = some (.spawner m) := by rw [List.getElem?_eq_getElem hi, him]
  obtain ⟨r, hr, hreg⟩ := h.regS g G i m hG hc
  refine ⟨r, hr, ?_⟩
  cases hro : r.outcome with
  | some o => rfl
  | none =>
    exfalso
    have hcmp := h.cmp g G hG hre hout
    have := h.on.room hG (Nat.lt_of_lt_of_le (pot_ge_regS p m r hr hro (g, i) (hreg hro)) (Nat.le_add_left _ _))
    omega

end Pool

theorem World.spawnersWaited_run (base : Nat) (h : History) (i : Nat) (p : Pool)
    (hp : ((World.init base).run h).pools[i]? = some p) : p.SpawnersWaited :=
  ((World.ginv_run base h).inv i p hp).spawnersWaited

/-- the state right after `gather_and_close()` has started its first gather from a reachable pool (the handle's flag
cleared, the cancel orders observed) -/
theorem World.spawnersWaited_stage1 (base : Nat) (h : History) (i : Nat) (p : Pool)
    (hp : ((World.init base).run h).pools[i]? = some p) (orders : List (List Nat)) (a : Nat) (re : Bool) :
    ((({ p with orders := orders } : Pool).modApi a fun x => { x with sched := false }).gacStage1Pre a re).1.SpawnersWaited := by
  obtain ⟨_, _, cap, hgood⟩ := (World.reachable baseC_invariant base h fun x _ => admits_all x).get hp
  exact ((Pool.AInv.of_good ((World.ginv_run base h).inv i p hp) hgood orders).modApi a _ |>.gacStage1Pre
    (World.mcAll_run base h i p hp) a re).pinv.spawnersWaited

#print axioms World.spawnersWaited_run
#print axioms World.spawnersWaited_stage1

end Taskpool
