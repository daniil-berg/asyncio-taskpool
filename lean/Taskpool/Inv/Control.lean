import Taskpool.Model.Control
import Taskpool.Inv.Lists
/-! What C16/C17 use of the parser model: `distinctB` is `Nodup`, the dash renaming is injective on identifiers, flag
assignment, option lookup and abbreviation, what `scanOpts`, `walk` and `bindWords` do with each written form. -/
namespace Taskpool.Control

theorem distinctB_iff {α} [BEq α] [LawfulBEq α] (l : List α) : distinctB l = true ↔ l.Nodup := by
  induction l with
  | nil => simp [distinctB]
  | cons a l ih => simp [distinctB, List.nodup_cons, ih]

theorem dashChar_inj {c d : Char} (hc : c ≠ '-') (hd : d ≠ '-') (h : dashChar c = dashChar d) : c = d := by
  unfold dashChar at h
  split at h <;> split at h
  · simp_all
  · exact absurd h.symm hd
  · exact absurd h hc
  · exact h

theorem dash_inj_of_noDash {a b : Str} (ha : ∀ c ∈ a, c ≠ '-') (hb : ∀ c ∈ b, c ≠ '-') (h : dash a = dash b) :
    a = b := by
  induction a generalizing b with
  | nil => exact (List.map_eq_nil_iff.mp h.symm).symm
  | cons x a ih =>
    cases b with
    | nil => nomatch List.map_eq_nil_iff.mp h
    | cons y b =>
      unfold dash at h
      rw [List.map_cons, List.map_cons, List.cons.injEq] at h
      rw [dashChar_inj (ha x List.mem_cons_self) (hb y List.mem_cons_self) h.1,
        ih (fun c hc => ha c (List.mem_cons_of_mem _ hc)) (fun c hc => hb c (List.mem_cons_of_mem _ hc)) h.2]

theorem ident_noDash {a : Str} (h : isIdent a = true) : ∀ c ∈ a, c ≠ '-' := by
  intro c hc hd
  simp only [isIdent, Bool.and_eq_true, List.all_eq_true] at h
  exact absurd (hd ▸ h.2 c hc) (by decide)

theorem dash_inj {a b : Str} (ha : isIdent a = true) (hb : isIdent b = true) (h : dash a = dash b) : a = b :=
  dash_inj_of_noDash (ident_noDash ha) (ident_noDash hb) h

theorem nodup_map_dash {α} {f : α → Str} {l : List α} (hid : ∀ x ∈ l, isIdent (f x) = true) (hn : (l.map f).Nodup) :
    (l.map fun x => dash (f x)).Nodup :=
  List.pairwise_map.mpr ((List.pairwise_map.mp hn).imp_of_mem fun ha hb hne h => hne (dash_inj (hid _ ha) (hid _ hb) h))

theorem toUpper_ne_h (c : Char) : c.toUpper ≠ 'h' := by
  intro h
  unfold Char.toUpper at h
  split at h
  · next hc =>
    have := congrArg Char.toNat h
    have h1 := UInt32.le_iff_toNat_le.mp hc.1
    have h2 := UInt32.le_iff_toNat_le.mp hc.2
    unfold Char.toNat at this
    simp [UInt32.toNat_add] at this h1 h2
    omega
  · next hc => exact hc (h ▸ by decide)

theorem pickFlag_spec {used : List Char} {l f : Char} (h : pickFlag used l = some f) : f ≠ 'h' ∧ f ∉ used := by
  unfold pickFlag at h
  split at h
  · next hc => exact Option.some.inj h ▸ hc
  · split at h
    · next hc => exact Option.some.inj h ▸ ⟨toUpper_ne_h l, hc⟩
    · cases h

/-- the flag `assignFlags` gives `p` when the letters `used` are taken -/
def flagFor (used : List Char) (p : Param) : Option Char :=
  if p.isOpt then p.name.head?.bind (pickFlag used) else none

theorem assignFlags_cons (p : Param) (ps : List Param) (used : List Char) :
    assignFlags (p :: ps) used = (p, flagFor used p) :: assignFlags ps ((flagFor used p).toList ++ used) := by
  rw [assignFlags, flagFor]
  cases p.isOpt with
  | false => rfl
  | true =>
    cases p.name.head? with
    | none => rfl
    | some l =>
      rw [if_pos rfl, if_pos rfl, Option.bind_some]
      dsimp only
      cases pickFlag used l <;> rfl

theorem flagFor_spec {used : List Char} {p : Param} {f : Char} (h : flagFor used p = some f) : f ≠ 'h' ∧ f ∉ used := by
  unfold flagFor at h
  split at h
  · cases hl : p.name.head? with
    | none => rw [hl] at h; cases h
    | some l => rw [hl] at h; exact pickFlag_spec h
  · cases h

def flagsOf (l : List (Param × Option Char)) : List Char := l.filterMap (·.2)

theorem assignFlags_spec (ps : List Param) (used : List Char) :
    (∀ f ∈ flagsOf (assignFlags ps used), f ≠ 'h' ∧ f ∉ used) ∧ (flagsOf (assignFlags ps used)).Nodup := by
  induction ps generalizing used with
  | nil => exact ⟨nofun, List.nodup_nil⟩
  | cons p ps ih =>
    rw [assignFlags_cons, flagsOf, List.filterMap_cons]
    cases hf : flagFor used p with
    | none => exact ih _
    | some f =>
      have ih := ih (f :: used)
      refine ⟨fun g hg => ?_, List.nodup_cons.mpr ⟨fun hm => (ih.1 f hm).2 List.mem_cons_self, ih.2⟩⟩
      rcases List.mem_cons.mp hg with rfl | hg
      · exact flagFor_spec hf
      · exact ⟨(ih.1 g hg).1, fun hu => (ih.1 g hg).2 (List.mem_cons_of_mem _ hu)⟩

theorem assignFlags_fst (ps : List Param) (used : List Char) : (assignFlags ps used).map (·.1) = ps := by
  induction ps generalizing used with
  | nil => rfl
  | cons p ps ih => rw [assignFlags_cons, List.map_cons, ih]

theorem paramOpts_shorts_aux (ps : List Param) (used : List Char) :
    ((assignFlags ps used).filterMap paramOpt).filterMap (·.short) = flagsOf (assignFlags ps used) := by
  induction ps generalizing used with
  | nil => rfl
  | cons p ps ih =>
    rw [assignFlags_cons, flagsOf, List.filterMap_cons, List.filterMap_cons, ← flagsOf, ← ih]
    unfold paramOpt flagFor
    cases p.isOpt with
    | false => rfl
    | true => cases p.name.head?.bind (pickFlag used) <;> rfl

theorem paramOpts_shorts (ps : List Param) : (paramOpts ps).filterMap (·.short) = flagsOf (assignFlags ps []) :=
  paramOpts_shorts_aux ps []

theorem paramOpts_longs_aux (l : List (Param × Option Char)) :
    (l.filterMap paramOpt).map (·.long) = ((l.map (·.1)).filter Param.isOpt).map (fun p => dash p.name) := by
  induction l with
  | nil => rfl
  | cons pf l ih =>
    rw [List.filterMap_cons, List.map_cons, List.filter_cons, paramOpt]
    cases pf.1.isOpt with
    | false => exact ih
    | true => exact congrArg _ ih

theorem paramOpts_longs (ps : List Param) :
    (paramOpts ps).map (·.long) = (ps.filter Param.isOpt).map (fun p => dash p.name) := by
  unfold paramOpts
  rw [paramOpts_longs_aux, assignFlags_fst]

theorem optsOk_optTable {ps : List Param} (h : paramsOk ps = true) : optsOk (optTable ps) = true := by
  simp only [paramsOk, Bool.and_eq_true, List.all_eq_true] at h
  obtain ⟨⟨⟨⟨hid, hdis⟩, hhelp⟩, _⟩, _⟩ := h
  have hdis := (distinctB_iff _).mp hdis
  simp only [optsOk, Bool.and_eq_true, distinctB_iff]
  constructor
  · simp only [optTable, List.filterMap_cons, helpOpt, paramOpts_shorts]
    have sp := assignFlags_spec ps []
    rw [List.nodup_cons]
    exact ⟨fun hm => (sp.1 'h' hm).1 rfl, sp.2⟩
  · simp only [optTable, List.map_cons, helpOpt, paramOpts_longs]
    rw [List.nodup_cons]
    constructor
    · intro hm
      obtain ⟨p, hp, hpn⟩ := List.mem_map.mp hm
      have hp' := List.mem_filter.mp hp
      have := hhelp p hp'.1
      simp [hp'.2, hpn] at this
    · exact nodup_map_dash (fun p hp => hid p (List.mem_filter.mp hp).1)
        (List.Nodup.sublist (List.Sublist.map _ List.filter_sublist) hdis)

theorem findShort_of_mem {tbl : List OptSpec} (hok : optsOk tbl = true) {o : OptSpec} (ho : o ∈ tbl) {f : Char}
    (hf : o.short = some f) : findShort tbl f = some o := by
  simp only [optsOk, Bool.and_eq_true, distinctB_iff] at hok
  apply find?_unique ho (by simp [hf])
  intro x hx hq
  exact nodup_filterMap_inj hok.1 x hx o ho f (by simpa using hq) hf

/-- in a list whose keys are pairwise different, looking up the key of an entry finds that entry -/
theorem find?_key {α β} [BEq β] [LawfulBEq β] {f : α → β} {l : List α} (hn : (l.map f).Nodup) {o : α} (ho : o ∈ l) :
    l.find? (fun x => f x == f o) = some o :=
  find?_unique ho (beq_self_eq_true _) fun x hx hq => nodup_map_inj hn x hx o ho (eq_of_beq hq)

theorem findLong_of_mem {tbl : List OptSpec} (hok : optsOk tbl = true) {o : OptSpec} (ho : o ∈ tbl) :
    findLong tbl o.long = some o := by
  simp only [optsOk, Bool.and_eq_true, distinctB_iff] at hok
  exact find?_key hok.2 ho

def specOf (p : Param) (f : Option Char) : OptSpec := { param := some p, short := f, long := dash p.name }

theorem spec_mem {ps : List Param} {p : Param} {f : Option Char} (h : (p, f) ∈ assignFlags ps []) (hp : p.isOpt = true) :
    specOf p f ∈ optTable ps := by
  simp only [optTable, List.mem_cons]
  right
  exact List.mem_filterMap.mpr ⟨(p, f), h, by simp [paramOpt, hp, specOf]⟩

theorem exists_flag {ps : List Param} {p : Param} (h : p ∈ ps) : ∃ f, (p, f) ∈ assignFlags ps [] := by
  have := assignFlags_fst ps []
  rw [← this] at h
  obtain ⟨pf, hpf, rfl⟩ := List.mem_map.mp h
  exact ⟨pf.2, hpf⟩

theorem longMatches_unique {tbl : List OptSpec} (hnd : (tbl.map (·.long)).Nodup) {o : OptSpec} (ho : o ∈ tbl) {n : Str}
    (hn : n <+: o.long) (hu : ∀ x ∈ tbl, n <+: x.long → x.long = o.long) : longMatches tbl n = [o] := by
  induction tbl with
  | nil => nomatch ho
  | cons b tbl ih =>
    rw [List.map_cons, List.nodup_cons] at hnd
    have hrest : ∀ x ∈ tbl, n <+: x.long → x.long = o.long := fun x hx => hu x (List.mem_cons_of_mem _ hx)
    rw [longMatches, List.filter_cons]
    rcases List.mem_cons.mp ho with rfl | ho'
    · rw [if_pos (List.isPrefixOf_iff_prefix.mpr hn), List.filter_eq_nil_iff.mpr fun x hx hq =>
        hnd.1 (List.mem_map.mpr ⟨x, hx, hrest x hx (List.isPrefixOf_iff_prefix.mp hq)⟩)]
    · rw [if_neg fun hq => hnd.1 (List.mem_map.mpr ⟨o, ho', (hu b List.mem_cons_self (List.isPrefixOf_iff_prefix.mp hq)).symm⟩)]
      exact ih hnd.2 ho' hrest

theorem resolveLong_of_abbrev {tbl : List OptSpec} (hok : optsOk tbl = true) {o : OptSpec} (ho : o ∈ tbl) {n : Str}
    (hn : n <+: o.long) (hu : ∀ x ∈ tbl, n <+: x.long → x.long = o.long) : resolveLong tbl n = .one o := by
  have hok' := hok
  simp only [optsOk, Bool.and_eq_true, distinctB_iff] at hok'
  unfold resolveLong
  cases hf : findLong tbl n with
  | some x =>
    have hx := List.mem_of_find?_eq_some hf
    have hq : x.long = n := by simpa using List.find?_some hf
    have := hu x hx (hq ▸ List.prefix_refl _)
    simp [nodup_map_inj hok'.2 x hx o ho this]
  | none => simp [longMatches_unique hok'.2 ho hn hu]

theorem resolveLong_exact {tbl : List OptSpec} (hok : optsOk tbl = true) {o : OptSpec} (ho : o ∈ tbl) :
    resolveLong tbl o.long = .one o := by
  simp [resolveLong, findLong_of_mem hok ho]

theorem dash_ne_nil {n : Str} (h : isIdent n = true) : dash n ≠ [] := by
  cases n with
  | nil => simp [isIdent] at h
  | cons a l => simp [dash]

theorem paramsOk_ident {ps : List Param} (h : paramsOk ps = true) {p : Param} (hp : p ∈ ps) : isIdent p.name = true := by
  simp only [paramsOk, Bool.and_eq_true, List.all_eq_true] at h
  exact h.1.1.1.1 p hp

def addOpts (st : PState) (cs : List Choice) : PState := cs.foldl (fun st c => st.addOpt c.p.name c.val) st

theorem resolve_choice {ps : List Param} (hok : paramsOk ps = true) {c : Choice} (hc : c.ok ps) :
    c.longName ≠ [] ∧ ∃ f, resolveLong (optTable ps) c.longName = .one (specOf c.p f) := by
  obtain ⟨hmem, hopt, _, _, habbr, _⟩ := hc
  have hT := optsOk_optTable hok
  obtain ⟨f, hf⟩ := exists_flag hmem
  have hsp := spec_mem hf hopt
  rw [Choice.longName]
  cases ha : c.abbr with
  | none => exact ⟨dash_ne_nil (paramsOk_ident hok hmem), f, resolveLong_exact hT hsp⟩
  | some n =>
    obtain ⟨hne, hpre, hu⟩ := habbr n ha
    exact ⟨hne, f, resolveLong_of_abbrev hT hsp hpre hu⟩

theorem scanOpts_long_cons {me : Str} {tbl : List OptSpec} {n : Str} (hn : n ≠ []) (rest : List Tok) (st : PState) :
    scanOpts me tbl (.long n :: rest) st =
      match resolveLong tbl n with
      | .unknown => scanOpts me tbl rest { st with extras := true }
      | .ambiguous => .stop (some (.error .ambiguous))
      | .one o =>
        match o.param with
        | none => .stop (some (.help (some me)))
        | some p =>
          if p.kind = .flag then scanOpts me tbl rest (st.addOpt p.name (.flag true))
          else match rest with
            | .word v :: rest' =>
              match convert p.conv v with
              | none => .stop (some (.error .badValue))
              | some a => scanOpts me tbl rest' (st.addOpt p.name (.one a))
            | _ => .stop (some (.error .needsValue)) := by
  cases n with
  | nil => exact absurd rfl hn
  | cons a l => rw [scanOpts] <;> first | rfl | (intro h; cases h)

theorem valued_specOf (p : Param) (f : Option Char) : (specOf p f).valued = if p.kind = .flag then none else some p := rfl

theorem walk_valued {o : OptSpec} {p : Param} (h : o.valued = some p) (tbl : List OptSpec)
    (more : List (Char × Option Word)) (arg : Option Word) (acc : List OptSpec) :
    walk tbl more o arg acc = .done acc (some (p, arg)) := by
  rw [walk.eq_def]
  simp only [h]

theorem walk_end {o : OptSpec} (h : o.valued = none) (tbl : List OptSpec) (more : List (Char × Option Word))
    (acc : List OptSpec) : walk tbl more o none acc = .done (acc ++ [o]) none := by
  rw [walk.eq_def]
  simp only [h]

theorem walk_step {tbl : List OptSpec} {o o' : OptSpec} (ho : o.valued = none) {c : Char} (hf : findShort tbl c = some o')
    (a : Option Word) (more : List (Char × Option Word)) (j : Word) (acc : List OptSpec) :
    walk tbl ((c, a) :: more) o (some j) acc = walk tbl more o' a (acc ++ [o]) := by
  rw [walk.eq_def]
  simp only [ho, hf]

/-- a string that names no option of the command, in any of the four forms an option can take -/
inductive Unknown (tbl : List OptSpec) : Tok → Prop
  | short {c : Char} : findShort tbl c = none → Unknown tbl (.short c)
  | long {n : Str} : n ≠ [] → resolveLong tbl n = .unknown → Unknown tbl (.long n)
  | eq {n : Str} {v : Word} : resolveLong tbl n = .unknown → Unknown tbl (.eq n v)
  | attached {c : Char} {e : Bool} {v : Word} {more : List (Char × Option Word)} :
      findShort tbl c = none → Unknown tbl (.attached c e v more)

/-- such a string is left over whole and the scan goes on (`unrecognized arguments`, if nothing else is wrong) -/
theorem scanOpts_unknown {me : Str} {tbl : List OptSpec} {t : Tok} (h : Unknown tbl t) (rest : List Tok) (st : PState) :
    scanOpts me tbl (t :: rest) st = scanOpts me tbl rest { st with extras := true } := by
  cases h with
  | short hf => simp only [scanOpts, hf]
  | long hn hr => rw [scanOpts_long_cons hn, hr]
  | eq hr => simp only [scanOpts, hr]
  | attached hf => simp only [scanOpts, hf]

/-- an option that takes no value is given one: `--flag=v`, `--help=v`; a single-dash string whose walk is refused,
at whatever letter -/
inductive Refused (tbl : List OptSpec) : Tok → Prop
  | eq {n : Str} {v : Word} {o : OptSpec} : resolveLong tbl n = .one o → o.valued = none → Refused tbl (.eq n v)
  | attached {c : Char} {e : Bool} {v : Word} {more : List (Char × Option Word)} {o : OptSpec} :
      findShort tbl c = some o → walk tbl more o (some v) [] = .refused → Refused tbl (.attached c e v more)

/-- `ignored explicit argument`: nothing behind the string is looked at, nothing of it takes effect -/
theorem scanOpts_refused {me : Str} {tbl : List OptSpec} {t : Tok} (h : Refused tbl t) (rest : List Tok) (st : PState) :
    scanOpts me tbl (t :: rest) st = .stop (some (.error .explicitArg)) := by
  cases h with
  | attached hf hw => simp only [scanOpts, hf, hw]
  | @eq n v o hr hno =>
    unfold OptSpec.valued at hno
    cases hp : o.param with
    | none => simp only [scanOpts, hr, hp]
    | some p =>
      rw [hp] at hno
      have hk : p.kind = .flag := Decidable.by_contra fun hk => nomatch (if_neg hk).symm.trans hno
      simp only [scanOpts, hr, hp, hk, if_true]

theorem walk_refused {tbl : List OptSpec} {o : OptSpec} (hno : o.valued = none) {more : List (Char × Option Word)}
    (hbad : more = [] ∨ ∃ c' a' more', more = (c', a') :: more' ∧ findShort tbl c' = none) (v : Word) (acc : List OptSpec) :
    walk tbl more o (some v) acc = .refused := by
  rw [walk.eq_def]
  rcases hbad with rfl | ⟨c', a', more', rfl, hf⟩
  · simp only [hno]
  · simp only [hno, hf]

section
variable {me : Str} {tbl : List OptSpec} {c : Char} {e : Bool} {v : Word} {more : List (Char × Option Word)} {o : OptSpec}
  {os : List OptSpec} (hf : findShort tbl c = some o) (hh : os.any OptSpec.isHelp = false)
include hf hh

theorem scanOpts_walk_flags (hw : walk tbl more o (some v) [] = .done os none) (rest : List Tok) (st : PState) :
    scanOpts me tbl (.attached c e v more :: rest) st = scanOpts me tbl rest (st.addFlags os) := by
  simp only [scanOpts, hf, hw, hh, Bool.false_eq_true, if_false]

theorem scanOpts_walk_glued {p : Param} {w : Word} {a : Atom} (hw : walk tbl more o (some v) [] = .done os (some (p, some w)))
    (hd : w.text ≠ dashdash) (hc : convert p.conv w = some a) (rest : List Tok) (st : PState) :
    scanOpts me tbl (.attached c e v more :: rest) st = scanOpts me tbl rest ((st.addFlags os).addOpt p.name (.one a)) := by
  simp only [scanOpts, hf, hw, hh, Bool.false_eq_true, if_false, hd, hc]

theorem scanOpts_walk_next {p : Param} {w : Word} {a : Atom} (hw : walk tbl more o (some v) [] = .done os (some (p, none)))
    (hc : convert p.conv w = some a) (rest : List Tok) (st : PState) :
    scanOpts me tbl (.attached c e v more :: .word w :: rest) st
      = scanOpts me tbl rest ((st.addFlags os).addOpt p.name (.one a)) := by
  simp only [scanOpts, hf, hw, hh, Bool.false_eq_true, if_false, hc]
end

theorem scanOpts_choice {ps : List Param} (hok : paramsOk ps = true) (me : Str) {c : Choice} (hc : c.ok ps)
    (rest : List Tok) (st : PState) :
    scanOpts me (optTable ps) (c.render ++ rest) st = scanOpts me (optTable ps) rest (st.addOpt c.p.name c.val) := by
  obtain ⟨hne, g, hres⟩ := resolve_choice hok hc
  obtain ⟨hmem, hopt, hshort, hconv, _, hdd, hgl⟩ := hc
  have hT := optsOk_optTable hok
  rw [Choice.render, Choice.val]
  by_cases hk : c.p.kind = .flag
  · rw [if_pos hk, if_pos hk, Choice.tok]
    cases hs : c.short with
    | some f =>
      have hfind := findShort_of_mem hT (spec_mem (hshort f hs) hopt) (f := f) rfl
      simp only [List.cons_append, List.nil_append, scanOpts, hfind, specOf, hk, if_true]
    | none =>
      rw [List.singleton_append, scanOpts_long_cons hne, hres]
      simp only [specOf, hk, if_true]
  · rw [if_neg hk, if_neg hk]
    cases hs : c.short with
    | some f =>
      have hfind := findShort_of_mem hT (spec_mem (hshort f hs) hopt) (f := f) rfl
      cases hg : c.glued with
      | none => simp only [List.cons_append, List.nil_append, scanOpts, hfind, specOf, hk, if_false, hconv hk]
      | some e =>
        exact scanOpts_walk_glued hfind rfl (walk_valued ((valued_specOf c.p (some f)).trans (if_neg hk)) ..)
          (hgl (by rw [hg]; rfl)) (hconv hk) rest st
    | none =>
      cases he : c.eq with
      | true => simp only [if_true, List.cons_append, List.nil_append, scanOpts, hres, specOf, hk, if_false, hconv hk, hdd he]
      | false =>
        rw [if_neg Bool.false_ne_true, List.cons_append, List.singleton_append, scanOpts_long_cons hne, hres]
        simp only [specOf, hk, if_false, hconv hk]
theorem addOpts_append (st : PState) (a b : List Choice) : addOpts st (a ++ b) = addOpts (addOpts st a) b :=
  List.foldl_append

theorem ok_find {ps : List Param} (hok : paramsOk ps = true) {c : Choice} (hc : c.ok ps) (hs : c.short.isSome = true) :
    findShort (optTable ps) c.letter = some (specOf c.p (some c.letter)) := by
  obtain ⟨_, hopt, hshort, _⟩ := hc
  cases hl : c.short with
  | none => rw [hl] at hs; cases hs
  | some l =>
    have : c.letter = l := by rw [Choice.letter, hl]; rfl
    rw [this]
    exact findShort_of_mem (optsOk_optTable hok) (spec_mem (hshort l hl) hopt) rfl

def flagSpecs (cs : List Choice) : List OptSpec := cs.map fun c => specOf c.p (some c.letter)

/-- the walk over the flags of a cluster arrives at its last letter with all of them noted -/
theorem walk_flags {ps : List Param} (hok : paramsOk ps = true) (lc : Char) (la : Option Word) (oc : OptSpec)
    (hlast : findShort (optTable ps) lc = some oc) (tail : List (Char × Option Word)) (fs : List (Choice × Word))
    (hfs : ∀ x ∈ fs, x.1.okFlag ps) (o : OptSpec) (ho : o.valued = none) (j : Word) (acc : List OptSpec) :
    walk (optTable ps) (fs.map (fun x => (x.1.letter, some x.2)) ++ ((lc, la) :: tail)) o (some j) acc
      = walk (optTable ps) tail oc la (acc ++ o :: flagSpecs (fs.map (·.1))) := by
  induction fs generalizing o j acc with
  | nil => exact walk_step ho hlast la tail j acc
  | cons x fs ih =>
    have hx := hfs x List.mem_cons_self
    have hvx : (specOf x.1.p (some x.1.letter)).valued = none := if_pos hx.2.1
    rw [List.map_cons, List.cons_append, walk_step ho (ok_find hok hx.1 hx.2.2),
      ih (fun y hy => hfs y (List.mem_cons_of_mem _ hy)) _ hvx x.2 (acc ++ [o]), List.append_assoc]
    rfl

theorem addFlags_specs (cs : List Choice) (h : ∀ c ∈ cs, c.p.kind = .flag) (st : PState) :
    st.addFlags (flagSpecs cs) = addOpts st cs := by
  induction cs generalizing st with
  | nil => rfl
  | cons c cs ih =>
    have hv : c.val = .flag true := if_pos (h c List.mem_cons_self)
    rw [addOpts, List.foldl_cons, hv]
    exact ih (fun x hx => h x (List.mem_cons_of_mem _ hx)) (st.addOpt c.p.name (.flag true))

theorem flagSpecs_noHelp (cs : List Choice) : (flagSpecs cs).any OptSpec.isHelp = false :=
  List.any_eq_false.mpr fun o ho => by
    obtain ⟨c, _, rfl⟩ := List.mem_map.mp ho
    exact Bool.false_ne_true

theorem scanOpts_item {ps : List Param} (hok : paramsOk ps = true) (me : Str) {it : Item} (hit : it.ok ps)
    (rest : List Tok) (st : PState) :
    scanOpts me (optTable ps) (it.render ++ rest) st = scanOpts me (optTable ps) rest (addOpts st it.choices) := by
  cases it with
  | one c => exact scanOpts_choice hok me hit rest st
  | cluster f jf fs c =>
    obtain ⟨hf, hfs, hc, hcs⟩ := hit
    have hff := ok_find hok hf.1 hf.2.2
    have hflags : ∀ x ∈ f :: fs.map (·.1), x.p.kind = .flag :=
      List.forall_mem_cons.mpr ⟨hf.2.1, List.forall_mem_map.mpr fun y hy => (hfs y hy).2.1⟩
    have hw : _ = walk (optTable ps) c.tail _ c.lastArg (flagSpecs (f :: fs.map (·.1))) :=
      walk_flags hok c.letter c.lastArg _ (ok_find hok hc hcs) c.tail fs hfs (specOf f.p (some f.letter)) (if_pos hf.2.1) jf []
    obtain ⟨_, _, _, hconv, _, _, hgl⟩ := hc
    have hadd : (st.addFlags (flagSpecs (f :: fs.map (·.1)))).addOpt c.p.name c.val
        = addOpts st (f :: (fs.map (·.1) ++ [c])) := by
      rw [addFlags_specs _ hflags, ← List.cons_append, addOpts_append]
      rfl
    rw [Item.render, Item.choices, ← hadd]
    by_cases hk : c.p.kind = .flag
    · have hla : c.lastArg = none := if_pos hk
      have hv : c.val = .flag true := if_pos hk
      rw [hla, walk_end ((valued_specOf _ _).trans (if_pos hk))] at hw
      rw [hla, hv, if_pos (Or.inl hk)]
      exact (scanOpts_walk_flags hff (by rw [List.any_append, flagSpecs_noHelp]; rfl) hw rest st).trans
        (congrArg _ List.foldl_append)
    · have hv : c.val = .one c.a := if_neg hk
      rw [walk_valued ((valued_specOf _ _).trans (if_neg hk))] at hw
      rw [hv]
      cases hg : c.glued with
      | some e =>
        have hla : c.lastArg = some c.w := by rw [Choice.lastArg, if_neg hk, hg]; rfl
        rw [hla] at hw
        rw [hla, if_pos (Or.inr (Option.isSome_some ..))]
        exact scanOpts_walk_glued hff (flagSpecs_noHelp _) hw (hgl (by rw [hg]; rfl)) (hconv hk) rest st
      | none =>
        have hla : c.lastArg = none := by rw [Choice.lastArg, if_neg hk, hg]; rfl
        rw [hla] at hw
        rw [hla, if_neg (not_or.mpr ⟨hk, ne_true_of_eq_false (Option.isSome_none ..)⟩)]
        exact scanOpts_walk_next hff (flagSpecs_noHelp _) hw (hconv hk) rest st

theorem scanOpts_renderItems {ps : List Param} (hok : paramsOk ps = true) (me : Str) (l : List Item)
    (h : ∀ it ∈ l, it.ok ps) (rest : List Tok) (st : PState) :
    scanOpts me (optTable ps) (renderItems l ++ rest) st = scanOpts me (optTable ps) rest (addOpts st (itemChoices l)) := by
  induction l generalizing st with
  | nil => rfl
  | cons it l ih =>
    have ih := ih (fun x hx => h x (List.mem_cons_of_mem _ hx)) (addOpts st it.choices)
    simp only [renderItems, itemChoices, List.flatMap_cons, List.append_assoc] at ih ⊢
    rw [scanOpts_item hok me (h it List.mem_cons_self), ih, addOpts_append]

theorem itemChoices_one (cs : List Choice) : itemChoices (cs.map Item.one) = cs := by
  induction cs with
  | nil => rfl
  | cons c cs ih =>
    simp only [itemChoices, List.map_cons, List.flatMap_cons, Item.choices] at ih ⊢
    rw [ih]; rfl

theorem renderItems_one (cs : List Choice) : renderItems (cs.map Item.one) = renderOpts cs := by
  induction cs with
  | nil => rfl
  | cons c cs ih =>
    simp only [renderItems, renderOpts, List.map_cons, List.flatMap_cons, Item.render] at ih ⊢
    rw [ih]

theorem scanOpts_render {ps : List Param} (hok : paramsOk ps = true) (me : Str) :
    ∀ (cs : List Choice), (∀ c ∈ cs, c.ok ps) → ∀ (rest : List Tok) (st : PState),
    scanOpts me (optTable ps) (renderOpts cs ++ rest) st = scanOpts me (optTable ps) rest (addOpts st cs) := by
  intro cs h rest st
  have := scanOpts_renderItems hok me (cs.map .one) (List.forall_mem_map.mpr h) rest st
  rwa [renderItems_one, itemChoices_one] at this

theorem addOpts_eq (cs : List Choice) (st : PState) : addOpts st cs = { st with opts := optEntries cs ++ st.opts } := by
  induction cs generalizing st with
  | nil => cases st; simp [addOpts, optEntries]
  | cons c cs ih =>
    have ih := ih (st.addOpt c.p.name c.val)
    simp only [addOpts, List.foldl_cons] at ih ⊢
    rw [ih]
    cases st
    simp [optEntries, PState.addOpt]

theorem bindWords_stop {r : List Tok} (st : PState) (h : startsRun r = false) : bindWords r st = .cont st r := by
  cases r with
  | nil => rfl
  | cons t r => cases t <;> first | rfl | exact Bool.noConfusion h

theorem bindWords_word_single {p : Param} {w : Word} {a : Atom} (hconv : convert p.conv w = some a)
    (hk : p.kind ≠ .varPositional) (rest : List Tok) (ps : List Param) (b : List (Str × ArgVal)) (sr : List Atom)
    (o : List (Str × ArgVal)) (e : Bool) :
    bindWords (.word w :: rest) ⟨p :: ps, b, sr, o, e⟩ = bindWords rest ⟨ps, b ++ [(p.name, .one a)], sr, o, e⟩ := by
  rw [bindWords]
  simp only [hconv, hk, if_false]

theorem bindWords_word_star {p : Param} {w : Word} {a : Atom} (hconv : convert p.conv w = some a)
    (hk : p.kind = .varPositional) (rest : List Tok) (ps : List Param) (b : List (Str × ArgVal)) (sr : List Atom)
    (o : List (Str × ArgVal)) (e : Bool) :
    bindWords (.word w :: rest) ⟨p :: ps, b, sr, o, e⟩ = bindWords rest ⟨p :: ps, b, sr ++ [a], o, e⟩ := by
  rw [bindWords]
  simp only [hconv, hk, if_true]

theorem bindWords_singles {singles : List Param} {pargs : List PosArg} (hf : posOk singles pargs)
    (hk : ∀ p ∈ singles, p.kind ≠ .varPositional) (tail : List Param) (r : List Tok) (b : List (Str × ArgVal))
    (sr : List Atom) (o : List (Str × ArgVal)) (e : Bool) :
    bindWords (renderPos pargs ++ r) ⟨singles ++ tail, b, sr, o, e⟩
      = bindWords r ⟨tail, b ++ (singles.zip pargs).map (fun x => (x.1.name, .one x.2.a)), sr, o, e⟩ := by
  induction singles generalizing pargs b with
  | nil =>
    cases pargs with
    | nil => rw [List.zip_nil_left, List.map_nil, List.append_nil b]; rfl
    | cons => exact hf.elim
  | cons p singles ih =>
    cases pargs with
    | nil => exact hf.elim
    | cons x pargs =>
      rw [List.zip_cons_cons, List.map_cons, List.append_cons, ← ih hf.2 fun q hq => hk q (List.mem_cons_of_mem _ hq)]
      exact bindWords_word_single hf.1 (hk p List.mem_cons_self) _ _ b sr o e

theorem bindWords_star {sp : Param} (hk : sp.kind = .varPositional) (sargs : List PosArg) (h : ∀ x ∈ sargs, x.ok sp)
    (r : List Tok) (b : List (Str × ArgVal)) (sr : List Atom) (o : List (Str × ArgVal)) (e : Bool) :
    bindWords (renderPos sargs ++ r) ⟨[sp], b, sr, o, e⟩ = bindWords r ⟨[sp], b, sr ++ sargs.map (·.a), o, e⟩ := by
  induction sargs generalizing sr with
  | nil => rw [List.map_nil, List.append_nil sr]; rfl
  | cons x sargs ih =>
    rw [List.map_cons, List.append_cons, ← ih fun y hy => h y (List.mem_cons_of_mem _ hy)]
    exact bindWords_word_star (h x List.mem_cons_self) hk _ _ b sr o e

theorem wf_names {ms : List Member} (h : wellFormed ms = true) : (ms.map (·.name)).Nodup := by
  simp only [wellFormed, Bool.and_eq_true] at h
  exact (distinctB_iff _).mp h.2

theorem wf_ident {ms : List Member} (h : wellFormed ms = true) {m : Member} (hm : m ∈ ms) : isIdent m.name = true := by
  simp only [wellFormed, Bool.and_eq_true, List.all_eq_true] at h
  have := h.1 m hm
  simp only [Member.ok, Bool.and_eq_true] at this
  exact this.1

theorem wf_params {ms : List Member} (h : wellFormed ms = true) {m : Member} (hm : m ∈ ms) (he : m.exposed = true) :
    paramsOk m.params = true := by
  simp only [wellFormed, Bool.and_eq_true, List.all_eq_true] at h
  have := h.1 m hm
  simp only [Member.ok, Bool.and_eq_true, Bool.or_eq_true, Bool.not_eq_true'] at this
  rcases this.2 with h1 | h1
  · simp [he] at h1
  · exact h1

theorem mem_commandTable {ms : List Member} {c : Cmd} :
    c ∈ commandTable ms ↔ ∃ m ∈ ms, m.exposed = true ∧ c = toCmd m := by
  simp only [commandTable, List.mem_map, List.mem_filter]
  constructor
  · rintro ⟨m, ⟨hm, he⟩, rfl⟩; exact ⟨m, hm, he, rfl⟩
  · rintro ⟨m, hm, he, rfl⟩; exact ⟨m, ⟨hm, he⟩, rfl⟩

theorem buildOk_of_wf {ms : List Member} (hwf : wellFormed ms = true) : buildOk (commandTable ms) = true := by
  simp only [buildOk, Bool.and_eq_true, distinctB_iff, List.all_eq_true]
  constructor
  · rw [commandTable, List.map_map]
    show ((ms.filter Member.exposed).map fun m => dash m.name).Nodup
    exact nodup_map_dash (fun m hm => wf_ident hwf (List.mem_filter.mp hm).1)
      (List.Nodup.sublist (List.Sublist.map _ List.filter_sublist) (wf_names hwf))
  · intro c hc
    obtain ⟨m, hm, he, rfl⟩ := mem_commandTable.mp hc
    exact optsOk_optTable (wf_params hwf hm he)

/-- the names of the commands are pairwise different (`buildOk_of_wf`), so a name finds its own command -/
theorem lookupCmd_exposed {ms : List Member} (hwf : wellFormed ms = true) {m : Member} (hm : m ∈ ms)
    (he : m.exposed = true) : lookupCmd (commandTable ms) (dash m.name) = some (toCmd m) := by
  have hb := buildOk_of_wf hwf
  simp only [buildOk, Bool.and_eq_true, distinctB_iff] at hb
  exact find?_key hb.1 (mem_commandTable.mpr ⟨m, hm, he, rfl⟩)
end Taskpool.Control
