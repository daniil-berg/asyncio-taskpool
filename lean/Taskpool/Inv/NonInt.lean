import Taskpool.Model.World
import Taskpool.Inv.ErAttr
import Taskpool.Inv.Elim
import Taskpool.Inv.Basics
/-! **Noninterference (C12): the erasure and the functions that commute with it.**

`er t p` forgets *how* task `t` of pool `p` ended: the exception the future it awaited completed with, the exception
that is about to leave its wrapper, the value of its outcome and which of `raised t` / `returned t` (resp. the
callback events) was logged.  Everything else — every other task, the registries, the semaphores, the spawners, the
gathers, the background calls, the queued handles — is kept.

This file shows that every step function outside the wrapper of a pool task **commutes** with the erasure:
`f (er t p) = er t (f p)` (oriented this way for `simp`: the erasure is pulled outwards, reads through it disappear);
a gather and the background calls do so where every gather collects exceptions (`Coll`).
An `_er` proof is `unfold f; simp only [er_simp]` (plus a case split where a `match` is in the way) and nothing cleverer:
the equation says that both sides take the same branch of `f` everywhere, and the simp set (`Inv/ErAttr.lean`) shows just
that by pulling the erasure out of the field reads — the conditions of `f (er t p)` become those of `f p` — and out of the
conditionals (`ite_er`), which leaves the right-hand side.  Only `stepApi_er` does more: it goes through the frames and
kinds of a background call and carries `Coll` along, which the stages after a gather need.  In the wrapper the erased fields are written, and `f` only *respects* the erasure,
`er t p = er t q → er t (f p) = er t (f q)` (`Inv/NonInt2.lean`). -/
namespace Taskpool

def erFut : FutSt → FutSt
  | .exc _ => .ok
  | x => x

@[simp] theorem erFut_pending : erFut .pending = .pending := rfl
@[simp] theorem erFut_ok : erFut .ok = .ok := rfl
@[simp] theorem erFut_cancelled : erFut .cancelled = .cancelled := rfl
@[simp] theorem erFut_exc (e : Err) : erFut (.exc e) = .ok := rfl
@[simp] theorem erFut_erFut (f : FutSt) : erFut (erFut f) = erFut f := by cases f <;> rfl
@[simp] theorem erFut_eq_pending (f : FutSt) : (erFut f == .pending) = (f == .pending) := by cases f <;> rfl
@[simp] theorem erFut_eq_cancelled (f : FutSt) : (erFut f == .cancelled) = (f == .cancelled) := by cases f <;> rfl

/-- forget how the task ended.  The state of the future it awaits is kept while the worker has a further suspension
point ahead of it (`phase = .inWorker ∧ awaitsLeft ≠ 0`): there a normal completion makes the worker go on and an
exception ends it, the two runs diverge (see the hypothesis of `C12_noninterference`) -/
def erTask (k : PTask) : PTask :=
  { k with fut := if k.phase = .inWorker ∧ k.awaitsLeft ≠ 0 then k.fut else erFut k.fut,
           pendingExc := none,
           outcome := k.outcome.map fun _ => Outcome.ok }

/-- the erasure at index `t'` of the task list when task `t` is erased -/
def erAt (t t' : Nat) (k : PTask) : PTask := if t = t' then erTask k else k

def erEv (t : Nat) : Ev → Ev
  | .raised t' => if t' = t then .returned t' else .raised t'
  | .cancelCbRaised t' => if t' = t then .cancelCbDone t' else .cancelCbRaised t'
  | .endCbRaised t' => if t' = t then .endCbDone t' else .endCbRaised t'
  | e => e

@[simp] theorem erEv_erEv (t : Nat) (e : Ev) : erEv t (erEv t e) = erEv t e := by
  cases e with
  | raised t' => by_cases h : t' = t <;> simp [erEv, h]
  | cancelCbRaised t' => by_cases h : t' = t <;> simp [erEv, h]
  | endCbRaised t' => by_cases h : t' = t <;> simp [erEv, h]
  | _ => rfl

@[simp] theorem erTask_erTask (k : PTask) : erTask (erTask k) = erTask k := by
  cases k
  simp only [erTask, PTask.mk.injEq, true_and, and_true, Option.map_map]
  refine ⟨?_, ?_⟩
  · split <;> simp
  · rename_i o _ _ _ _ _ _ _ _ _ _ _; cases o <;> rfl

@[simp] theorem erAt_erAt (t t' : Nat) (k : PTask) : erAt t t' (erAt t t' k) = erAt t t' k := by
  unfold erAt; split <;> simp

theorem erAt_keeps {α} (g : PTask → α) (hg : ∀ k, g (erTask k) = g k) {t t' : Nat} {k : PTask} : g (erAt t t' k) = g k := by
  unfold erAt; split
  · exact hg k
  · rfl

@[simp] theorem erAt_req (t t' : Nat) (k : PTask) : (erAt t t' k).req = k.req := erAt_keeps PTask.req fun _ => rfl
@[simp] theorem erAt_arg (t t' : Nat) (k : PTask) : (erAt t t' k).arg = k.arg := erAt_keeps PTask.arg fun _ => rfl
@[simp] theorem erAt_phase (t t' : Nat) (k : PTask) : (erAt t t' k).phase = k.phase := erAt_keeps PTask.phase fun _ => rfl
@[simp] theorem erAt_released (t t' : Nat) (k : PTask) : (erAt t t' k).released = k.released := erAt_keeps PTask.released fun _ => rfl
@[simp] theorem erAt_isMap (t t' : Nat) (k : PTask) : (erAt t t' k).isMap = k.isMap := erAt_keeps PTask.isMap fun _ => rfl
@[simp] theorem erAt_mapHeld (t t' : Nat) (k : PTask) : (erAt t t' k).mapHeld = k.mapHeld := erAt_keeps PTask.mapHeld fun _ => rfl
@[simp] theorem erAt_mustCancel (t t' : Nat) (k : PTask) : (erAt t t' k).mustCancel = k.mustCancel := erAt_keeps PTask.mustCancel fun _ => rfl
@[simp] theorem erAt_sched (t t' : Nat) (k : PTask) : (erAt t t' k).sched = k.sched := erAt_keeps PTask.sched fun _ => rfl
@[simp] theorem erAt_sawCancel (t t' : Nat) (k : PTask) : (erAt t t' k).sawCancel = k.sawCancel := erAt_keeps PTask.sawCancel fun _ => rfl
@[simp] theorem erAt_unstarted (t t' : Nat) (k : PTask) : (erAt t t' k).unstarted = k.unstarted := erAt_keeps PTask.unstarted fun _ => rfl
@[simp] theorem erAt_cancelledEarly (t t' : Nat) (k : PTask) : (erAt t t' k).cancelledEarly = k.cancelledEarly := erAt_keeps PTask.cancelledEarly fun _ => rfl
@[simp] theorem erAt_doneCbs (t t' : Nat) (k : PTask) : (erAt t t' k).doneCbs = k.doneCbs := erAt_keeps PTask.doneCbs fun _ => rfl
@[simp] theorem erAt_endCb (t t' : Nat) (k : PTask) : (erAt t t' k).endCb = k.endCb := erAt_keeps PTask.endCb fun _ => rfl
@[simp] theorem erAt_cancelCb (t t' : Nat) (k : PTask) : (erAt t t' k).cancelCb = k.cancelCb := erAt_keeps PTask.cancelCb fun _ => rfl
@[simp] theorem erAt_nEC (t t' : Nat) (k : PTask) : (erAt t t' k).nEC = k.nEC := erAt_keeps PTask.nEC fun _ => rfl
@[simp] theorem erAt_nCC (t t' : Nat) (k : PTask) : (erAt t t' k).nCC = k.nCC := erAt_keeps PTask.nCC fun _ => rfl
@[simp] theorem erAt_wasCancelled (t t' : Nat) (k : PTask) : (erAt t t' k).wasCancelled = k.wasCancelled := erAt_keeps PTask.wasCancelled fun _ => rfl
@[simp] theorem erAt_nSaw (t t' : Nat) (k : PTask) : (erAt t t' k).nSaw = k.nSaw := erAt_keeps PTask.nSaw fun _ => rfl
@[simp] theorem erAt_awaitsLeft (t t' : Nat) (k : PTask) : (erAt t t' k).awaitsLeft = k.awaitsLeft := erAt_keeps PTask.awaitsLeft fun _ => rfl
@[simp] theorem erAt_outcome_isSome (t t' : Nat) (k : PTask) : (erAt t t' k).outcome.isSome = k.outcome.isSome :=
  erAt_keeps (fun k => k.outcome.isSome) fun _ => Option.isSome_map
@[simp] theorem erAt_outcome_isNone (t t' : Nat) (k : PTask) : (erAt t t' k).outcome.isNone = k.outcome.isNone :=
  erAt_keeps (fun k => k.outcome.isNone) fun _ => Option.isNone_map

theorem erTask_fut_beq (k : PTask) (c : FutSt) (hc : ∀ f, (erFut f == c) = (f == c)) : ((erTask k).fut == c) = (k.fut == c) := by
  simp only [erTask]; split
  · rfl
  · exact hc _

@[simp] theorem erAt_fut_pending (t t' : Nat) (k : PTask) : ((erAt t t' k).fut == .pending) = (k.fut == .pending) :=
  erAt_keeps (fun k => k.fut == .pending) fun k => erTask_fut_beq k _ erFut_eq_pending
@[simp] theorem erAt_fut_cancelled (t t' : Nat) (k : PTask) : ((erAt t t' k).fut == .cancelled) = (k.fut == .cancelled) :=
  erAt_keeps (fun k => k.fut == .cancelled) fun k => erTask_fut_beq k _ erFut_eq_cancelled

namespace Pool

/-- **the erasure**: forget how task `t` itself ended -/
def er (t : Nat) (p : Pool) : Pool :=
  { p with tasks := p.tasks.modify t erTask, log := p.log.map (erEv t) }

variable {t : Nat}

@[er_simp] theorem er_simple (p : Pool) : (er t p).simple = p.simple := rfl
@[er_simp] theorem er_startCalls (p : Pool) : (er t p).startCalls = p.startCalls := rfl
@[er_simp] theorem er_sem (p : Pool) : (er t p).sem = p.sem := rfl
@[er_simp] theorem er_locked (p : Pool) : (er t p).locked = p.locked := rfl
@[er_simp] theorem er_closed (p : Pool) : (er t p).closed = p.closed := rfl
@[er_simp] theorem er_reqs (p : Pool) : (er t p).reqs = p.reqs := rfl
@[er_simp] theorem er_groups (p : Pool) : (er t p).groups = p.groups := rfl
@[er_simp] theorem er_running (p : Pool) : (er t p).running = p.running := rfl
@[er_simp] theorem er_cancelledR (p : Pool) : (er t p).cancelledR = p.cancelledR := rfl
@[er_simp] theorem er_ended (p : Pool) : (er t p).ended = p.ended := rfl
@[er_simp] theorem er_metaCancelled (p : Pool) : (er t p).metaCancelled = p.metaCancelled := rfl
@[er_simp] theorem er_apis (p : Pool) : (er t p).apis = p.apis := rfl
@[er_simp] theorem er_gathers (p : Pool) : (er t p).gathers = p.gathers := rfl
@[er_simp] theorem er_closedWaiters (p : Pool) : (er t p).closedWaiters = p.closedWaiters := rfl
@[er_simp] theorem er_emit (p : Pool) : (er t p).emit = p.emit := rfl
@[er_simp] theorem er_names (p : Pool) : (er t p).names = p.names := rfl
@[er_simp] theorem er_orders (p : Pool) : (er t p).orders = p.orders := rfl
@[er_simp] theorem er_ambiguous (p : Pool) : (er t p).ambiguous = p.ambiguous := rfl
@[er_simp] theorem er_lost (p : Pool) : (er t p).lost = p.lost := rfl
@[er_simp] theorem er_resized (p : Pool) : (er t p).resized = p.resized := rfl
@[er_simp] theorem er_tasks_length (p : Pool) : (er t p).tasks.length = p.tasks.length := List.length_modify _ _ _

theorem er_tasks (p : Pool) : (er t p).tasks = p.tasks.modify t erTask := rfl
theorem er_log (p : Pool) : (er t p).log = p.log.map (erEv t) := rfl

@[er_simp] theorem er_tasks_get (p : Pool) (j : Nat) : (er t p).tasks[j]? = (p.tasks[j]?).map (erAt t j) := by
  simp only [er, List.getElem?_modify]
  cases p.tasks[j]? with
  | none => rfl
  | some k => simp only [erAt, Option.map_eq_map, Option.map_some]

/-- a record update that touches neither the tasks nor the log commutes with the erasure (refolding lemma for `simp`:
the other fields have been read through the erasure already) -/
@[er_simp] theorem er_mk (p : Pool) (simple startCalls sem locked closed reqs groups running cancelledR ended metaCancelled apis gathers
    closedWaiters emit names orders ambiguous lost resized) :
    (Pool.mk simple startCalls sem locked closed (er t p).tasks reqs groups running cancelledR ended metaCancelled apis gathers
      closedWaiters emit (er t p).log names orders ambiguous lost resized) =
    er t (Pool.mk simple startCalls sem locked closed p.tasks reqs groups running cancelledR ended metaCancelled apis gathers
      closedWaiters emit p.log names orders ambiguous lost resized) := rfl

@[simp] theorem er_er (p : Pool) : er t (er t p) = er t p := by
  simp only [er, List.modify_modify_eq, List.map_map]
  congr 1
  · exact congrArg _ (funext erTask_erTask)
  · apply List.map_congr_left; intro e _; exact erEv_erEv t e

theorem er_eq_iff (p q : Pool) : er t p = er t q ↔
    (q = { p with tasks := q.tasks, log := q.log } ∧ p.tasks.modify t erTask = q.tasks.modify t erTask ∧
      p.log.map (erEv t) = q.log.map (erEv t)) := by
  cases p; cases q
  simp only [er, Pool.mk.injEq]
  constructor
  · intro h; simp only [h, and_self]
  · intro h; simp only [h, and_self]

@[er_simp] theorem modReq_er (p : Pool) (m : Nat) (f : Req → Req) : (er t p).modReq m f = er t (p.modReq m f) := rfl
@[er_simp] theorem modApi_er (p : Pool) (a : Nat) (f : Api → Api) : (er t p).modApi a f = er t (p.modApi a f) := rfl
@[er_simp] theorem modGather_er (p : Pool) (g : Nat) (f : Gather → Gather) : (er t p).modGather g f = er t (p.modGather g f) := rfl
@[er_simp] theorem emitRef_er (p : Pool) (r : Ref) : (er t p).emitRef r = er t (p.emitRef r) := rfl

theorem er_logEv (p : Pool) (e : Ev) : er t (p.logEv e) = (er t p).logEv (erEv t e) := by
  simp only [logEv, er, List.map_append, List.map_cons, List.map_nil]

theorem logEv_er (p : Pool) (e : Ev) (he : erEv t e = e) : (er t p).logEv e = er t (p.logEv e) := by
  rw [er_logEv, he]

theorem modTask_er (p : Pool) (t' : Nat) (f : PTask → PTask) (hf : t = t' → ∀ k, f (erTask k) = erTask (f k)) :
    (er t p).modTask t' f = er t (p.modTask t' f) := by
  simp only [modTask, er]
  congr 1
  exact modify_comm _ _ _ _ _ hf

@[er_simp] theorem schedTask_er (p : Pool) (t' : Nat) : (er t p).schedTask t' = er t (p.schedTask t') := by
  unfold schedTask; rw [modTask_er _ _ _ (by intros; rfl)]; rfl

@[er_simp] theorem schedMeta_er (p : Pool) (m : Nat) : (er t p).schedMeta m = er t (p.schedMeta m) := by
  unfold schedMeta; rw [modReq_er, emitRef_er]
@[er_simp] theorem schedApi_er (p : Pool) (a : Nat) : (er t p).schedApi a = er t (p.schedApi a) := by
  unfold schedApi; rw [modApi_er, emitRef_er]

@[er_simp] theorem schedOpt_er (p : Pool) (o : Option Nat) : (er t p).schedOpt o = er t (p.schedOpt o) := by
  cases o <;> rfl

theorem foldl_er {α} (f : Pool → α → Pool) (h : ∀ p a, f (er t p) a = er t (f p a)) (l : List α) (p : Pool) :
    l.foldl f (er t p) = er t (l.foldl f p) := by
  induction l generalizing p with
  | nil => rfl
  | cons a as ih => simp only [List.foldl_cons]; rw [h, ih]

/-- a result of a synchronous call, the pool erased -/
def erR (t : Nat) (r : Pool × Res) : Pool × Res := (er t r.1, r.2)

@[er_simp] theorem erR_fst (r : Pool × Res) : (erR t r).1 = er t r.1 := rfl
@[er_simp] theorem erR_snd (r : Pool × Res) : (erR t r).2 = r.2 := rfl
@[er_simp] theorem erR_mk (p : Pool) (r : Res) : (er t p, r) = erR t (p, r) := rfl

/-- a spawner step with a flag, the pool erased -/
def erB (t : Nat) (r : Pool × Bool) : Pool × Bool := (er t r.1, r.2)
@[er_simp] theorem erB_fst (r : Pool × Bool) : (erB t r).1 = er t r.1 := rfl
@[er_simp] theorem erB_snd (r : Pool × Bool) : (erB t r).2 = r.2 := rfl
@[er_simp] theorem erB_mk (p : Pool) (b : Bool) : (er t p, b) = erB t (p, b) := rfl

/-- the erasure comes out of a conditional: with it a step function whose branches commute with the erasure needs no
case split -/
@[er_simp] theorem ite_er {c : Prop} [Decidable c] (a b : Pool) : (if c then er t a else er t b) = er t (if c then a else b) :=
  (apply_ite (er t) c a b).symm
@[er_simp] theorem ite_erR {c : Prop} [Decidable c] (a b : Pool × Res) : (if c then erR t a else erR t b) = erR t (if c then a else b) :=
  (apply_ite (erR t) c a b).symm
@[er_simp] theorem ite_erB {c : Prop} [Decidable c] (a b : Pool × Bool) : (if c then erB t a else erB t b) = erB t (if c then a else b) :=
  (apply_ite (erB t) c a b).symm

/- `simp` rewrites the condition of an `if` and leaves its `Decidable` instance alone: after `er_reqs` the condition reads
`p.reqs` and the instance still `(er t p).reqs`.  Instances are compared up to the definitions with this attribute, so
the two still match (`ite_er` applies, the two sides of a goal are recognised as the same term). -/
attribute [local instance_reducible] er

@[er_simp] theorem emitChildren_er (p : Pool) (cbs : List (Nat × Nat)) : (er t p).emitChildren cbs = er t (p.emitChildren cbs) := by
  unfold emitChildren; exact foldl_er _ (fun _ _ => rfl) _ _

@[er_simp] theorem releasePool_er (p : Pool) : (er t p).releasePool = er t p.releasePool := by
  unfold releasePool; simp only [er_simp]

@[er_simp] theorem releaseMap_er (p : Pool) (m : Nat) : (er t p).releaseMap m = er t (p.releaseMap m) := by
  unfold releaseMap; simp only [er_simp]
  cases p.reqs[m]? <;> rfl

@[er_simp] theorem heldB_er (p : Pool) : (er t p).heldB = p.heldB := by
  funext j
  simp only [heldB, er_tasks_get]
  cases p.tasks[j]? with
  | none => rfl
  | some k => simp only [Option.map_some, erAt_released]

@[er_simp] theorem counters_er (p : Pool) : (er t p).counters = p.counters := rfl
@[er_simp] theorem groupIds_er (p : Pool) (g : String) : (er t p).groupIds g = p.groupIds g := rfl

@[er_simp] theorem wakesOnCancel_er (p : Pool) : (er t p).wakesOnCancel = p.wakesOnCancel := by
  funext j
  simp only [wakesOnCancel, er_tasks_get]
  cases p.tasks[j]? with
  | none => rfl
  | some k => simp only [Option.map_some, erAt_outcome_isNone, erAt_phase, erAt_fut_pending]

theorem erTask_fut (k : PTask) (c : FutSt) (ph : Phase) (mc : Bool) (hc : erFut c = c) :
    ({ erTask k with phase := ph, fut := c, mustCancel := mc } : PTask) = erTask { k with phase := ph, fut := c, mustCancel := mc } := by
  simp only [erTask, hc, ite_self]

@[er_simp] theorem taskCancel_er (p : Pool) (j : Nat) : (er t p).taskCancel j = er t (p.taskCancel j) := by
  unfold taskCancel; simp only [er_simp]
  cases p.tasks[j]? with
  | none => rfl
  | some k =>
    simp only [Option.map_some, erAt_outcome_isSome]
    rw [modTask_er _ _ _ (fun _ k => erTask_fut k .cancelled k.phase k.mustCancel rfl), modTask_er _ _ _ (by intros; rfl)]
    simp only [er_simp]

@[er_simp] theorem cancelTask_er (p : Pool) (j : Nat) : (er t p).cancelTask j = er t (p.cancelTask j) := by
  unfold cancelTask; simp only [er_simp]
  cases p.tasks[j]? with
  | none => rfl
  | some k =>
    simp only [Option.map_some, erAt_unstarted]
    rw [modTask_er _ _ _ (by intros; rfl)]
    simp only [er_simp]

@[er_simp] theorem metaCancel_er (p : Pool) (m : Nat) : (er t p).metaCancel m = er t (p.metaCancel m) := by
  unfold metaCancel; simp only [er_simp]
  cases p.reqs[m]? <;> rfl

@[er_simp] theorem genName_er (p : Pool) (pre : String) : (er t p).genName pre = p.genName pre := rfl
@[er_simp] theorem checkStart_er (p : Pool) (b : Bool) : (er t p).checkStart b = p.checkStart b := rfl

@[er_simp] theorem register_er (p : Pool) (r : Req) : (er t p).register r = er t (p.register r) := rfl

@[er_simp] theorem doApply_er (p : Pool) (num group sp) : (er t p).doApply num group sp = erR t (p.doApply num group sp) := by
  dsimp +instances only [doApply, checkStart_er, genName_er, groupIds_er]
  simp only [er_simp]
  cases p.checkStart sp.isCoro <;> rfl

@[er_simp] theorem doMap_er (p : Pool) (stars items nc group sp) :
    (er t p).doMap stars items nc group sp = erR t (p.doMap stars items nc group sp) := by
  dsimp +instances only [doMap, checkStart_er, genName_er, groupIds_er]
  simp only [er_simp]
  cases p.checkStart sp.isCoro <;> rfl

@[er_simp] theorem doStart_er (p : Pool) (num) : (er t p).doStart num = erR t (p.doStart num) := by
  unfold doStart; simp only [er_simp]
  cases p.simple with
  | none => rfl
  | some sp => simp only; cases p.checkStart sp.isCoro <;> rfl

@[er_simp] theorem lookupRunning_er (p : Pool) (id : Int) : (er t p).lookupRunning id = p.lookupRunning id := rfl

@[er_simp] theorem firstErr_er (p : Pool) (ids : List Int) : (er t p).firstErr ids = p.firstErr ids := by
  induction ids with
  | nil => rfl
  | cons id rest ih => simp only [firstErr, lookupRunning_er, ih]

@[er_simp] theorem doCancel_er (p : Pool) (ids) : (er t p).doCancel ids = erR t (p.doCancel ids) := by
  unfold doCancel; simp only [er_simp, foldl_er (fun p (id : Int) => p.cancelTask id.toNat) (fun q id => cancelTask_er q _)]
  cases p.firstErr ids <;> rfl

@[er_simp] theorem doStop_er (p : Pool) (n) : (er t p).doStop n = erR t (p.doStop n) := by
  unfold doStop; simp only [er_simp]

@[er_simp] theorem popOrder_er (p : Pool) : (er t p).popOrder = ((er t p.popOrder.1), p.popOrder.2) := by
  unfold popOrder; simp only [er_simp]
  cases p.orders <;> rfl

@[er_simp] theorem cancelGroupMetas_er (p : Pool) (g : String) : (er t p).cancelGroupMetas g = er t (p.cancelGroupMetas g) := by
  unfold cancelGroupMetas; simp only [er_simp, foldl_er _ (fun q m => metaCancel_er q m)]

@[er_simp] theorem cancelGroupBody_er (p : Pool) (g ids order) :
    (er t p).cancelGroupBody g ids order = (p.cancelGroupBody g ids order).map (er t) := by
  unfold cancelGroupBody; simp only [er_simp, foldl_er _ (fun q j => cancelTask_er q j)]
  split <;> rfl

theorem match_map_er (o : Option Pool) (p : Pool) (r1 r2 : Res) :
    (match o.map (er t) with | none => (er t p, r1) | some p2 => (p2, r2)) =
      erR t (match o with | none => (p, r1) | some p2 => (p2, r2)) := by
  cases o <;> rfl

@[er_simp] theorem doCancelGroup_er (p : Pool) (g : String) : (er t p).doCancelGroup g = erR t (p.doCancelGroup g) := by
  unfold doCancelGroup; simp only [er_simp]
  cases p.groupIds g with
  | none => rfl
  | some ids => exact match_map_er _ _ _ _

@[er_simp] theorem cancelAllLoop_er (gs : List (String × List Nat)) (order : List Nat) (p : Pool) :
    cancelAllLoop gs order (er t p) = (cancelAllLoop gs order p).map (er t) := by
  induction gs generalizing p with
  | nil => rfl
  | cons x xs ih =>
    simp only [cancelAllLoop, cancelGroupBody_er]
    cases p.cancelGroupBody x.1 x.2 order with
    | none => rfl
    | some q => exact ih q

@[er_simp] theorem doCancelAll_er (p : Pool) : (er t p).doCancelAll = erR t p.doCancelAll := by
  unfold doCancelAll; simp only [er_simp]
  exact match_map_er _ _ _ _

@[er_simp] theorem doSetSize_er (p : Pool) (v : Int) : (er t p).doSetSize v = erR t (p.doSetSize v) := by
  unfold doSetSize; simp only [er_simp]

@[er_simp] theorem doHook_er (p : Pool) (ctx : Nat) (h : HookOp) : (er t p).doHook ctx h = erR t (p.doHook ctx h) := by
  cases h with
  | cancelOwn => unfold doHook; simp only [er_simp]; cases p.reqs[ctx]? <;> rfl
  | _ => unfold doHook; simp only [er_simp]

@[er_simp] theorem runHooks_er (p : Pool) (ctx : Nat) (hs : List HookOp) : (er t p).runHooks ctx hs = er t (p.runHooks ctx hs) := by
  unfold runHooks
  exact foldl_er _ (fun q h => by simp only [doHook_er, erR_fst, erR_snd]; exact logEv_er _ _ rfl) _ _

@[er_simp] theorem finishMeta_er (p : Pool) (m : Nat) (o : Outcome) : (er t p).finishMeta m o = er t (p.finishMeta m o) := by
  unfold finishMeta; simp only [er_simp]
  cases p.reqs[m]? <;> rfl

theorem erTask_newTask (m : Nat) (isMap : Bool) (arg : ArgD) (ecb ccb : CbSpec) :
    erTask (newTask m isMap arg ecb ccb) = newTask m isMap arg ecb ccb := by
  rfl

theorem er_mk_append (p : Pool) (nt : PTask) (h : erTask nt = nt) (simple startCalls sem locked closed reqs groups running cancelledR
    ended metaCancelled apis gathers closedWaiters emit names orders ambiguous lost resized) :
    (Pool.mk simple startCalls sem locked closed ((er t p).tasks ++ [nt]) reqs groups running cancelledR ended metaCancelled apis
      gathers closedWaiters emit (er t p).log names orders ambiguous lost resized) =
    er t (Pool.mk simple startCalls sem locked closed (p.tasks ++ [nt]) reqs groups running cancelledR ended metaCancelled apis
      gathers closedWaiters emit p.log names orders ambiguous lost resized) := by
  simp only [er, modify_append_one _ _ _ _ h]

@[er_simp] theorem createTask_er (p : Pool) (m : Nat) (isMap : Bool) : (er t p).createTask m isMap = er t (p.createTask m isMap) := by
  unfold createTask; simp only [er_simp, er_mk_append _ _ (erTask_newTask _ _ _ _ _)]

@[er_simp] theorem takeSlotAndCreate_er (p : Pool) (m : Nat) (isMap : Bool) :
    (er t p).takeSlotAndCreate m isMap = er t (p.takeSlotAndCreate m isMap) := by
  unfold takeSlotAndCreate; simp only [er_simp]

@[er_simp] theorem waitRoom_er (p : Pool) (m : Nat) : (er t p).waitRoom m = er t (p.waitRoom m) := by
  unfold waitRoom; simp only [er_simp]

@[er_simp] theorem waitMapSem_er (p : Pool) (m : Nat) : (er t p).waitMapSem m = er t (p.waitMapSem m) := by
  unfold waitMapSem; simp only [er_simp]

@[er_simp] theorem groupHasRunningMeta_er (p : Pool) (m : Nat) : (er t p).groupHasRunningMeta m = p.groupHasRunningMeta m := rfl

@[er_simp] theorem applyLoop_er (m n : Nat) (p : Pool) : applyLoop m n (er t p) = er t (applyLoop m n p) := by
  induction n generalizing p with
  | zero => unfold applyLoop; simp only [er_simp]
  | succ n ih => unfold applyLoop; simp only [er_simp, ih]

@[er_simp] theorem mapStartTask_er (p : Pool) (m : Nat) : (er t p).mapStartTask m = erB t (p.mapStartTask m) := by
  unfold mapStartTask; simp only [er_simp]

@[er_simp] theorem pullItem_er (p : Pool) (m : Nat) (rest : List Item) : (er t p).pullItem m rest = er t (p.pullItem m rest) := by
  unfold pullItem; simp only [er_simp, logEv_er _ (.pull _ _) rfl]

@[er_simp] theorem takeMapSlot_er (p : Pool) (m : Nat) : (er t p).takeMapSlot m = er t (p.takeMapSlot m) := rfl

@[er_simp] theorem mapLoop_er (m : Nat) (items : List Item) (p : Pool) : mapLoop m items (er t p) = er t (mapLoop m items p) := by
  induction items generalizing p with
  | nil => unfold mapLoop; simp only [er_simp]
  | cons it rest ih => unfold mapLoop; simp only [er_simp, ih]

@[er_simp] theorem continueSpawner_er (p : Pool) (m : Nat) : (er t p).continueSpawner m = er t (p.continueSpawner m) := by
  unfold continueSpawner; simp only [er_simp]
  cases (p.reqs[m]?.getD default).kind <;> rfl

@[er_simp] theorem stepMetaNotStarted_er (p : Pool) (m : Nat) (r : Req) :
    (er t p).stepMetaNotStarted m r = er t (p.stepMetaNotStarted m r) := by
  unfold stepMetaNotStarted
  cases r.kind <;> simp only [er_simp]

@[er_simp] theorem roomWaitCancelled_er (p : Pool) (m : Nat) (r : Req) (st : Option WaitSt) :
    (er t p).roomWaitCancelled m r st = er t (p.roomWaitCancelled m r st) := by
  unfold roomWaitCancelled; simp only [er_simp]

@[er_simp] theorem roomGranted_er (p : Pool) (m : Nat) (r : Req) : (er t p).roomGranted m r = er t (p.roomGranted m r) := by
  unfold roomGranted; simp only [er_simp]

@[er_simp] theorem wakeWaitRoomCore_er (p : Pool) (m : Nat) (r : Req) : (er t p).wakeWaitRoomCore m r = er t (p.wakeWaitRoomCore m r) := by
  unfold wakeWaitRoomCore; simp only [er_simp]

@[er_simp] theorem wakeWaitRoom_er (p : Pool) (m : Nat) (r : Req) : (er t p).wakeWaitRoom m r = er t (p.wakeWaitRoom m r) := by
  unfold wakeWaitRoom; simp only [er_simp]

@[er_simp] theorem mapSemGranted_er (p : Pool) (m : Nat) (r : Req) : (er t p).mapSemGranted m r = er t (p.mapSemGranted m r) := by
  unfold mapSemGranted; simp only [er_simp]

@[er_simp] theorem wakeWaitMapSemCore_er (p : Pool) (m : Nat) (r : Req) :
    (er t p).wakeWaitMapSemCore m r = er t (p.wakeWaitMapSemCore m r) := by
  unfold wakeWaitMapSemCore; simp only [er_simp]

@[er_simp] theorem wakeWaitMapSem_er (p : Pool) (m : Nat) (r : Req) : (er t p).wakeWaitMapSem m r = er t (p.wakeWaitMapSem m r) := by
  unfold wakeWaitMapSem; simp only [er_simp]

@[er_simp] theorem stepMeta_er (p : Pool) (m : Nat) : (er t p).stepMeta m = er t (p.stepMeta m) := by
  unfold stepMeta; simp only [er_simp]
  cases p.reqs[m]? with
  | none => rfl
  | some r => cases hf : r.frame <;> simp only [er_simp, hf]

/-- every gather of the pool collects exceptions (`return_exceptions=True`) -/
def Coll (p : Pool) : Prop := ∀ (g : Nat) (G : Gather), p.gathers[g]? = some G → G.retExc = true

theorem Coll.er {p : Pool} (h : Coll p) : Coll (er t p) := h
theorem Coll.of_gathers {p q : Pool} (h : Coll p) (e : q.gathers = p.gathers) : Coll q := by
  intro g G hG; rw [e] at hG; exact h g G hG

theorem Coll.modGather {p : Pool} (h : Coll p) (g : Nat) (f : Gather → Gather) (hf : ∀ G, (f G).retExc = G.retExc) :
    Coll (p.modGather g f) := by
  intro j G hG
  obtain ⟨G0, hj, rfl⟩ := getElem?_modify_some _ _ _ _ _ hG
  split
  · rw [hf]; exact h j G0 hj
  · exact h j G0 hj

theorem Coll.append {p q : Pool} (hc : Coll p) (G : Gather) (hG : G.retExc = true) (hq : q.gathers = p.gathers ++ [G]) : Coll q := by
  intro j G' hG'
  rw [hq] at hG'
  rcases getElem?_append_one hG' with h | ⟨_, rfl⟩
  · exact hc j G' h
  · exact hG

/-- with `return_exceptions=True` the verdict depends on the count alone -/
theorem gatherVerdict_coll (G : Gather) (co co' : Option Outcome) (h : G.retExc = true) :
    gatherVerdict G co = gatherVerdict G co' := by
  simp [gatherVerdict, h]

@[er_simp] theorem childOutcome_er_isSome (p : Pool) (c : Child) : ((er t p).childOutcome c).isSome = (p.childOutcome c).isSome := by
  cases c with
  | task j =>
    simp only [childOutcome, er_tasks_get]
    cases p.tasks[j]? with
    | none => rfl
    | some k => simp only [Option.map_some, erAt_outcome_isSome]
  | spawner m => rfl

@[er_simp] theorem childFinished_er (p : Pool) : (er t p).childFinished = p.childFinished := by
  funext c
  cases c with
  | task j =>
    simp only [childFinished, er_tasks_get]
    cases p.tasks[j]? with
    | none => rfl
    | some k => simp only [Option.map_some, erAt_phase]
  | spawner m => rfl

theorem gatherChildDone_coll {p : Pool} (hc : Coll p) (g i : Nat) (v : Bool) : Coll (p.gatherChildDone g i v) := by
  have h1 := hc.modGather g (fun x => { x with nfinished := x.nfinished + 1 }) fun _ => rfl
  have h2 := fun o => h1.modGather g (fun x => { x with outer := some o }) fun _ => rfl
  exact gatherChildDone_elim p g i v _ rfl (fun _ => hc) (fun _ _ _ => hc) (fun _ _ _ _ _ => h1) (fun _ _ _ _ _ _ => h1)
    (fun _ _ _ _ _ _ _ _ => h1) (fun _ _ o _ _ _ _ _ _ => (h2 o).of_gathers rfl) (fun _ _ o _ _ _ _ _ _ => h2 o)

theorem gatherChildDone_er (p : Pool) (g i : Nat) (v : Bool) (hc : Coll p) :
    (er t p).gatherChildDone g i v = er t (p.gatherChildDone g i v) := by
  unfold gatherChildDone
  rw [er_gathers]
  cases hG : p.gathers[g]? with
  | none => rfl
  | some G =>
    dsimp only
    cases G.children[i]? with
    | none => rfl
    | some c =>
      dsimp only
      rw [modGather_er, childFinished_er, gatherVerdict_coll G ((er t p).childOutcome c) (p.childOutcome c) (hc g G hG)]
      generalize (p.modGather g fun x => { x with nfinished := x.nfinished + 1 }) = p1
      cases gatherVerdict G (p.childOutcome c) with
      | none => simp only [er_simp]
      | some o => simp only [er_simp]

@[er_simp] theorem registerChild_er (p : Pool) (c : Child) (g i : Nat) : (er t p).registerChild c g i = er t (p.registerChild c g i) := by
  cases c with
  | task j => exact modTask_er _ _ _ (fun _ _ => rfl)
  | spawner m => rfl

theorem registerChild_coll {p : Pool} (hc : Coll p) (c : Child) (g i : Nat) : Coll (p.registerChild c g i) := by
  cases c <;> exact hc.of_gathers rfl

theorem gatherScan_er (g : Nat) (cs : List Child) (i : Nat) (p : Pool) (hc : Coll p) :
    gatherScan g cs i (er t p) = er t (gatherScan g cs i p) ∧ Coll (gatherScan g cs i p) := by
  induction cs generalizing i p with
  | nil => exact ⟨rfl, hc⟩
  | cons c cs ih =>
    simp only [gatherScan, childOutcome_er_isSome]
    split
    · rw [gatherChildDone_er _ _ _ _ hc]; exact ih _ _ (gatherChildDone_coll hc _ _ _)
    · rw [registerChild_er]; exact ih _ _ (registerChild_coll hc _ _ _)

theorem gatherStart_er (p : Pool) (cs : List Child) (owner n : Nat) (hc : Coll p) :
    ((er t p).gatherStart cs true owner n).1 = er t (p.gatherStart cs true owner n).1 ∧
    ((er t p).gatherStart cs true owner n).2 = (p.gatherStart cs true owner n).2 ∧
    Coll (p.gatherStart cs true owner n).1 := by
  unfold gatherStart
  simp only [Bool.not_true, Bool.false_and, Bool.or_false]
  let G0 : Gather := ⟨cs, 0, if cs.isEmpty then some Outcome.ok else none, owner, true⟩
  let q : Pool := { p with gathers := p.gathers ++ [G0], ambiguous := p.ambiguous }
  have h0 : Coll q := hc.append G0 rfl rfl
  exact ⟨(gatherScan_er _ _ _ q h0).1, rfl, (gatherScan_er (t := t) _ _ _ q h0).2⟩

@[er_simp] theorem gatherOuter_er (p : Pool) (g : Nat) : (er t p).gatherOuter g = p.gatherOuter g := rfl

/-- a call starts a collecting gather; if it is complete at once the call goes on with `K`, else it parks in frame `fr`
(the shape shared by the stages of `flush` and `gather_and_close`, spelled as in the model) -/
theorem gatherMatch_er (p : Pool) (cs : List Child) (a n : Nat) (K : Pool → Nat → Outcome → Pool) (fr : Nat → AFrame) (hc : Coll p)
    (hK : ∀ q g o, Coll q → K (er t q) g o = er t (K q g o) ∧ Coll (K q g o)) :
    (match ((er t p).gatherStart cs true a n).1.gatherOuter ((er t p).gatherStart cs true a n).2 with
      | some o => K ((er t p).gatherStart cs true a n).1 ((er t p).gatherStart cs true a n).2 o
      | none => ((er t p).gatherStart cs true a n).1.modApi a fun x => { x with frame := fr ((er t p).gatherStart cs true a n).2 }) =
    er t (match (p.gatherStart cs true a n).1.gatherOuter (p.gatherStart cs true a n).2 with
      | some o => K (p.gatherStart cs true a n).1 (p.gatherStart cs true a n).2 o
      | none => (p.gatherStart cs true a n).1.modApi a fun x => { x with frame := fr (p.gatherStart cs true a n).2 }) ∧
    Coll (match (p.gatherStart cs true a n).1.gatherOuter (p.gatherStart cs true a n).2 with
      | some o => K (p.gatherStart cs true a n).1 (p.gatherStart cs true a n).2 o
      | none => (p.gatherStart cs true a n).1.modApi a fun x => { x with frame := fr (p.gatherStart cs true a n).2 }) := by
  obtain ⟨h1, h2, h3⟩ := gatherStart_er (t := t) p cs a n hc
  rw [h1, h2, gatherOuter_er]
  cases (p.gatherStart cs true a n).1.gatherOuter (p.gatherStart cs true a n).2 with
  | none => exact ⟨rfl, h3.of_gathers rfl⟩
  | some o => exact hK _ _ o h3

@[er_simp] theorem finishApi_er (p : Pool) (a : Nat) (o : Outcome) : (er t p).finishApi a o = er t (p.finishApi a o) := rfl

theorem flushAfter2_er (p : Pool) (a : Nat) (o : Outcome) : (er t p).flushAfter2 a o = er t (p.flushAfter2 a o) := by
  unfold flushAfter2
  cases o <;> simp only [er_simp]

theorem flushAfter2_gathers (p : Pool) (a : Nat) (o : Outcome) : (p.flushAfter2 a o).gathers = p.gathers := by
  cases o <;> rfl

theorem flushAfter1_er (p : Pool) (a : Nat) (o : Outcome) (hc : Coll p) :
    (er t p).flushAfter1 a true o = er t (p.flushAfter1 a true o) ∧ Coll (p.flushAfter1 a true o) := by
  unfold flushAfter1
  simp only [er_simp]
  cases o with
  | exc e => exact ⟨rfl, hc.of_gathers rfl⟩
  | _ =>
    exact gatherMatch_er _ _ _ _ (fun q _ o => q.flushAfter2 a o) .gather2 (hc.of_gathers rfl)
      fun q _ o hq => ⟨flushAfter2_er q a o, hq.of_gathers (flushAfter2_gathers q a o)⟩

theorem flushStage1_er (p : Pool) (a : Nat) (hc : Coll p) :
    (er t p).flushStage1 a true = er t (p.flushStage1 a true) ∧ Coll (p.flushStage1 a true) := by
  unfold flushStage1
  simp only [er_simp]
  exact gatherMatch_er _ _ _ _ (fun q _ o => q.flushAfter1 a true o) .gather1 (hc.of_gathers rfl) fun q _ o hq => flushAfter1_er q a o hq

theorem foldl_schedApi_gathers (ws : List Nat) (p : Pool) : (ws.foldl (fun p w => p.schedApi w) p).gathers = p.gathers := by
  induction ws generalizing p with
  | nil => rfl
  | cons w ws ih => exact ih _

theorem gacAfter2_er (p : Pool) (a : Nat) (o : Outcome) : (er t p).gacAfter2 a o = er t (p.gacAfter2 a o) := by
  unfold gacAfter2
  cases o <;> simp only [er_simp, foldl_er _ (fun q w => schedApi_er q w)]

theorem gacAfter2_gathers (p : Pool) (a : Nat) (o : Outcome) : (p.gacAfter2 a o).gathers = p.gathers := by
  cases o with
  | ok => exact foldl_schedApi_gathers _ _
  | _ => rfl

theorem gacAfter1_er (p : Pool) (a g : Nat) (hc : Coll p) :
    (er t p).gacAfter1 a true g = er t (p.gacAfter1 a true g) ∧ Coll (p.gacAfter1 a true g) := by
  unfold gacAfter1
  simp only [er_simp]
  exact gatherMatch_er _ _ _ _ (fun q _ o => q.gacAfter2 a o) .gather2 (hc.of_gathers rfl)
    fun q _ o hq => ⟨gacAfter2_er q a o, hq.of_gathers (gacAfter2_gathers q a o)⟩

theorem gacStage1_er (p : Pool) (a : Nat) (hc : Coll p) :
    (er t p).gacStage1 a true = er t (p.gacStage1 a true) ∧ Coll (p.gacStage1 a true) := by
  unfold gacStage1
  simp only [er_simp, Bool.not_true, Bool.false_and, Bool.or_false]
  exact gatherMatch_er _ _ _ _ (fun q g _ => q.gacAfter1 a true g) .gather1 (hc.of_gathers rfl) fun q g _ hq => gacAfter1_er q a g hq

theorem untilClosedStart_er (p : Pool) (a : Nat) : (er t p).untilClosedStart a = er t (p.untilClosedStart a) := by
  unfold untilClosedStart; simp only [er_simp]

theorem untilClosedStart_gathers (p : Pool) (a : Nat) : (p.untilClosedStart a).gathers = p.gathers := by
  unfold untilClosedStart; split <;> rfl

/-- the kind of a background call collects exceptions -/
def _root_.Taskpool.ApiKind.coll : ApiKind → Bool
  | .flush re => re
  | .gac re => re
  | .untilClosed => true

/-- a call parked at a gather is resumed with the outer future's outcome, if there is one -/
theorem resume_er (q : Pool) (g : Nat) (K : Pool → Outcome → Pool) (h1 : Coll q)
    (hK : ∀ o, K (er t q) o = er t (K q o) ∧ Coll (K q o)) :
    (match (er t q).gatherOuter g with | some o => K (er t q) o | none => er t q) =
      er t (match q.gatherOuter g with | some o => K q o | none => q) ∧
    Coll (match q.gatherOuter g with | some o => K q o | none => q) := by
  rw [gatherOuter_er]
  cases q.gatherOuter g with
  | none => exact ⟨rfl, h1⟩
  | some o => exact hK o

theorem stepApi_er (p : Pool) (a : Nat) (hc : Coll p) (ha : ∀ A, p.apis[a]? = some A → A.kind.coll = true) :
    (er t p).stepApi a = er t (p.stepApi a) ∧ Coll (p.stepApi a) := by
  unfold stepApi
  rw [er_apis]
  cases hA : p.apis[a]? with
  | none => exact ⟨rfl, hc⟩
  | some A =>
    have hk := ha A hA
    dsimp only
    cases A.sched with
    | false => exact ⟨rfl, hc⟩
    | true =>
      rw [if_neg (fun e => nomatch e), if_neg (fun e => nomatch e), modApi_er]
      -- the state after the flag has been cleared is all the branches read
      have h1 : Coll (p.modApi a fun x => { x with sched := false }) := hc.of_gathers rfl
      generalize (p.modApi a fun x => { x with sched := false }) = q at h1 ⊢
      generalize A.kind = k at hk
      cases A.frame with
      | notStarted =>
        cases k with
        | flush re => cases hk; exact flushStage1_er q a h1
        | gac re => cases hk; exact gacStage1_er q a h1
        | untilClosed => exact ⟨untilClosedStart_er q a, h1.of_gathers (untilClosedStart_gathers q a)⟩
      | gather1 g =>
        cases k with
        | flush re => cases hk; exact resume_er q g (fun x o => x.flushAfter1 a true o) h1 fun o => flushAfter1_er q a o h1
        | gac re => cases hk; exact resume_er q g (fun x _ => x.gacAfter1 a true g) h1 fun _ => gacAfter1_er q a g h1
        | untilClosed => exact ⟨rfl, h1⟩
      | gather2 g =>
        cases k with
        | flush re =>
          exact resume_er q g (fun x o => x.flushAfter2 a o) h1 fun o => ⟨flushAfter2_er q a o, h1.of_gathers (flushAfter2_gathers q a o)⟩
        | gac re =>
          exact resume_er q g (fun x o => x.gacAfter2 a o) h1 fun o => ⟨gacAfter2_er q a o, h1.of_gathers (gacAfter2_gathers q a o)⟩
        | untilClosed => exact ⟨rfl, h1⟩
      | waitClosed => exact ⟨rfl, h1⟩
      | done => exact ⟨rfl, h1⟩
end Pool
end Taskpool
