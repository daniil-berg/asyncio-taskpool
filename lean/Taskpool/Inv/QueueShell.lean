import Taskpool.Inv.QueueSteps
/-! C20: the frames (`quiet_*`, `ext_*`; the relations are defined in `QueueRefine`) of the shell functions that perform a
core operation, what a consumer's step does (`CStep`), the refinement — every input performs a guarded core operation
(`kstep_step`; `Q.good_reach` in `QueuePutSteps` concludes that every reachable state satisfies the core invariant) — and two facts about the shell (`Shell`): the
observation log never shows a `ValueError` from `task_done()`, and the wake-up handle of every scheduled `join()` task is
in the loop's ready queue. -/
namespace Taskpool.QueueM
namespace Q

structure Shell (q : Q) : Prop where
  noVE  : Ev.valueError ∉ q.log
  ready : ∀ (j : Nat) (x : Joiner), q.k.joiners[j]? = some x → x.sched = true → Ref.joiner j ∈ q.ready

theorem Ext.shell {q q' : Q} (h : Ext q q') (hs : q.Shell) : q'.Shell :=
  ⟨fun hv => hs.noVE (h.log hv), fun j x hx hsch => h.ready _ (hs.ready j x (h.joiners ▸ hx) hsch)⟩

theorem ext_setK (q : Q) (k : K) (h : k.joiners = q.k.joiners) : Ext q (q.setK k) := ⟨h, fun _ h => h, fun h => h⟩

theorem quiet_setK (q : Q) (k : K) (h0 : k.joiners = q.k.joiners) (h1 : k.prods = q.k.prods) (h2 : k.maxsize = q.k.maxsize)
    (h3 : q.k.items.length ≤ k.items.length) : Quiet q (q.setK k) :=
  ⟨ext_setK q k h0, h1, rfl, rfl, fun _ h => h, by show k.maxsize - _ ≤ _; rw [h2]; exact Nat.sub_le_sub_left h3 _⟩

theorem ext_waitPutter (q : Q) (j : Nat) : Ext q (q.waitPutter j) := ⟨rfl, fun _ h => h, fun h => h⟩

theorem K.joiners_take (k : K) (c : Nat) : (k.take c).joiners = k.joiners := by
  unfold K.take; split <;> rfl

theorem quiet_put (q : Q) (x : Nat) : Quiet q (q.put x) := by
  unfold put
  split
  · exact .refl _
  · exact (quiet_setK q (q.k.put x) rfl rfl rfl (by simp [K.put])).trans (still_wakeGetter _).toQuiet

theorem quiet_abortGet (q : Q) (c : Nat) (w : Bool) : Quiet q (q.abortGet c w) := by
  unfold abortGet
  simp only
  split
  · refine Quiet.trans ?_ (quiet_setK _ _ rfl rfl rfl (Nat.le_refl _))
    exact ((still_getters q _).trans (still_wakeGetter _)).toQuiet.trans (quiet_logEv _ _ (by simp))
  · refine Quiet.trans ?_ (quiet_setK _ _ rfl rfl rfl (Nat.le_refl _))
    exact (still_getters q _).toQuiet.trans (quiet_logEv _ _ (by simp))

/-- `get()`: the consumer waits (the queue is empty), or it is handed the head item -/
theorem tryGet_cases (q : Q) (c : Nat) :
    (Quiet q (q.tryGet c) ∧ (q.tryGet c).k = q.k.wait c)
    ∨ ∃ it rest, q.k.items = it :: rest ∧ q.tryGet c = (((q.setK (q.k.take c)).wakePutter).logEv (.got c it)).armGate c := by
  unfold tryGet
  split
  · exact .inl ⟨(quiet_setK q (q.k.wait c) rfl rfl rfl (Nat.le_refl _)).trans (still_waitGetter _ _).toQuiet, by simp⟩
  · rename_i it rest hit
    exact .inr ⟨it, rest, hit, rfl⟩

/-- What the step of consumer `c` does, its handle being off the ready queue: bookkeeping around at most one guarded
core operation that leaves producers and joiners alone (nothing, `wait`, `abort`); or the consumer is handed the head
item, and `get_nowait()` wakes the next putter; or its block is left.  The refinement, `Shell` and `PInv` read their
cases off this. -/
inductive CStep (q : Q) (c : Nat) : Q → Prop
  | quiet {q' : Q} : Quiet q q' → KStep q.k q'.k → CStep q c q'
  | take {q0 : Q} {x : Core} {it : Nat} {rest : List Nat} : Still q q0 → q.k.cores[c]? = some x →
      preBlock x.phase = true → q.k.items = it :: rest →
      CStep q c ((((q0.setK (q0.k.take c)).wakePutter).logEv (.got c it)).armGate c)
  | exit {q0 : Q} {x : Core} (e : Exit) : Still q q0 → q.k.cores[c]? = some x → isInBlock x.phase = true →
      CStep q c (q0.exitBlock c e)

theorem CStep.tryGet {q q0 : Q} {c : Nat} {x : Core} (h0 : Still q q0) (hx : q.k.cores[c]? = some x)
    (hp : preBlock x.phase = true) : CStep q c (q0.tryGet c) := by
  rcases tryGet_cases q0 c with ⟨h, e⟩ | ⟨it, rest, hit, e⟩
  · exact .quiet (h0.toQuiet.trans h) (by rw [e, h0.k]; exact .wait _ c x hx hp)
  · rw [e]
    exact .take h0 hx hp (h0.k ▸ hit)

theorem cstep_stepConsumer (q : Q) (c : Nat) : CStep q c (q.stepConsumer c) := by
  unfold stepConsumer
  split
  · rename_i kc a hk ha
    split
    · exact .quiet (.refl _) (.refl _)
    · simp only
      have h0 := still_modA q c fun x => { x with sched := false }
      split
      · rename_i hp
        have hpre : preBlock kc.phase = true := by rw [hp]; rfl
        unfold startConsumer
        split
        · exact .quiet ((h0.trans (still_modA _ _ _)).toQuiet.trans (quiet_setK _ _ rfl rfl rfl (Nat.le_refl _)))
            (.abort _ c kc hk hpre)
        · exact .tryGet h0 hk hpre
      · rename_i hp
        have hpre : preBlock kc.phase = true := by rw [hp]; rfl
        have h1 := h0.trans (still_modA _ c fun x => { x with mustCancel := false, suspended := false })
        unfold wakeWaiting
        simp only
        split
        · exact .quiet (h1.toQuiet.trans (quiet_abortGet _ _ _)) (by rw [k_abortGet]; exact .abort _ c kc hk hpre)
        · exact .tryGet h1 hk hpre
      · rename_i item hp
        have hib : isInBlock kc.phase = true := by rw [hp]; rfl
        have h1 := h0.trans (still_modA _ c fun x => { x with mustCancel := false })
        unfold leaveBlock
        simp only
        split
        · exact .exit _ ⟨h1.toQuiet.trans (quiet_logEv _ _ (by simp)), h1.k⟩ hk hib
        · split
          · exact .exit _ h1 hk hib
          · exact .exit _ h1 hk hib
      · exact .quiet h0.toQuiet (.refl _)
  · exact .quiet (.refl _) (.refl _)

theorem CStep.kstep {q q' : Q} {c : Nat} (h : CStep q c q') : KStep q.k q'.k := by
  cases h with
  | quiet _ hk => exact hk
  | take h0 hx hp _ =>
    rw [k_armGate, k_logEv, k_wakePutter, k_setK, h0.k]
    exact .take _ c _ hx hp
  | exit e h0 hx hp =>
    rw [k_exitBlock, h0.k]
    exact .exit _ c _ e hx hp

theorem quiet_spawn (q : Q) : Quiet q q.spawn :=
  ⟨⟨rfl, fun _ h => List.mem_append_left _ h, fun h => h⟩, rfl, rfl, rfl, fun _ h => List.mem_append_left _ h, Nat.le_refl _⟩

theorem K.joiners_pput (k : K) (j : Nat) : (k.pput j).joiners = k.joiners := by
  unfold K.pput; split <;> rfl

theorem ext_tryPut (q : Q) (j x : Nat) : Ext q (q.tryPut j x) := by
  unfold tryPut
  split
  · exact Ext.trans (ext_setK q (q.k.pwait j) rfl) (ext_waitPutter _ _)
  · refine Ext.trans ?_ (quiet_logEv _ _ (by simp)).ext
    exact Ext.trans (ext_setK q (q.k.pput j) (K.joiners_pput _ _)) (still_wakeGetter _).ext

theorem ext_abortPut (q : Q) (j : Nat) (w : Bool) : Ext q (q.abortPut j w) := by
  unfold abortPut
  simp only
  have h0 : Ext q (({ q with putters := q.putters.erase j } : Q).setK (q.k.pabort j)) := ⟨rfl, fun _ h => h, fun h => h⟩
  split
  · exact (h0.trans (pstill_wakePutter _).toExt).trans (quiet_logEv _ _ (by simp)).ext
  · exact h0.trans (quiet_logEv _ _ (by simp)).ext

theorem ext_startProducer (q : Q) (j : Nat) (a : Aux) (x : Nat) : Ext q (q.startProducer j a x) := by
  unfold startProducer
  split
  · exact Ext.trans (pstill_modP _ _ _).toExt (ext_setK _ _ rfl)
  · exact ext_tryPut _ _ _

theorem ext_wakeProducer (q : Q) (j : Nat) (a : Aux) (x : Nat) : Ext q (q.wakeProducer j a x) := by
  unfold wakeProducer
  simp only
  split
  · exact Ext.trans (pstill_modP _ _ _).toExt (ext_abortPut _ _ _)
  · exact Ext.trans (pstill_modP _ _ _).toExt (ext_tryPut _ _ _)

theorem ext_stepProducer (q : Q) (j : Nat) : Ext q (q.stepProducer j) := by
  unfold stepProducer
  split
  · split
    · exact Ext.refl _
    · simp only
      split
      · refine Ext.trans ?_ (ext_startProducer _ _ _ _)
        exact (pstill_modP _ _ _).toExt
      · refine Ext.trans ?_ (ext_wakeProducer _ _ _ _)
        exact (pstill_modP _ _ _).toExt
      · exact (pstill_modP _ _ _).toExt
  · exact Ext.refl _

theorem ext_produce (q : Q) (x : Nat) : Ext q (q.produce x) := ⟨rfl, fun _ h => List.mem_append_left _ h, fun h => h⟩

theorem K.sched_taskDone (k : K) (j : Nat) (x' : Joiner) (hx' : k.taskDone.joiners[j]? = some x') (hs : x'.sched = true) :
    (∃ x, k.joiners[j]? = some x ∧ x.sched = true) ∨ (k.unfinished = 1 ∧ Ref.joiner j ∈ k.wokenRefs) := by
  rw [(k.joiner_taskDone j).2, Option.map_eq_some_iff] at hx'
  obtain ⟨x, hx, rfl⟩ := hx'
  split at hs
  · rename_i hw
    simp only [K.wakes, Bool.and_eq_true, List.contains_iff_mem, beq_iff_eq] at hw
    refine .inr ⟨hw.1, ?_⟩
    simp only [K.wokenRefs, List.mem_map, List.mem_filter]
    exact ⟨j, ⟨hw.2.1, by simp [hx, hw.2.2]⟩, rfl⟩
  · exact .inl ⟨x, hx, hs⟩

/-- leaving a block: `task_done()` finds a positive counter; the joiners it wakes are queued -/
theorem shell_exitBlock (q : Q) (c : Nat) (e : Exit) (hpos : 0 < q.k.unfinished) (hs : q.Shell) : (q.exitBlock c e).Shell := by
  have hne : ¬ q.k.unfinished = 0 := by omega
  constructor
  · intro h
    simp only [exitBlock, modA, hne, if_false, List.mem_append, List.mem_cons, List.not_mem_nil, or_false] at h
    rcases h with h | h | h
    · exact hs.noVE h
    · cases h
    · cases h
  · intro j x' hx' hsch
    simp only [k_exitBlock, K.exit_eq] at hx'
    show Ref.joiner j ∈ q.ready ++ (if q.k.unfinished = 1 then q.k.wokenRefs else [])
    rcases K.sched_taskDone q.k j x' hx' hsch with ⟨x, hx, hx1⟩ | ⟨h1, hm⟩
    · exact List.mem_append_left _ (hs.ready j x hx hx1)
    · rw [if_pos h1]; exact List.mem_append_right _ hm

/-- a hand mark: the item it takes is unfinished work, so `task_done()` finds a positive counter; the joiners it wakes
are queued -/
theorem shell_handTake (q : Q) (hi : q.k.Inv) (hs : q.Shell) : q.handTake.Shell := by
  unfold handTake
  split
  · exact hs
  · rename_i y rest hit
    have hne : ¬ q.k.unfinished = 0 := Nat.ne_of_gt (hi.pos_of_items y rest hit)
    have hk := K.handTake_cons q.k y rest hit
    constructor
    · intro h
      simp only [hne, if_false, List.mem_append, List.mem_cons, List.not_mem_nil, or_false] at h
      rcases h with h | h | h
      · exact hs.noVE h
      · cases h
      · cases h
    · intro j x' hx' hsch
      simp only [hk] at hx' ⊢
      rcases K.sched_taskDone _ j x' hx' hsch with ⟨x, hx, hx1⟩ | ⟨h1, hm⟩
      · exact List.mem_append_left _ ((pstill_wakePutter q).ready _ (hs.ready j x hx hx1))
      · have h1' : q.k.unfinished = 1 := h1
        rw [if_pos h1']; exact List.mem_append_right _ hm

theorem CStep.shell {q q' : Q} {c : Nat} (h : CStep q c q') (hi : q.k.Inv) (hs : q.Shell) : q'.Shell := by
  cases h with
  | quiet hq _ => exact hq.ext.shell hs
  | take hq _ _ _ =>
    exact (((((hq.ext.trans (ext_setK _ _ (K.joiners_take _ _))).trans (pstill_wakePutter _).toExt).trans
      (quiet_logEv _ _ (by simp)).ext).trans (still_armGate _ _).ext)).shell hs
  | exit e hq hx hp => exact shell_exitBlock _ c e (hq.k ▸ hi.pos_of_inBlock c _ hx hp) (hq.ext.shell hs)

theorem shell_join (q : Q) (hs : q.Shell) : q.join.Shell := by
  refine ⟨hs.noVE, fun j x hx hsch => ?_⟩
  show Ref.joiner j ∈ q.ready ++ [.joiner q.k.joiners.length]
  rcases getElem?_append_one hx with h | ⟨rfl, _⟩
  · exact List.mem_append_left _ (hs.ready j x h hsch)
  · exact List.mem_append_right _ (List.mem_singleton_self _)

/-- running joiner `j0`'s handle (which has just been taken off the ready queue at index `n`) -/
theorem shell_stepJoiner (q : Q) (n j0 : Nat) (hr : q.ready[n]? = some (.joiner j0)) (hs : q.Shell) :
    (({ q with ready := q.ready.eraseIdx n } : Q).stepJoiner j0).Shell := by
  constructor
  · intro h
    simp only [stepJoiner, List.mem_append] at h
    rcases h with h | h
    · exact hs.noVE h
    · split at h <;> simp at h
  · intro j x' hx' hsch
    obtain ⟨W, f, e, hf0⟩ := K.stepJoiner_eq q.k j0
    simp only [stepJoiner, e] at hx' ⊢
    rcases getElem?_modify_split hx' with ⟨rfl, x, hx, rfl⟩ | ⟨hne, h⟩
    · rw [(hf0 x hx).1] at hsch; cases hsch
    · exact mem_eraseIdx_of_ne hr (by simp [hne]) (hs.ready j x' h hsch)

theorem kstep_runRef (q : Q) (r : Ref) : KStep q.k (q.runRef r).k := by
  cases r with
  | consumer c => exact (cstep_stepConsumer q c).kstep
  | joiner j => exact KStep.stepJ _ j
  | producer j => exact kstep_stepProducer q j

theorem kstep_step (q : Q) (i : Input) : KStep q.k (q.step i).k := by
  cases i with
  | put x =>
    simp only [step, k_put]
    split
    · exact KStep.refl _
    · rename_i hf; exact KStep.put _ x (by simpa using hf)
  | produce x => exact KStep.produce _ x
  | cancelp j => simp only [step, k_cancelProducer]; exact KStep.refl _
  | spawn => exact KStep.spawn _
  | join => exact KStep.join _
  | cancel c => simp only [step, k_cancelConsumer]; exact KStep.refl _
  | gate c e => simp only [step, k_gate]; exact KStep.refl _
  | take => simp only [step, k_handTake]; exact KStep.handTake _
  | run n =>
    simp only [step]
    split
    · exact KStep.refl _
    · rename_i r hr
      exact kstep_runRef ({ q with ready := q.ready.eraseIdx n } : Q) r

theorem step_run_joiner (q : Q) (n j : Nat) (hr : q.ready[n]? = some (.joiner j)) :
    (q.step (.run n)).k = q.k.stepJoiner j
    ∧ (q.step (.run n)).log = q.log ++ (if q.k.joins j then [.joined j] else []) := by
  simp only [step, hr]
  exact ⟨rfl, rfl⟩

theorem prod_final_run (q : Q) (ins : List Input) (j : Nat) (p : Prod) (h : q.k.prods[j]? = some p)
    (hd : isPDone p.phase = true) : (q.run ins).k.prods[j]? = some p :=
  foldl_keeps (P := fun q => q.k.prods[j]? = some p) step
    (fun q i h => let ⟨_, h1, _, h3⟩ := (kstep_step q i).prod_final j p h; h3 hd ▸ h1) ins q h

theorem run_append (q : Q) (a b : List Input) : q.run (a ++ b) = (q.run a).run b :=
  List.foldl_append

theorem shell_step (q : Q) (i : Input) (hi : q.k.Inv) (hs : q.Shell) : (q.step i).Shell := by
  cases i with
  | put x => exact (quiet_put q x).ext.shell hs
  | spawn => exact (quiet_spawn q).ext.shell hs
  | join => exact shell_join q hs
  | cancel c => exact ((still_cancelConsumer q c)).ext.shell hs
  | gate c e => exact ((still_gate q c e)).ext.shell hs
  | take => exact shell_handTake q hi hs
  | produce x => exact (ext_produce q x).shell hs
  | cancelp j => exact (pstill_cancelProducer q j).shell hs
  | run n =>
    simp only [step]
    split
    · exact hs
    · rename_i r hr
      cases r with
      | joiner j0 => exact shell_stepJoiner q n j0 hr hs
      | producer j0 =>
        refine (ext_stepProducer ({ q with ready := q.ready.eraseIdx n } : Q) j0).shell ⟨hs.noVE, fun j x hx hsch => ?_⟩
        exact mem_eraseIdx_of_ne hr (by simp) (hs.ready j x hx hsch)
      | consumer c =>
        refine (cstep_stepConsumer ({ q with ready := q.ready.eraseIdx n } : Q) c).shell hi ⟨hs.noVE, fun j x hx hsch => ?_⟩
        exact mem_eraseIdx_of_ne hr (by simp) (hs.ready j x hx hsch)

theorem shell_initN (n : Nat) : (Q.initN n).Shell := ⟨by simp [Q.initN], by simp [Q.initN, K.initN]⟩

end Q
end Taskpool.QueueM
