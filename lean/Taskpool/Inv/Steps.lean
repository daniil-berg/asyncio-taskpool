import Taskpool.Inv.Spawner
import Taskpool.Inv.ApiStages
import Taskpool.Inv.Elim
/-! Every handle and every external operation other than `pool_size = …` preserves `Good`. -/
namespace Taskpool
namespace Pool

/-- the spawner's waiter entry is taken out of the deque -/
def dropWaiter (p : Pool) (m : Nat) : Pool :=
  { p with sem := { p.sem with waiters := (removeWaiterL m p.sem.waiters).2 } }

theorem reqAt_releasePool {p : Pool} {m : Nat} {P : Req → Prop} (h : ReqAt p m P)
    (hP : ∀ x, P x → P { x with sched := true }) : ReqAt p.releasePool m P := by
  unfold releasePool
  exact reqAt_schedOpt (p := ({ p with sem := p.sem.release.1 } : Pool)) h _ hP

theorem reqAt_releaseMap {p : Pool} {m : Nat} {P : Req → Prop} (h : ReqAt p m P)
    (hP : ∀ x, P x → P { x with sched := true }) (hS : ∀ x s, P x → P { x with mapSem := s }) :
    ReqAt (p.releaseMap m) m P := by
  unfold releaseMap
  split
  · exact h
  · exact reqAt_schedOpt (h.modReq _ (fun x hx => hS x _ hx)) _ hP

/-- the books of a spawner that was waiting for room: apply/start — the invocation in hand is still counted in
`remaining`; map — one element is in hand -/
def PW : Cnt → MFrame → Prop := fun c fr =>
  (c.kind = .apply → c.created + c.skipped + c.remaining = c.n0 ∧ 1 ≤ c.remaining) ∧ (c.kind = .map → PM c.left 1 c fr)

theorem PW.ff : FrameFree PW := fun _ _ _ h => h

theorem count_created {a b n N : Nat} (h : a + b + n = N) (hn : 1 ≤ n) : a + 1 + b + (n - 1) = N := by omega

theorem PW.created {r : Req} (h : PW r.cnt r.frame) :
    PC ({ r with created := r.created + 1 } : Req).cnt ({ r with created := r.created + 1 } : Req).frame :=
  ⟨fun hk => count_created (h.1 hk).1 (h.1 hk).2, fun hk => (h.2 hk).next rfl rfl rfl rfl (Nat.add_right_comm ..)⟩

/-- `_start_task` after `acquire()`: the task is created with the pool slot that was set aside for it (`SlotPre`), the
map slot in flight (if any) goes to it, and the spawner's loop runs on -/
theorem good_createContinue {cap : Cap} {L R : Bool} (p : Pool) (m : Nat) (isMap : Bool) (hS : GoodS L R p)
    (hpre : SlotPre cap p) (hwk : WakeOK p) (hmap : MapMid p m (if isMap then 1 else 0)) (hlt : m < p.reqs.length)
    (hacc : AccAt p m PW) (hnw : ReqAt p m (fun r => r.frame ≠ .waitRoom)) (hcn : CancEx (· = m) p) (hsn : SnapNone p m) :
    Good cap L R ((p.createTask m isMap).continueSpawner m) :=
  good_continueSpawner _ m ⟨good0_createTask_afterTake p m _ hS.phase hS.reg hS.grp hS.life hpre hS.strict hS.fl hwk,
    (mapOK_createTask isMap hmap hlt).mid m, accAt_createTask isMap hacc hlt (fun r _ hp => PW.created hp),
    by rw [reqsLen_createTask]; exact hlt, fun r' hr' => by
      obtain ⟨r0, a, b⟩ := frame_createTask _ m isMap m r' hr'
      rw [b]; exact hnw r0 a, cancEx_createTask isMap hcn hsn⟩ (reqAt_createTask hsn isMap (fun _ hx => hx))

/-- `acquire()` returned in `_start_task`: `if self._value > 0: self._wake_up_next()`, then the task is created; the map
slot the spawner carried (1 for a map request, 0 otherwise) is now in flight and goes to the new task -/
theorem roomGranted_tail {cap : Cap} {L R : Bool} (p : Pool) (m : Nat) (isMap : Bool) (hS : GoodS L R p)
    (hpre : SlotPre cap p) (hmap : MapMid p m (if isMap then 1 else 0)) (hlt : m < p.reqs.length) (hacc : AccAt p m PW)
    (hnw : ReqAt p m (fun r => r.frame ≠ .waitRoom)) (hcn : CancEx (· = m) p) (hsn : SnapNone p m) :
    Good cap L R (((if (!p.sem.value.isZero) = true then (({ p with sem := p.sem.wakeNext.1 } : Pool).schedOpt p.sem.wakeNext.2) else p).createTask m
      isMap).continueSpawner m) := by
  refine dite_keeps (P := fun q : Pool => Good cap L R ((q.createTask m isMap).continueSpawner m)) (fun hz => ?_) (fun hz => ?_)
  · let q : Pool := { p with sem := p.sem.wakeNext.1 }
    have hf := semSched_mapFrame p p.sem.wakeNext.1 p.sem.wakeNext.2
    have es := semSched_sem p p.sem.wakeNext.1 p.sem.wakeNext.2
    refine good_createContinue _ m isMap (hS.semSched _ _) ?_ ?_ (hf.mid hmap hlt) (Nat.lt_of_lt_of_le hlt hf.reqs.len)
      (hf.atReq hacc hlt (fun c fr fr' x _ => PW.ff c fr fr' x))
      (reqAt_schedOpt (p := q) hnw _ (fun _ h => h))
      ((tame_schedOpt _ _).cok _ (hcn.frame (fun i x => Sem.wakeNext_own p.sem i x) (fun _ r' a => Or.inl ⟨r', a, CSame.refl r'⟩)))
      (reqAt_schedOpt (p := q) hsn _ (fun _ hx => hx))
    · cases cap with
      | fin n =>
        obtain ⟨v, hv, hs⟩ := hpre
        have hpos : 0 < v := by
          rcases Nat.eq_zero_or_pos v with rfl | h
          · rw [hv] at hz; cases hz
          · exact h
        obtain ⟨v', h1, h2⟩ := Sem.wakeNext_effect p.sem v hv hpos
        exact ⟨v', by rw [es]; exact h1, by rw [es, semSched_tasks]; omega⟩
      | inf =>
        have := Sem.wakeNext_inf p.sem hpre.1 hpre.2
        exact ⟨by rw [es]; exact this.1, by rw [es]; exact this.2⟩
    · -- `_wake_up_next` re-establishes the no-lost-wake-up invariant outright
      intro _ v _ _ hgr
      rw [es] at hgr ⊢
      exact Sem.wakeNext_wake p.sem hgr
  · refine good_createContinue p m isMap hS hpre ?_ hmap hlt hacc hnw hcn hsn
    intro _ v hv hpos
    rw [hv] at hz
    cases v with
    | zero => omega
    | succ n => exact absurd rfl hz

theorem roomGranted_good {cap : Cap} {L R : Bool} (p : Pool) (m : Nat) (r : Req) (hS : GoodS L R p) (hpre : SlotPre cap p)
    (hmap : MapOK p) (hlt : m < p.reqs.length)
    (hfr : ReqAt p m (fun x => x.frame = .waitRoom ∧ x.kind = r.kind)) (hacc : AccOK p)
    (hcn : CancEx (· = m) p) (hsn : SnapNone p m) :
    Good cap L R (p.roomGranted m r) := by
  unfold roomGranted
  dsimp only
  refine roomGranted_tail (p.modReq m fun x => { x with frame := MFrame.running }) m (r.kind == .map) (hS.semReqs p.sem _) hpre ?_
    ((List.length_modify ..).symm ▸ hlt) ?_ (reqAt_modReq_new _ m _ _ fun _ => nofun) (hcn.modReqSelf _ (fun _ _ => ⟨rfl, Or.inl ⟨rfl, rfl⟩⟩))
    (ReqAt.modReq hsn _ (fun _ hx => hx))
  rotate_left
  · -- the books of a spawner that was suspended in `_start_task`
    refine (hacc.atReq m).modReq _ (fun _ => rfl) ?_
    intro x hx hp
    have hfx := (hfr x hx).1
    refine ⟨fun hk => ?_, fun hk => ?_⟩
    · exact ⟨hp.applyEq hk, (hp.1 hk).2.1 hfx⟩
    · obtain ⟨a, b, c, d, _⟩ := hp.2 hk
      exact ⟨hk, a, d (Or.inl hfx), rfl⟩
  -- the ghost frame: the map slot a map spawner carried is now in flight
  refine (hmap.mid m).modReq _ _ ?_ (fun _ _ ho => ho) (fun _ => rfl) (fun _ _ _ _ hf => nomatch hf)
  intro x v hx hv
  have hp : Req.pend { x with frame := MFrame.running } = 0 := Req.pend_zero nofun
  obtain ⟨hf, hk⟩ := hfr x hx
  refine ⟨v, hv, ?_⟩
  show ((v + grantsL x.mapSem.waiters + _ : Nat) : Int) + _ = _
  rw [hp]
  rw [Req.pend_waitRoom hf, hk]
  cases hkr : r.kind with
  | apply => rfl
  | map => rw [hmap.acq m x hx (hk.trans hkr) hf]; rfl

/-- a spawner that is neither over nor doomed has not been cancelled since it was last suspended: it has no snapshot -/
theorem _root_.Taskpool.CancOK.snapNone {p : Pool} {m : Nat} (h : CancOK p)
    (hn : ReqAt p m (fun x => x.frame ≠ .done ∧ ¬ DoomedAt p m x)) : SnapNone p m := by
  intro x hx
  cases hs : x.cancelSnap with
  | none => rfl
  | some cu =>
    obtain ⟨_, _, hd⟩ := h m x cu.1 cu.2 hx hs
    exact absurd (hd.resolve_left id) (not_or.mpr (hn x hx))

/-- the spawner's waiter entry leaves the queue: a slot it had been granted is now set aside for the task to come -/
theorem slotPre_dropWaiter {cap : Cap} {p : Pool} (h : SlotOK cap p) (m : Nat)
    (hst : (removeWaiterL m p.sem.waiters).1 = some .granted) : SlotPre cap (p.dropWaiter m) := by
  cases cap with
  | fin n =>
    obtain ⟨v, hv, hs⟩ := h
    have := removeWaiterL_grants m p.sem.waiters
    rw [if_pos hst] at this
    exact ⟨v, hv, by show v + (heldL p.tasks + 1) + grantsL (removeWaiterL m p.sem.waiters).2 = n; omega⟩
  | inf => exact ⟨h.1, by show (removeWaiterL m p.sem.waiters).2 = []; rw [h.2]; rfl⟩

theorem slotOK_dropWaiter {cap : Cap} {p : Pool} (h : SlotOK cap p) (m : Nat)
    (hst : (removeWaiterL m p.sem.waiters).1 ≠ some .granted) : SlotOK cap (p.dropWaiter m) := by
  cases cap with
  | fin n =>
    obtain ⟨v, hv, hs⟩ := h
    have := removeWaiterL_grants m p.sem.waiters
    rw [if_neg hst] at this
    exact ⟨v, hv, by show v + heldL p.tasks + grantsL (removeWaiterL m p.sem.waiters).2 = n; omega⟩
  | inf => exact ⟨h.1, by show (removeWaiterL m p.sem.waiters).2 = []; rw [h.2]; rfl⟩

/-- a spawner that ends while it carries a map slot it has just handed back: the books balance again -/
theorem mapOK_finishMeta_carried {p : Pool} {m : Nat} (o : Outcome) (h : MapMid p m (-1))
    (hat : ReqAt p m (fun x => x.pend = 1)) : MapOK (p.finishMeta m o) := by
  unfold finishMeta
  split
  · rename_i hn
    refine ⟨h.ref, ?_, h.wk, h.acq⟩
    intro m' r hr
    obtain ⟨v, hv, hs, hs2⟩ := h.le m' r hr
    have : m' ≠ m := by intro e; subst e; rw [hn] at hr; cases hr
    simp only [this, if_false] at hs hs2
    exact ⟨v, hv, by omega, fun ho => by have := hs2 ho; omega⟩
  · rename_i r hr
    refine Tame.map (tame_emitChildren _ _) ?_
    refine MapMid.ok (m := m) (k := 0) ?_
    refine h.modReq _ 0 ?_ (fun _ _ ho => nomatch ho) (fun _ => rfl) (fun _ _ _ _ hf => nomatch hf)
    intro x v hx hv
    refine ⟨v, hv, ?_⟩
    have hp : Req.pend { x with frame := MFrame.done, outcome := some (if (o == Outcome.ok && r.mustCancel) = true then Outcome.cancelled else o), sched := false, mustCancel := false } = 0 :=
      Req.pend_zero nofun
    show ((v + grantsL x.mapSem.waiters + _ : Nat) : Int) + 0 = _
    rw [hp, hat x hx]
    omega

/-- `CancelledError` inside `_enough_room.acquire()`: a granted pool slot goes back, and so does the map slot a map
spawner carried -/
theorem roomWaitCancelled_good {cap : Cap} {L R : Bool} (p : Pool) (m : Nat) (r : Req) (st : Option WaitSt) (hS : GoodS L R p)
    (hpre : st = some .granted → SlotPre cap p) (hok : st ≠ some .granted → SlotOK cap p ∧ WakeOK p) (hmap : MapOK p)
    (hlt : m < p.reqs.length)
    (hfr : ReqAt p m (fun x => x.frame = .waitRoom ∧ x.kind = r.kind ∧ x.acquired = r.acquired))
    (hacc : AccOK p) (hcn : CancEx (· = m) p) :
    Good cap L R (p.roomWaitCancelled m r st) := by
  unfold roomWaitCancelled
  dsimp only
  -- the books of the pool semaphore: a slot the entry had been granted goes back (`SlotPre` to `SlotOK`); else nothing moves
  have key := dite_keeps (c := (st == some WaitSt.granted) = true) (a := p.releasePool) (b := p)
    (P := fun q : Pool => (Good0 cap L R q ∧ MapOK q ∧ AccOK q ∧ CancEx (· = m) q) ∧
      ReqAt q m (fun x => x.frame = .waitRoom ∧ x.kind = r.kind ∧ x.acquired = r.acquired) ∧ m < q.reqs.length)
    (fun h => ?_) (fun h => ?_)
  rotate_left
  · have hst : st = some .granted := by simpa using h
    have hslot : SlotOK cap p.releasePool := by
      cases cap with
      | fin n =>
        obtain ⟨v, hv, hs⟩ := hpre hst
        obtain ⟨v', h1, h2⟩ := Sem.release_effect p.sem v hv
        refine ⟨v', releasePool_sem p ▸ h1, ?_⟩
        rw [releasePool_sem, releasePool_tasks]; omega
      | inf => exact releasePool_inf p (hpre hst).1 (hpre hst).2
    exact ⟨⟨(hS.semSched _ _).good0 hslot (wakeOK_releasePool p), (mapFrame_releasePool p).map hmap,
      (mapFrame_releasePool p).acc hacc, cancOK_releasePool p hcn⟩, reqAt_releasePool hfr (fun _ h => h),
      Nat.lt_of_lt_of_le hlt (mapFrame_releasePool p).reqs.len⟩
  · have hst : ¬ st = some .granted := by simpa using h
    exact ⟨⟨hS.good0 (hok hst).1 (hok hst).2, hmap, hacc, hcn⟩, hfr, hlt⟩
  obtain ⟨⟨k0, kmap, kacc, kcn⟩, kat, klt⟩ := key
  -- the books of the call's own semaphore: `releaseMap` hands a carried map slot back (`MapMid … (-1)`: it is still entered
  -- as carried), `finishMeta` drops the entry (`mapOK_finishMeta_carried`).
  -- The condition by cases, not by `split`, which is slow on a goal of this size
  by_cases hc : (r.kind == .map && r.acquired) = true
  · rw [if_pos hc]
    have hkm : r.kind = .map ∧ r.acquired = true := by simpa using hc
    refine ⟨(Tame0.trans (tame0_releaseMap _ m) (tame_finishMeta _ m _).toTame0).good0 k0, ?_,
      (tame_finishMeta _ m _).acc (((accFrame_releaseMap' _ m).2 (kacc.atReq m)).ok fun _ _ x => x),
      CancEx.close ((tame_finishMeta _ m _).cok _ (cancOK_releaseMap _ m kcn)) (fun x _ _ hx _ => Or.inl (finishMeta_frame _ m _ x hx))⟩
    refine mapOK_finishMeta_carried _ (mapMid_releaseMap (k := -1) (kmap.mid m) klt) ?_
    refine reqAt_releaseMap ?_ (fun _ h => h) (fun _ _ h => h)
    intro x hx
    obtain ⟨a, b, c⟩ := kat x hx
    rw [Req.pend_waitRoom a, b, c, hkm.1, hkm.2]; rfl
  · rw [if_neg hc]
    exact ⟨(tame_finishMeta _ m _).toTame0.good0 k0, (tame_finishMeta _ m _).map kmap, (tame_finishMeta _ m _).acc kacc,
      CancEx.close ((tame_finishMeta _ m _).cok _ kcn) (fun x _ _ hx _ => Or.inl (finishMeta_frame _ m _ x hx))⟩

/-- a spawner resumed inside `_enough_room.acquire()` -/
theorem good_wakeWaitRoom {cap : Cap} {L R : Bool} (p : Pool) (m : Nat) (r : Req) (hg : Good cap L R p)
    (hlt : m < p.reqs.length)
    (hfr : ReqAt p m (fun x => x.frame = .waitRoom ∧ x.kind = r.kind ∧ x.acquired = r.acquired))
    (hmc : ReqAt p m (fun x => x.mustCancel = r.mustCancel)) :
    Good cap L R (p.wakeWaitRoom m r) := by
  -- `st`: the state the spawner's waiter entry was in, `q`: the pool without that entry
  generalize hst : (removeWaiterL m p.sem.waiters).1 = st
  generalize hq : (p.dropWaiter m).modReq m (fun x => { x with mustCancel := false }) = q
  obtain ⟨hS, hmp, hac⟩ : GoodS L R q ∧ MapOK q ∧ AccOK q := by
    subst hq
    have ht := mapFrame_modReq (p.dropWaiter m) m fun x => { x with mustCancel := false }
    exact ⟨hg.toS.semReqs _ _, ht.map (hg.map.of_eq rfl rfl), ht.acc (hg.acc.of_eq rfl rfl)⟩
  have hpre : st = some .granted → SlotPre cap q := by subst hq hst; exact slotPre_dropWaiter hg.slot m
  -- without a granted slot in the removed entry no wake-up is lost (fewer waiters, same grants)
  have hok : st ≠ some .granted → SlotOK cap q ∧ WakeOK q := by
    subst hq hst; exact fun hng => ⟨slotOK_dropWaiter hg.slot m hng, fun hr => Sem.wakeInv_remove p.sem m (hg.wk hr) hng⟩
  have hlt2 : m < q.reqs.length := by subst hq; exact (List.length_modify ..).symm ▸ hlt
  have hfr2 : ReqAt q m (fun x => x.frame = .waitRoom ∧ x.kind = r.kind ∧ x.acquired = r.acquired) := by
    subst hq; exact ReqAt.modReq (p := p.dropWaiter m) hfr _ (fun _ h => h)
  -- cancelled spawners: everybody else's waiter entry stays, `m` itself is exempt while it runs
  have hcn2 : CancEx (· = m) q := by
    subst hq
    refine (hg.canc.ex (· = m)).frameEx fun i r' h' => ?_
    rcases getElem?_modify_split h' with ⟨rfl, x, hx, rfl⟩ | ⟨ne, hx⟩
    · exact Or.inl ⟨x, hx, Or.inr ⟨rfl, rfl, rfl, rfl⟩⟩
    · exact Or.inl ⟨r', hx, Or.inl ⟨CSame.refl r', ownCancelled_remove m i _ fun e => ne e.symm⟩⟩
  refine wakeWaitRoom_elim p m r st q hst.symm hq.symm (fun _ _ _ => hg)
    (fun _ => roomWaitCancelled_good q m r st hS hpre hok hmp hlt2 hfr2 hac hcn2) fun hn1 hn2 hgr => ?_
  -- the wake-up was not a cancellation: the spawner has never been cancelled while it waited
  have hsn2 : SnapNone q m := by
    subst hq hst
    refine ReqAt.modReq (p := p.dropWaiter m) (hg.canc.snapNone fun x hx => ⟨by rw [(hfr x hx).1]; nofun, ?_⟩) _ (fun _ hx => hx)
    rintro (hd | ⟨_, hd⟩ | ⟨hd, _⟩)
    · rw [hmc x hx, hn2] at hd; cases hd
    · exact hn1 hd
    · rw [(hfr x hx).1] at hd; cases hd
  exact roomGranted_good q m r hS (hpre hgr) hmp hlt2 (fun x hx => ⟨(hfr2 x hx).1, (hfr2 x hx).2.1⟩) hac hcn2 hsn2

/-- the call's own semaphore handed the spawner a slot: it is in flight until the task is created or the spawner
starts waiting for room; one element is in hand -/
theorem good_mapSemGranted {cap : Cap} {L R : Bool} (p : Pool) (m : Nat) (r : Req)
    (h : SpSt cap L R p m 1 (PM r.items.length 1)) (hsn : SnapNone p m) : Good cap L R (p.mapSemGranted m r) := by
  unfold mapSemGranted
  simp only
  let q := p.modReq m fun x => { x with acquired := true, frame := MFrame.running }
  have h1 : SpSt cap L R q m 1 (PM r.items.length 1) :=
    h.modReq' _ _ (fun x => ⟨rfl, rfl, Or.inr rfl, fun h => h⟩) (fun _ _ _ _ hf => nomatch hf) (fun _ => rfl) (fun x _ hp => hp)
  have hacq : ReqAt q m (fun r => r.acquired = true) := reqAt_modReq_new _ m _ _ (fun _ => rfl)
  have hsn1 : SnapNone q m := ReqAt.modReq hsn _ (fun _ hx => hx)
  split
  · rename_i hb
    obtain ⟨h2, hsn2⟩ := spSt_mapStartTask _ m _ h1 hsn1 hb
    exact good_mapLoop m _ _ h2 hsn2
  · rename_i hb
    exact good_mapStartTask _ m _ h1 hacq hsn1 (by simpa using hb)

/-- the tail of `acquire()` of the call's own semaphore after the wake-up, on the semaphore `s` without the spawner's
entry (`g`: the entry had been granted, `c`: the spawner was cancelled): the books change by the slot that is now in
flight, and no wake-up is lost -/
theorem mapWake_facts (s : Sem) (g c : Bool) (s2 : Sem × Option Nat)
    (hs2 : s2 = if g = true then (if c = true then s.release else if (!s.value.isZero) = true then s.wakeNext else (s, none))
      else (s, none))
    (v : Nat) (hv : s.value = .fin v) (hw : g = false → s.WakeInv)
    (G : Nat) (hG : grantsL s.waiters + (if g = true then 1 else 0) = G) :
    ∃ v', s2.1.value = .fin v' ∧
      ((v' + grantsL s2.1.waiters : Nat) : Int) + (if (g && !c) = true then 1 else 0) = (v + G : Nat) ∧ s2.1.WakeInv := by
  subst hs2 hG
  -- every `if` below has a closed Boolean condition: the sums agree by unfolding
  cases g with
  | false => exact ⟨v, hv, Int.add_zero _, hw rfl⟩
  | true =>
    rw [if_pos rfl]
    cases c with
    | true =>
      rw [if_pos rfl]
      obtain ⟨v', a, b⟩ := Sem.release_effect s v hv
      refine ⟨v', a, ?_, fun _ _ _ hgr => Sem.release_wake _ hgr⟩
      rw [b, Nat.add_right_comm]
      exact Int.add_zero _
    | false =>
      rw [if_neg Bool.false_ne_true]
      cases v with
      | zero =>
        have hz : s.value.isZero = true := by rw [hv]; rfl
        rw [hz, Bool.not_true, if_neg Bool.false_ne_true]
        exact ⟨0, hv, rfl, fun v' hv' hp => by rw [hv] at hv'; cases hv'; omega⟩
      | succ n =>
        have hz : s.value.isZero = false := by rw [hv]; rfl
        rw [hz, Bool.not_false, if_pos rfl]
        obtain ⟨v', a, b⟩ := Sem.wakeNext_effect s (n + 1) hv (Nat.succ_pos n)
        exact ⟨v', a, by rw [b]; rfl, fun _ _ _ hgr => Sem.wakeNext_wake _ hgr⟩

/-- a spawner resumed inside `acquire()` of the call's own semaphore -/
theorem good_wakeWaitMapSem {cap : Cap} {L R : Bool} (p : Pool) (m : Nat) (r : Req) (hg : Good cap L R p)
    (hlt : m < p.reqs.length)
    (hat : ReqAt p m (fun x => x.mapSem = r.mapSem ∧ x.frame = .waitMapSem ∧ x.items.length = r.items.length))
    (hmc : ReqAt p m (fun x => x.mustCancel = r.mustCancel)) :
    Good cap L R (p.wakeWaitMapSem m r) := by
  generalize hst : (removeWaiterL m r.mapSem.waiters).1 = st
  generalize hc : (st == some WaitSt.cancelled || r.mustCancel) = c
  generalize hgr : (st == some WaitSt.granted) = g
  obtain ⟨x0, hx0⟩ : ∃ x, p.reqs[m]? = some x := ⟨p.reqs[m], List.getElem?_eq_getElem hlt⟩
  obtain ⟨v0, hv0, _⟩ := hg.map.le m x0 hx0
  have hv0' : r.mapSem.value = .fin v0 := by rw [← (hat x0 hx0).1]; exact hv0
  have hw0 : r.mapSem.WakeInv := by rw [← (hat x0 hx0).1]; exact hg.map.wk m x0 hx0
  generalize hs1 : ({ r.mapSem with waiters := (removeWaiterL m r.mapSem.waiters).2 } : Sem) = s1
  generalize hs2 : (if g = true then (if c = true then s1.release else if (!s1.value.isZero) = true then s1.wakeNext else (s1, none))
    else (s1, none)) = s2
  -- the books of the call's own semaphore across the tail of `acquire()`; `h0` enters them in `SpSt`
  obtain ⟨v', f1, f2, f3⟩ := mapWake_facts s1 g c s2 hs2.symm v0 (hs1 ▸ hv0')
    (fun hgf => hs1 ▸ Sem.wakeInv_remove r.mapSem m hw0 (by rw [hst, ← beq_eq_false_iff_ne, hgr]; exact hgf))
    (grantsL r.mapSem.waiters)
    (by rw [← hgr, ← hs1, ← hst]; simp only [beq_iff_eq]; exact removeWaiterL_grants m r.mapSem.waiters)
  generalize hq : (p.modReq m fun x => { x with mapSem := s2.1, mustCancel := false }).schedOpt s2.2 = q
  have h0 : SpSt cap L R q m (if (g && !c) = true then 1 else 0)
      (fun c fr => AccReq c fr 0 ∧ fr = .waitMapSem ∧ c.left = r.items.length) := by
    subst hq
    refine SpSt.schedOpt ?_ _
    refine (hg.sp m hlt (fun x hx => by rw [(hat x hx).2.1]; exact nofun)).modReq _ _ _ ?_ (fun _ _ ho => ho) (fun _ => rfl)
      (fun _ _ ha => ha) (fun _ => rfl) ?_ (fun _ h => h) (fun _ _ _ => f3)
    · intro x v hx hv
      have hxm := (hat x hx).1
      rw [hxm] at hv
      rw [hv0'] at hv; cases hv
      refine ⟨v', f1, ?_⟩
      show ((v' + grantsL s2.1.waiters + x.pend : Nat) : Int) + _ = ((v0 + grantsL x.mapSem.waiters + x.pend : Nat) : Int) + 0
      rw [hxm]
      generalize v' + grantsL s2.1.waiters = a at f2 ⊢
      generalize v0 + grantsL r.mapSem.waiters = b at f2 ⊢
      generalize (if (g && !c) = true then (1 : Int) else 0) = k' at f2 ⊢
      rw [Int.natCast_add, Int.natCast_add, Int.add_right_comm, f2, Int.add_zero]
    · intro x hx hp
      have := hat x hx
      exact ⟨hp, this.2.1, this.2.2⟩
  refine wakeWaitMapSem_elim p m r st s1 s2 q hst.symm hs1.symm (by rw [hc, hgr]; exact hs2.symm) hq.symm (fun _ _ _ => hg)
    (fun hcan => ?_) fun hn1 hn2 hgt => ?_
  · -- cancelled while waiting for its own semaphore: a granted slot went back inside `acquire()`, the spawner ends
    have hct : c = true := by rw [← hc]; simpa using hcan
    rw [hct, Bool.not_true, Bool.and_false, if_neg Bool.false_ne_true] at h0
    exact good_finishMetaSp _ m _ h0 (Int.le_refl 0) (fun c fr x => x.1.frame (Or.inr (Or.inl rfl)))
  · have hcf : c = false := by rw [← hc, hn2, Bool.or_false]; exact beq_eq_false_iff_ne.mpr hn1
    have hgt' : g = true := by rw [← hgr]; exact beq_iff_eq.mpr hgt
    rw [hcf, hgt', Bool.not_false, Bool.and_true, if_pos rfl] at h0
    -- the wake-up was not a cancellation: the spawner has never been cancelled while it waited
    have hsn : SnapNone q m := by
      subst hq
      suffices a : SnapNone p m from
        reqAt_schedOpt (ReqAt.modReq a (fun x => { x with mapSem := s2.1, mustCancel := false }) (fun _ hx => hx)) _ (fun _ hx => hx)
      refine hg.canc.snapNone fun x hx => ⟨by rw [(hat x hx).2.1]; nofun, ?_⟩
      rintro (hd | ⟨hd, _⟩ | ⟨_, hd⟩)
      · rw [hmc x hx, hn2] at hd; cases hd
      · rw [(hat x hx).2.1] at hd; cases hd
      · rw [(hat x hx).1, show ownCancelled m r.mapSem.waiters = ((removeWaiterL m r.mapSem.waiters).1 = some .cancelled) from rfl, hst] at hd
        exact hn1 hd
    refine good_mapSemGranted _ m r (h0.weaken ?_) hsn
    intro x _ hp
    -- suspended on its own semaphore: a map request with one element in hand
    obtain ⟨ha, hf, hl⟩ := hp
    have hkm : x.cnt.kind = .map := by
      cases hk : x.cnt.kind with
      | map => rfl
      | apply => exact absurd hf (ha.1 hk).2.2
    obtain ⟨a, b, c', d, _⟩ := ha.2 hkm
    exact ⟨hkm, a, d (Or.inr hf), hl⟩

theorem good_stepMeta {cap : Cap} {L R : Bool} (p : Pool) (m : Nat) (hg : Good cap L R p) : Good cap L R (p.stepMeta m) := by
  unfold stepMeta
  cases hr : p.reqs[m]? with
  | none => exact hg
  | some r =>
    refine dite_keeps (P := Good cap L R) (fun _ => hg) fun _ => ?_
    have hlt : m < p.reqs.length := lt_of_getElem?_some hr
    let q := p.modReq m fun x => { x with sched := false }
    have hg0 : Good cap L R q := (tame_modReq p m _).good hg
    have hlt0 : m < q.reqs.length := (List.length_modify ..).symm ▸ hlt
    have hat : ∀ P : Req → Prop, P { r with sched := false } → ReqAt q m P := by
      intro P hP x hx
      obtain ⟨y, hy, rfl⟩ := getElem?_modify_self hx
      rw [hr] at hy; cases hy
      exact hP
    have hnw : ∀ x, q.reqs[m]? = some x → r.frame = .notStarted →
        x.frame ≠ .waitRoom := fun x hx hf => by
      rw [hat (fun y => y.frame = r.frame) rfl x hx, hf]; exact nofun
    cases hf : r.frame with
    | done => exact hg0
    | running => exact hg0
    | waitRoom => exact good_wakeWaitRoom _ m r hg0 hlt0 (hat _ ⟨hf, rfl, rfl⟩) (hat _ rfl)
    | waitMapSem => exact good_wakeWaitMapSem _ m r hg0 hlt0 (hat _ ⟨rfl, hf, rfl⟩) (hat _ rfl)
    | notStarted =>
      show Good cap L R (stepMetaNotStarted _ m r)
      unfold stepMetaNotStarted
      refine dite_keeps (P := Good cap L R) (fun _ => (tame_finishMeta _ m _).good hg0) fun hnm => ?_
      -- not cancelled before it began: no snapshot
      have hsn : SnapNone q m := hg0.canc.snapNone fun x hx => by
        have e := hat (fun y => y.frame = r.frame ∧ y.mustCancel = r.mustCancel) ⟨rfl, rfl⟩ x hx
        refine ⟨by rw [e.1, hf]; nofun, ?_⟩
        rintro (hd | ⟨hd, _⟩ | ⟨hd, _⟩)
        · rw [e.2] at hd; exact hnm hd
        · rw [e.1, hf] at hd; cases hd
        · rw [e.1, hf] at hd; cases hd
      -- the loop predicate at the head of the loop, from `AccReq` at frame `notStarted`
      cases hk : r.kind with
      | apply =>
        refine good_applyLoop m _ _ ((hg0.sp m hlt0 fun x hx => hnw x hx hf).weaken fun x hx hp => ?_) hsn
        have e := hat (fun y => y.kind = r.kind ∧ y.cnt.remaining = r.remaining) ⟨rfl, rfl⟩ x hx
        have hka : x.kind = .apply := e.1.trans hk
        exact ⟨hka, e.2 ▸ hp.applyEq hka⟩
      | map =>
        refine good_mapLoop m _ _ ((hg0.sp m hlt0 fun x hx => hnw x hx hf).weaken fun x hx hp => ?_) hsn
        have e := hat (fun y => y.kind = r.kind ∧ y.items = r.items ∧ y.frame = r.frame) ⟨rfl, rfl, rfl⟩ x hx
        have hkm : x.kind = .map := e.1.trans hk
        obtain ⟨a, b, c, d, f⟩ := hp.2 hkm
        exact ⟨hkm, a, f (e.2.2.trans hf), congrArg List.length e.2.1⟩

theorem childFinished_taskFin (p : Pool) (cs : List Child) (h : cs.all p.childFinished = true) :
    ∀ t, Child.task t ∈ cs → TaskFin p t := by
  intro t ht
  have := List.all_eq_true.mp h _ ht
  simp only [childFinished] at this
  split at this
  · rename_i k hk
    exact ⟨k, hk, by simpa using this⟩
  · cases this

/-- `_done_callback` of a gather: the count goes up; the outer future completes normally only when every child task
has finished -/
theorem tame_gatherChildDone (p : Pool) (g i b) : Tame p (p.gatherChildDone g i b) := by
  have t1 : Tame p (p.modGather g fun x => { x with nfinished := x.nfinished + 1 }) :=
    tame_modGather p g _ (fun _ => rfl) (fun _ _ h => Or.inl h)
  have t2 : ∀ G o, p.gathers[g]? = some G → (o == .ok && !(G.children.all p.childFinished)) = false →
      Tame p ((p.modGather g fun x => { x with nfinished := x.nfinished + 1 }).modGather g fun x => { x with outer := some o }) := by
    intro G o hG hdef
    refine t1.trans (tame_modGather _ g _ (fun _ => rfl) fun G1 hG1 hok => Or.inr ?_)
    have e : o = .ok := by simpa using hok
    subst e
    have hch : G1.children = G.children := by
      obtain ⟨x, hx, rfl⟩ := getElem?_modify_self hG1
      rw [hG] at hx; cases hx
      rfl
    rw [hch]
    exact childFinished_taskFin p _ (by simpa using hdef)
  exact gatherChildDone_elim p g i b _ rfl (fun _ => Tame.refl p) (fun _ _ _ => Tame.refl p) (fun _ _ _ _ _ => t1)
    (fun _ _ _ _ _ _ => t1) (fun _ _ _ _ _ _ _ _ => t1)
    (fun G _ o hG _ _ _ h _ => (t2 G o hG h).trans (tame_schedApi _ _)) (fun G _ o hG _ _ _ h _ => t2 G o hG h)

theorem tame_registerChild (p : Pool) (c g i) : Tame p (p.registerChild c g i) := by
  unfold registerChild
  split
  · exact tame_modTask p _ _
  · exact tame_modReq p _ _

theorem tame_gatherScan (g : Nat) (cs : List Child) (i : Nat) (p : Pool) : Tame p (gatherScan g cs i p) := by
  induction cs generalizing i p with
  | nil => exact Tame.refl p
  | cons c cs ih =>
    unfold gatherScan
    refine Tame.trans ?_ (ih _ _)
    split
    · exact tame_gatherChildDone p g i false
    · exact tame_registerChild p c g i

theorem tame_addGather (p : Pool) (G : Gather) (amb : Bool) (hG : G.outer = some .ok → G.children = []) :
    Tame p ({ p with gathers := p.gathers ++ [G], ambiguous := amb } : Pool) := by
  refine ⟨⟨rfl, rfl, rfl, rfl, rfl, rfl, rfl, fun h => h, List.Sublist.refl _, fun _ tk' h => ⟨tk', h, rfl⟩, rfl, ?_,
    fun h => h.of_eq rfl rfl, rfl⟩, Nat.le_refl _, fun _ r' h => Or.inl ⟨r', h, MSigLe.refl r'⟩, fun _ h => h.of_eq rfl rfl,
    Mono.of_eq _ _ rfl rfl rfl⟩
  intro h
  refine ⟨?_, ?_⟩
  · intro g G' hg hok t ht
    rcases getElem?_append_one (l := p.gathers) hg with hg' | ⟨_, rfl⟩
    · exact h.gth g G' hg' hok t ht
    · rw [hG hok] at ht; cases ht
  · intro a A g ha hfr hk
    obtain ⟨G0, hG0, hsub⟩ := h.api a A g ha hfr hk
    refine ⟨G0, ?_, hsub⟩
    show (p.gathers ++ [G])[g]? = some G0
    exact getElem?_append_of hG0 _

theorem tame_gatherStart (p : Pool) (cs re owner n) : Tame p (p.gatherStart cs re owner n).1 := by
  unfold gatherStart
  simp only
  refine Tame.trans ?_ (tame_gatherScan _ _ _ _)
  refine tame_addGather p _ _ ?_
  intro h
  simp only at h
  split at h
  · rename_i he; simpa using he
  · cases h

theorem tame_finishApi (p : Pool) (a o) : Tame p (p.finishApi a o) := tame_modApi p a _ (hf := fun _ _ _ h => nomatch h)

def ApiAt (p : Pool) (a : Nat) (P : Api → Prop) : Prop := ∀ x, p.apis[a]? = some x → P x

/-- the last step of `flush`: nothing is lost, because every task of the cancelled snapshot has finished — hence has
handed back its slot and left the cancelled registry -/
theorem good_flushAfter2 {cap : Cap} {L R : Bool} (p : Pool) (a) (hg : Good cap L R p)
    (hdone : ∀ t ∈ (p.apis[a]?.getD default).snapC, TaskFin p t) : Good cap L R (p.flushAfter2 a .ok) := by
  refine (tame_finishApi _ a _).good ?_
  have hnone : p.lost = false → (p.cancelledR.any fun t => (p.apis[a]?.getD default).snapC.contains t && p.heldB t) = false := by
    intro hl
    rw [List.any_eq_false]
    intro t ht hc
    simp only [Bool.and_eq_true] at hc
    obtain ⟨tk, a1, b1⟩ := hdone t (by simpa using hc.1)
    have hrel : tk.released = true := ((hg.life t tk a1).fin b1 hl).1
    obtain ⟨tk', a2, b2, _⟩ := hg.reg.can t ht
    rw [a1] at a2; cases a2
    rw [hrel] at b2; cases b2
  refine ⟨⟨hg.slot, hg.phase, ?_, hg.grp.of_eq rfl rfl, hg.life.lostMono rfl (fun h => by show (p.lost || _) = true; rw [h]; rfl),
    hg.fl.frame rfl rfl (fun _ h => h), hg.wk.of_eq rfl rfl, hg.rz,
    fun h => by show (p.lost || _) = false; rw [hg.ll h, hnone (hg.ll h)]; rfl, hg.al⟩, hg.map.of_eq rfl rfl,
    hg.acc.of_eq rfl rfl, hg.canc.of_eq rfl rfl⟩
  exact hg.reg.flushForget _ _ _ rfl rfl rfl rfl (by simp)

/-- a background call enters its second gather `g`: of a `flush`, `FlushOK.api` demands that the gather awaits the
tasks of its snapshot -/
theorem tame_gather2 (p : Pool) (a g : Nat)
    (h : ∀ x, p.apis[a]? = some x → x.kind.isGac = false →
      ∃ G : Gather, p.gathers[g]? = some G ∧ ∀ t ∈ x.snapC, Child.task t ∈ G.children) :
    Tame p (p.modApi a fun x => { x with frame := .gather2 g }) := by
  refine tame_modApi_of p a _ (fun _ => rfl) fun hf => ⟨hf.gth, fun i A' g' hi hfr' hk => ?_⟩
  rcases getElem?_modify_split hi with ⟨rfl, x, hx, rfl⟩ | ⟨_, hx⟩
  · cases hfr'
    exact h x hx hk
  · exact hf.api i A' g' hx hfr' hk

/-- a gather that has completed normally and has every task filed as running or cancelled among its children: none of
those tasks still holds its slot (all have finished, hence — no task was lost — handed it back) -/
theorem noHeld_of_gather {cap : Cap} {L R : Bool} {p : Pool} (hg : Good cap L R p) (hl : p.lost = false) (g : Nat) (G : Gather)
    (hG : p.gathers[g]? = some G) (ho : G.outer = some .ok)
    (hsub : ∀ t ∈ p.running ++ p.cancelledR, Child.task t ∈ G.children) :
    (p.running ++ p.cancelledR).any p.heldB = false := by
  rw [List.any_eq_false]
  intro t ht hc
  obtain ⟨tk, a1, b1⟩ := hg.fl.gth g G hG ho t (hsub t ht)
  have hrel : tk.released = true := ((hg.life t tk a1).fin b1 hl).1
  simp only [heldB, a1, hrel, Bool.not_true, Bool.false_eq_true] at hc

/-- the closing step; in the strict variant it needs that nothing it drops still holds its slot -/
theorem good_gacAfter2 {cap : Cap} {L R : Bool} (p : Pool) (a) (hg : Good cap L R p)
    (hsafe : L = false → (p.running ++ p.cancelledR).any p.heldB = false) : Good cap L R (p.gacAfter2 a .ok) := by
  refine (tame_finishApi _ a _).good ?_
  refine (tame_foldl _ _ (fun p w => tame_schedApi p w) _).good ?_
  exact ⟨⟨hg.slot, hg.phase, hg.reg.gacClear _ rfl rfl rfl rfl rfl, hg.grp.of_eq rfl rfl,
    hg.life.lostMono rfl (fun h => by show (p.lost || _) = true; rw [h]; rfl), hg.fl.frame rfl rfl (fun _ h => h), hg.wk.of_eq rfl rfl, hg.rz,
    fun h => by show (p.lost || _) = false; rw [hg.ll h, hsafe h]; rfl, hg.al⟩,
    hg.map.of_eq rfl rfl, hg.acc.of_eq rfl rfl, hg.canc.of_eq rfl rfl⟩

/-- what the closing stage of a `gather_and_close` needs in the strict variant: its second gather has every task that
is filed as running or cancelled among its children (`SealOK.g2`, `Inv/Seal.lean`) -/
def GacAwaitsAll (p : Pool) : Prop :=
  ∀ (a : Nat) (A : Api) (g : Nat), p.apis[a]? = some A → A.kind.isGac = true → A.frame = .gather2 g →
    ∃ G : Gather, p.gathers[g]? = some G ∧ ∀ t ∈ p.running ++ p.cancelledR, Child.task t ∈ G.children

/-- `Good` while call `a` of kind `k` runs: the record keeps its kind and is not in frame `gather2` before the second gather
is started; once that gather has completed normally, what the call is about to drop has finished (`FlushOK.gth`) -/
structure GoodAt (cap : Cap) (L R : Bool) (a : Nat) (k : ApiKind) (c : Hand) (p : Pool) : Prop where
  good : Good cap L R p
  rc : ApiAt p a fun x => x.kind = k ∧ (c.second = false → ∀ g, x.frame ≠ .gather2 g)
  fin : ∀ g, c = .got true g .ok → (∀ re, k = .flush re → ∀ t ∈ (p.apis[a]?.getD default).snapC, TaskFin p t) ∧
    ∀ re, k = .gac re → L = false → (p.running ++ p.cancelledR).any p.heldB = false

/-- right after a gather was started; the second one awaits the tasks of the cancelled-registry snapshot (`flush`) resp.
every task filed as running or cancelled (`gather_and_close`) -/
structure GoodG (cap : Cap) (L R : Bool) (a : Nat) (k : ApiKind) (b : Bool) (q : Pool × Nat) : Prop where
  good : Good cap L R q.1
  rc : ApiAt q.1 a fun x => x.kind = k ∧ (b = false → ∀ g, x.frame ≠ .gather2 g)
  chF : b = true → ∀ re, k = .flush re → ∃ G : Gather, q.1.gathers[q.2]? = some G ∧
    ApiAt q.1 a fun x => ∀ t ∈ x.snapC, Child.task t ∈ G.children
  chG : b = true → ∀ re, k = .gac re → L = false → ∃ G : Gather, q.1.gathers[q.2]? = some G ∧
    ∀ t ∈ q.1.running ++ q.1.cancelledR, Child.task t ∈ G.children

theorem good_staged {cap : Cap} {L R : Bool} (a : Nat) : ApiStaged (GoodAt cap L R a) (GoodG cap L R a) (Good cap L R) a where
  headF1 := fun re p n h => by
    have h1 : Tame p ({ p with reqs := p.reqs.map fun (r : Req) => if r.inRunning && r.outcome.isSome then { r with inRunning := false } else r } : Pool) :=
      tame_of_eq _ _ rfl rfl (.map _ fun x => by split <;> exact ⟨.of_eq, .of_eq⟩)
    refine ⟨(h1.trans (tame_gatherStart _ _ _ _ _)).good h.good, fun x hx => ?_, nofun, nofun⟩
    rw [(gatherStart_new _ _ _ _ _).1] at hx
    exact h.rc x hx
  headF2 := fun re p g o h => by
    have h1 : Tame p ({ p with metaCancelled := [], reqs := p.reqs.map fun (r : Req) => { r with inCancelled := false } } : Pool) := tame_of_eq _ _ rfl rfl (.map _ fun _ => ⟨.of_eq, .of_eq⟩)
    have h2 := tame_modApi ({ p with metaCancelled := [], reqs := p.reqs.map fun (r : Req) => { r with inCancelled := false } } : Pool) a (fun x => { x with snapE := p.ended, snapC := p.cancelledR }) (fun _ => rfl)
      (fun x hx g h' => absurd h' ((h.rc x hx).2 rfl g))
    obtain ⟨hap, G, hG, hch, _⟩ := gatherStart_new (({ p with metaCancelled := [], reqs := p.reqs.map fun (r : Req) => { r with inCancelled := false } } : Pool).modApi a fun x => { x with snapE := p.ended, snapC := p.cancelledR })
      (p.ended.map Child.task ++ p.cancelledR.map Child.task) re a 0
    have hrec : ApiAt ((({ p with metaCancelled := [], reqs := p.reqs.map fun (r : Req) => { r with inCancelled := false } } : Pool).modApi a fun x => { x with snapE := p.ended, snapC := p.cancelledR }).gatherStart
        (p.ended.map Child.task ++ p.cancelledR.map Child.task) re a 0).1 a fun x => x.kind = .flush re ∧ x.snapC = p.cancelledR := fun x hx => by
      rw [hap] at hx
      obtain ⟨y, hy, rfl⟩ := getElem?_modify_self hx
      exact ⟨(h.rc y hy).1, rfl⟩
    exact ⟨((h1.trans h2).trans (tame_gatherStart _ _ _ _ _)).good h.good, fun x hx => ⟨(hrec x hx).1, nofun⟩,
      fun _ _ _ => ⟨G, hG, fun x hx t ht => hch ▸ List.mem_append_right _ (List.mem_map_of_mem ((hrec x hx).2 ▸ ht))⟩, nofun⟩
  go := fun k b q o h ho => ⟨h.good, h.rc, fun g e => by
    cases e
    refine ⟨fun re hk t ht => ?_, fun re hk hl => ?_⟩
    · obtain ⟨G, hG, hsub⟩ := h.chF rfl re hk
      cases hx : q.1.apis[a]? with
      | none => rw [hx] at ht; cases ht
      | some x =>
        rw [hx] at ht
        exact h.good.fl.gth _ G hG ((gatherOuter_eq hG).symm.trans ho) t (hsub x hx t ht)
    · obtain ⟨G, hG, hsub⟩ := h.chG rfl re hk hl
      exact noHeld_of_gather h.good (h.good.ll hl) _ G hG ((gatherOuter_eq hG).symm.trans ho) hsub⟩
  suspend := fun k b q hk h ho => by
    cases b with
    | false => exact (tame_modApi _ a (fun x => { x with frame := .gather1 q.2 }) (hf := fun _ _ _ e => nomatch e)).good h.good
    | true =>
      refine (tame_gather2 _ a _ fun x hx hk' => ?_).good h.good
      cases k with
      | flush re => obtain ⟨G, hG, hsub⟩ := h.chF rfl re rfl; exact ⟨G, hG, hsub x hx⟩
      | gac re => exact nomatch ((h.rc x hx).1 ▸ hk' : (ApiKind.gac re).isGac = false)
      | untilClosed => exact absurd rfl hk
  finish := fun _ _ _ o p h _ _ _ => (tame_finishApi p a o).good h.good
  raised := fun _ p _ _ _ h _ => (tame_finishApi p a _).good h.good
  forget := fun re p g h => good_flushAfter2 p a h.good ((h.fin g rfl).1 re rfl)
  closing := fun re p g h => good_gacAfter2 p a h.good ((h.fin g rfl).2 re rfl)
  seenClosed := fun p h _ => (tame_finishApi p a _).good h.good
  waitClosed := fun p h _ =>
    ((tame_of_eq p ({ p with closedWaiters := p.closedWaiters ++ [a] } : Pool) rfl rfl).trans
      (tame_modApi _ a (fun x => { x with frame := .waitClosed }) (hf := fun _ _ _ e => nomatch e))).good h.good
  headG1 := fun re p h => by
    refine ⟨Tame.good (Tame.trans ?_ (tame_gatherStart _ _ _ _ _)) h.good, fun x hx => ?_, nofun, nofun⟩
    · exact tame_of_eq _ _ rfl rfl
    · rw [(gatherStart_new _ _ _ _ _).1] at hx
      exact h.rc x hx
  headG2 := fun re p g o h => by
    have h1 : Tame p ({ p with metaCancelled := [], reqs := p.reqs.map fun (r : Req) => { r with inCancelled := false, inRunning := false } } : Pool) := tame_of_eq _ _ rfl rfl (.map _ fun _ => ⟨.of_eq, .of_eq⟩)
    have ht := h1.trans (tame_gatherStart ({ p with metaCancelled := [], reqs := p.reqs.map fun (r : Req) => { r with inCancelled := false, inRunning := false } } : Pool) (p.ended.map Child.task ++ p.cancelledR.map Child.task ++ p.running.map Child.task) re a 0)
    obtain ⟨hap, G, hG, hch, _⟩ := gatherStart_new ({ p with metaCancelled := [], reqs := p.reqs.map fun (r : Req) => { r with inCancelled := false, inRunning := false } } : Pool) (p.ended.map Child.task ++ p.cancelledR.map Child.task ++ p.running.map Child.task) re a 0
    refine ⟨ht.good h.good, fun x hx => ⟨(h.rc x (hap ▸ hx)).1, nofun⟩, nofun, fun _ _ _ _ => ⟨G, hG, fun t ht' => ?_⟩⟩
    rw [ht.run, ht.can] at ht'
    rw [hch]
    rcases List.mem_append.mp ht' with e | e
    · exact List.mem_append_right _ (List.mem_map_of_mem e)
    · exact List.mem_append_left _ (List.mem_append_right _ (List.mem_map_of_mem e))

/-- at the handle boundary (the flag of call `a` cleared): a call that starts runs under `GoodAt`; of a call that waits in a
gather, `Good` says what `GoodG` said when that gather was started (`FlushOK.api`, `GacAwaitsAll`) -/
theorem good_boundary {cap : Cap} {L R : Bool} {p : Pool} (hg : Good cap L R p) (h5 : L = false → R = true → GacAwaitsAll p)
    {a : Nat} {A : Api} (hA : p.apis[a]? = some A) :
    (A.frame = .notStarted → GoodAt cap L R a A.kind .none (p.modApi a fun x => { x with sched := false })) ∧
      ∀ b g, A.frame = gframe b g → GoodG cap L R a A.kind b (p.modApi a fun x => { x with sched := false }, g) := by
  have hg0 : Good cap L R (p.modApi a fun x => { x with sched := false }) := (tame_modApi p a _).good hg
  have hx : (p.modApi a fun x => { x with sched := false }).apis[a]? = some { A with sched := false } := modify_get_self hA _
  have hat : ∀ (P : Api → Prop), P { A with sched := false } → ApiAt (p.modApi a fun x => { x with sched := false }) a P :=
    fun _ hP _ hx' => Option.some.inj (hx.symm.trans hx') ▸ hP
  refine ⟨fun hf => ⟨hg0, hat _ ⟨rfl, fun _ g e => nomatch hf.symm.trans e⟩, nofun⟩, fun b g hf =>
    ⟨hg0, hat _ ⟨rfl, fun hb g' e => by subst hb; exact nomatch hf.symm.trans e⟩, fun hb re hk => ?_, fun hb re hk hl => ?_⟩⟩
  · subst hb
    obtain ⟨G, hG, hsub⟩ := hg0.fl.api a _ g hx hf (congrArg ApiKind.isGac hk : A.kind.isGac = _)
    exact ⟨G, hG, hat _ hsub⟩
  · subst hb
    cases R with
    | false =>
      -- `L = false`, `R = false`: there is no `gather_and_close` call (`Good0.al`)
      exact nomatch (congrArg ApiKind.isGac hk : A.kind.isGac = _).symm.trans (hg.al hl rfl A (List.mem_of_getElem? hA))
    | true => exact h5 hl rfl a A g hA (congrArg ApiKind.isGac hk : A.kind.isGac = _) hf

theorem good_stepApi {cap : Cap} {L R : Bool} (p : Pool) (a) (hg : Good cap L R p)
    (h5 : L = false → R = true → GacAwaitsAll p) : Good cap L R (p.stepApi a) :=
  have hg0 : Good cap L R (p.modApi a fun x => { x with sched := false }) := (tame_modApi p a _).good hg
  (good_staged a).stepApi _ rfl hg (fun _ _ _ _ _ _ => hg0) (fun _ hA _ hf => (good_boundary hg h5 hA).1 hf)
    (fun A b g o hA _ hf _ ho => (good_staged a).go A.kind b (_, g) o ((good_boundary hg h5 hA).2 b g hf) ho)
    fun _ _ _ _ => (tame_finishApi _ _ _).good hg0

theorem good_runRef {cap : Cap} {L R : Bool} (p : Pool) (r : Ref) (hg : Good cap L R p)
    (h5 : L = false → R = true → GacAwaitsAll p) : Good cap L R (p.runRef r) := by
  cases r with
  | task t => exact good_stepTask p t hg
  | spawner m => exact good_stepMeta p m hg
  | api a => exact good_stepApi p a hg h5
  | gchild g i => exact (tame_gatherChildDone p g i true).good hg

theorem good_addApi {cap : Cap} {L R : Bool} (p : Pool) (k : ApiKind) (hg : Good cap L R p) (hk : L = false → R = false → k.isGac = false) :
    Good cap L R (p.addApi k) := by
  rw [addApi_eq]
  refine ⟨⟨hg.slot, hg.phase, hg.reg.of_eq rfl rfl rfl rfl rfl, hg.grp.of_eq rfl rfl, hg.life.of_eq rfl rfl, ?_,
    hg.wk.of_eq rfl rfl, hg.rz, hg.ll, ?_⟩, hg.map.of_eq rfl rfl, hg.acc.of_eq rfl rfl, hg.canc.of_eq rfl rfl⟩
  · refine ⟨hg.fl.gth, ?_⟩
    intro a A g ha hfr hkind
    rcases getElem?_append_one (l := p.apis) ha with ha' | ⟨_, rfl⟩
    · exact hg.fl.api a A g ha' hfr hkind
    · cases hfr
  · intro hl hr A hA
    rcases List.mem_append.mp hA with h | h
    · exact hg.al hl hr A h
    · rw [List.mem_singleton.mp h]; exact hk hl hr

theorem tame_doGate (p : Pool) (t o) : Tame p (p.doGate t o).1 := by
  unfold doGate
  split
  · refine Tame.trans ?_ (tame_schedTask _ t)
    exact tame_modTask p t _
  · exact Tame.refl p

theorem tame_setOrders (p : Pool) (orders) : Tame p ({ p with orders := orders } : Pool) := tame_of_eq _ _ rfl rfl

def _root_.Taskpool.Op.isSetSize : Op → Bool
  | .setSize _ => true
  | _ => false

/-- the calls that run in the background of the caller: `flush`, `gather_and_close`, `until_closed` -/
def _root_.Taskpool.Op.isAsync : Op → Bool
  | .flush _ => true
  | .gac _ => true
  | .untilClosed => true
  | _ => false

theorem tame_applyOp (p : Pool) (op : Op) (hn : op.isSetSize = false) (hs : op.starts = none) : Tame p (p.applyOp op).1 :=
  (tame_sync p).applyOp (Tame.refl p) hs (by cases op <;> trivial) (fun _ _ => trivial) (fun _ e => nomatch e ▸ hn)
    fun t o _ => tame_doGate _ t o

def _root_.Taskpool.Op.isGac : Op → Bool
  | .gac _ => true
  | _ => false

/-- every external operation except `pool_size = …` preserves `Good`; the strict variant with `pool_size` assignments
(`L = false`, `R = false`) excludes `gather_and_close` -/
theorem good_applyOp {cap : Cap} {L R : Bool} (p : Pool) (op : Op) (hn : op.isSetSize = false)
    (ha : L = false → R = false → op.isGac = false) (hg : Good cap L R p) : Good cap L R (p.applyOp op).1 := by
  cases hs : op.starts with
  | none => exact (tame_applyOp p op hn hs).good hg
  | some k =>
    refine applyOp_starts p hs ▸ good_addApi _ k hg fun hl hr => ?_
    cases op <;> cases hs <;> exact ha hl hr

end Pool
end Taskpool
