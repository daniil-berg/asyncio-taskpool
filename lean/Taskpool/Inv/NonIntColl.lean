import Taskpool.Inv.NonInt2
import Taskpool.Inv.Gather
import Taskpool.Inv.ApiWantWalk
/-! **Noninterference (C12): the side invariant.**  As long as every `flush` / `gather_and_close` of the history is
called with `return_exceptions=True`, every background call and every gather of every pool collects exceptions
(`AllColl`): a gather is only ever started by such a call with the call's own flag (the first gather of
`gather_and_close` always collects). -/
namespace Taskpool

/-- the operations the noninterference theorem admits: `flush` / `gather_and_close` collect exceptions -/
def Op.collecting : Op → Bool
  | .flush re => re
  | .gac re => re
  | _ => true

namespace Pool

def kinds (p : Pool) : List ApiKind := p.apis.map (·.kind)

def KColl (p : Pool) : Prop := ∀ k ∈ kinds p, k.coll = true

theorem allColl_of {p : Pool} (hg : Coll p) (hk : KColl p) : AllColl p := by
  refine ⟨hg, ?_⟩
  intro a A hA
  exact hk A.kind (List.mem_map.mpr ⟨A, List.mem_of_getElem? hA, rfl⟩)

theorem AllColl.kcoll {p : Pool} (h : AllColl p) : KColl p := by
  intro k hk
  obtain ⟨A, hA, rfl⟩ := List.mem_map.mp hk
  obtain ⟨a, hlt, ha⟩ := List.getElem_of_mem hA
  exact h.apis a A (by rw [List.getElem?_eq_getElem hlt, ha])

theorem kinds_of_apis {p q : Pool} (h : q.apis = p.apis) : kinds q = kinds p := by simp only [kinds, h]

theorem KColl.of_kinds {p q : Pool} (h : KColl p) (e : kinds q = kinds p) : KColl q := by
  unfold KColl; rw [e]; exact h

theorem AllColl.of_eq {p q : Pool} (h : AllColl p) (hg : q.gathers = p.gathers) (ha : q.apis = p.apis) : AllColl q :=
  allColl_of (h.gathers.of_gathers hg) (h.kcoll.of_kinds (kinds_of_apis ha))

theorem AllColl.of_afr {p q : Pool} (h : AllColl p) (hg : q.gathers = p.gathers) (a : Afr (fun _ => False) p q) : AllColl q :=
  h.of_eq hg a.apis

theorem kinds_modApi (p : Pool) (a : Nat) (f : Api → Api) (hf : ∀ x, (f x).kind = x.kind) : kinds (p.modApi a f) = kinds p := by
  simp only [kinds, modApi]
  exact map_modify_of _ _ _ _ hf

theorem kinds_schedApi (p : Pool) (a : Nat) : kinds (p.schedApi a) = kinds p := by
  unfold schedApi
  exact (kinds_of_apis rfl).trans (kinds_modApi _ _ _ (fun _ => rfl))

/-- a gather and its `_done_callback` touch the background calls only by flagging one; a call never rewrites its kind -/
theorem kinds_api (p : Pool) : ApiKept fun q => kinds q = kinds p where
  modGather := fun _ _ _ _ h => h
  schedApi := fun q a h => (kinds_schedApi q a).trans h
  regTask := fun _ _ _ h => h
  regReq := fun _ _ _ h => h
  newGather := fun _ _ _ h => h
  modApi := fun q a f _ hk h => (kinds_modApi q a f hk).trans h
  unfile := fun _ h => h
  uncancel := fun _ h => h
  forget := fun _ _ _ _ h => h
  waitClosed := fun _ _ h => h
  clearMetas := fun _ h => h
  close := fun _ _ h => h
  lock := fun _ _ h => h

theorem allColl_init (size : Cap) (simple : Option SpawnSpec) : AllColl (Pool.init size simple) :=
  ⟨fun g G hG => by simp [Pool.init] at hG, fun a A hA => by simp [Pool.init] at hA⟩

theorem allColl_runRef {p : Pool} (h : AllColl p) (r : Ref) : AllColl (p.runRef r) := by
  cases r with
  | task t => exact h.of_afr (congrArg GV.gathers (gv_stepTask p t)) (afr_stepTask p t)
  | spawner m => exact h.of_afr (congrArg GV.gathers (gv_stepMeta p m)) (afr_stepMeta p m)
  -- `stepApi_er` proves `Coll` of the next state along with its equation; which task is erased does not matter here
  | api a => exact allColl_of (stepApi_er (t := 0) p a h.gathers (h.apis a)).2 (h.kcoll.of_kinds ((kinds_api p).stepApi rfl a))
  | gchild g i => exact allColl_of (gatherChildDone_coll h.gathers g i true) (h.kcoll.of_kinds ((kinds_api p).toGatherBlind.gatherChildDone rfl g i true))

theorem allColl_addApi {p : Pool} (h : AllColl p) (k : ApiKind) (hk : k.coll = true) : AllColl (p.addApi k) := by
  refine allColl_of (h.gathers.of_gathers rfl) ?_
  intro k' hk'
  simp only [kinds, addApi, emitRef, List.map_append, List.mem_append, List.map_cons, List.map_nil, List.mem_singleton] at hk'
  rcases hk' with hk' | rfl
  · exact h.kcoll k' hk'
  · exact hk

theorem allColl_applyOp {p : Pool} (h : AllColl p) (op : Op) (hop : op.collecting = true) : AllColl (p.applyOp op).1 := by
  cases hs : op.starts with
  | none => exact h.of_afr (congrArg GV.gathers (gv_applyOp p op)) (afr_applyOp p hs)
  | some k =>
    rw [applyOp_starts p hs]
    refine allColl_addApi h k ?_
    cases op with
    | flush re | gac re => cases hs; exact hop
    | untilClosed => cases hs; rfl
    | _ => cases hs

end Pool

theorem allCollInvariant : PoolInvariant (fun _ p => Pool.AllColl p) Op.collecting where
  init := fun _ _ _ => Pool.allColl_init _ _
  op := fun _ p orders o ho h => Pool.allColl_applyOp (p := { p with orders := orders }) (h.of_eq rfl rfl) o ho
  run := fun _ p orders r h => Pool.allColl_runRef (p := { p with orders := orders }) (h.of_eq rfl rfl) r
  drain := fun _ _ h => h.of_eq rfl rfl

end Taskpool
