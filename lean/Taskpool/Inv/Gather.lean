import Taskpool.Inv.Mono
import Taskpool.Inv.Wrapper
import Taskpool.Inv.Loops
import Taskpool.Inv.Write
/-! The gather callbacks of the pool machine are **conserved**: a callback slot `(g, i)` registered on a child that
has not completed, or already queued as a handle, stays exactly that until its handle is run — no step of the
machine other than the gather functions themselves creates, duplicates or drops one.

`gv p` is the part of a pool the gather bookkeeping depends on: the gathers, the *callback potential* `pot` (per slot:
queued handles + registrations on uncompleted children) and the registrations per task and per spawner.  Every write of
the machine (`Write`, `Inv/Write.lean`) whose author is not `asyncio.gather` keeps `gv` (`gv_write`); so does every step
function outside the gather family, being a sequence of such writes (`gv_steps`).  There is one reason throughout: outside
the gather family `outcome` is written by `completeTask` / `finishMeta` only, `doneCbs` never, and no `gchild` handle is
queued except by those two. -/
namespace Taskpool

def isCb (gi : Nat × Nat) : Ref → Bool
  | .gchild g i => g == gi.1 && i == gi.2
  | _ => false

/-- registrations of slot `gi` on one child: they count as long as the child has not completed -/
def regOf (gi : Nat × Nat) (o : Option Outcome) (cbs : List (Nat × Nat)) : Nat :=
  if o.isNone then cbs.count gi else 0

namespace Pool

/-- callback potential of slot `gi`: handles queued by this pool during the current step + registrations on children
that have not completed -/
def pot (p : Pool) (gi : Nat × Nat) : Nat :=
  p.emit.countP (isCb gi)
  + (p.tasks.map fun k => regOf gi k.outcome k.doneCbs).sum
  + (p.reqs.map fun r => regOf gi r.outcome r.doneCbs).sum

def dcb (p : Pool) (t : Nat) : List (Nat × Nat) :=
  match p.tasks[t]? with
  | some k => k.doneCbs
  | none => []

def rcb (p : Pool) (m : Nat) : List (Nat × Nat) :=
  match p.reqs[m]? with
  | some r => r.doneCbs
  | none => []

/-- the gather view of a pool: what the gather bookkeeping depends on (header) -/
structure GV where
  gathers : List Gather
  pot : Nat × Nat → Nat
  dcb : Nat → List (Nat × Nat)
  rcb : Nat → List (Nat × Nat)

def gv (p : Pool) : GV := ⟨p.gathers, p.pot, p.dcb, p.rcb⟩

theorem gv_mk {p q : Pool} (hg : q.gathers = p.gathers) (hp : ∀ gi, q.pot gi = p.pot gi) (hd : ∀ t, q.dcb t = p.dcb t)
    (hr : ∀ m, q.rcb m = p.rcb m) : gv q = gv p := by
  have a : q.pot = p.pot := funext hp
  have b : q.dcb = p.dcb := funext hd
  have c : q.rcb = p.rcb := funext hr
  simp only [gv, hg, a, b, c]

theorem gv_of {p q : Pool} (hg : q.gathers = p.gathers) (he : q.emit = p.emit) (ht : q.tasks = p.tasks)
    (hr : q.reqs = p.reqs) : gv q = gv p :=
  gv_mk hg (fun gi => by simp only [pot, he, ht, hr]) (fun t => by simp only [dcb, ht]) (fun m => by simp only [rcb, hr])

theorem dcb_get (p : Pool) (t : Nat) : p.dcb t = (p.tasks[t]?.map PTask.doneCbs).getD [] := by
  unfold dcb
  cases p.tasks[t]? <;> rfl

theorem rcb_get (p : Pool) (m : Nat) : p.rcb m = (p.reqs[m]?.map Req.doneCbs).getD [] := by
  unfold rcb
  cases p.reqs[m]? <;> rfl

theorem map_modify_of {α β} (l : List α) (t : Nat) (f : α → α) (g : α → β) (h : ∀ k, g (f k) = g k) :
    (l.modify t f).map g = l.map g := by
  apply List.ext_getElem?
  intro i
  rw [List.getElem?_map, List.getElem?_map, List.getElem?_modify]
  cases l[i]? with
  | none => rfl
  | some k => by_cases e : t = i <;> simp [e, h]

theorem sum_map_modify {α} (l : List α) (t : Nat) (f : α → α) (g : α → Nat) (k : α) (h : l[t]? = some k) :
    ((l.modify t f).map g).sum + g k = (l.map g).sum + g (f k) := by
  induction l generalizing t with
  | nil => cases h
  | cons a as ih =>
    cases t with
    | zero =>
      cases h
      simp only [List.modify_zero_cons, List.map_cons, List.sum_cons]
      omega
    | succ n =>
      have := ih n h
      simp only [List.modify_succ_cons, List.map_cons, List.sum_cons]
      omega

/-- `l'` carries the same registrations as `l`: per slot as many on records without outcome, per index the same -/
structure CbSame {α} (o : α → Option Outcome) (c : α → List (Nat × Nat)) (l l' : List α) : Prop where
  sum : ∀ gi, (l'.map fun k => regOf gi (o k) (c k)).sum = (l.map fun k => regOf gi (o k) (c k)).sum
  get : ∀ i : Nat, (l'[i]?.map c).getD [] = (l[i]?.map c).getD []

variable {α : Type} {o : α → Option Outcome} {c : α → List (Nat × Nat)} {l : List α}

theorem CbSame.refl : CbSame o c l l := ⟨fun _ => rfl, fun _ => rfl⟩

theorem cb_get_modify (t : Nat) (f : α → α) (hf : ∀ k, c (f k) = c k) (i : Nat) :
    ((l.modify t f)[i]?.map c).getD [] = (l[i]?.map c).getD [] := by
  rw [← List.getElem?_map, ← List.getElem?_map, map_modify_of l t f c hf]

theorem CbSame.modify (t : Nat) (f : α → α) (hf : ∀ k, o (f k) = o k ∧ c (f k) = c k) : CbSame o c l (l.modify t f) :=
  ⟨fun gi => by rw [map_modify_of l t f _ fun k => by rw [(hf k).1, (hf k).2]], cb_get_modify t f fun k => (hf k).2⟩

theorem CbSame.map (f : α → α) (hf : ∀ k, o (f k) = o k ∧ c (f k) = c k) : CbSame o c l (l.map f) := by
  refine ⟨fun gi => ?_, fun i => ?_⟩
  · rw [List.map_map]
    exact congrArg List.sum (List.map_congr_left fun k _ => by rw [Function.comp_apply, (hf k).1, (hf k).2])
  · rw [← List.getElem?_map, ← List.getElem?_map, List.map_map]
    exact congrArg (fun m => (m[i]?).getD []) (List.map_congr_left fun k _ => (hf k).2)

theorem regOf_nil (gi : Nat × Nat) (x : Option Outcome) : regOf gi x [] = 0 := by
  unfold regOf
  split <;> rfl

theorem CbSame.append (k : α) (hk : c k = []) : CbSame o c l (l ++ [k]) := by
  refine ⟨fun gi => ?_, fun i => ?_⟩
  · rw [List.map_append, List.sum_append_nat, List.map_singleton, List.sum_singleton, hk, regOf_nil]
    rfl
  · rw [List.getElem?_append]
    split
    · rfl
    · rename_i hge
      rw [List.getElem?_eq_none (Nat.le_of_not_lt hge)]
      cases i - l.length with
      | zero => exact congrArg (fun x => (some x).getD []) hk
      | succ n => rfl

theorem regSum_complete (t : Nat) (f : α → α) (k : α) (hk : l[t]? = some k) (ho : (o (f k)).isSome = true)
    (gi : Nat × Nat) :
    ((l.modify t f).map fun x => regOf gi (o x) (c x)).sum + (if (o k).isSome then [] else c k).count gi
      = (l.map fun x => regOf gi (o x) (c x)).sum := by
  have hs := sum_map_modify l t f (fun x => regOf gi (o x) (c x)) k hk
  have h0 : regOf gi (o (f k)) (c (f k)) = 0 := by
    unfold regOf
    rw [if_neg]
    rw [Option.isNone_iff_eq_none, ← Option.not_isSome_iff_eq_none]
    exact fun h => h ho
  have h1 : regOf gi (o k) (c k) = (if (o k).isSome then [] else c k).count gi := by
    unfold regOf
    cases o k <;> rfl
  omega

theorem gv_of_cb {p q : Pool} (hg : q.gathers = p.gathers) (he : q.emit = p.emit)
    (ht : CbSame PTask.outcome PTask.doneCbs p.tasks q.tasks) (hr : CbSame Req.outcome Req.doneCbs p.reqs q.reqs) :
    gv q = gv p :=
  gv_mk hg (fun gi => by simp only [pot, he, ht.sum gi, hr.sum gi]) (fun t => by rw [dcb_get, dcb_get, ht.get])
    (fun m => by rw [rcb_get, rcb_get, hr.get])

theorem countP_isCb_map (gi : Nat × Nat) (cbs : List (Nat × Nat)) :
    (cbs.map (fun x => Ref.gchild x.1 x.2)).countP (isCb gi) = cbs.count gi := by
  induction cbs with
  | nil => rfl
  | cons x xs ih =>
    simp only [List.map_cons, List.countP_cons, List.count_cons, ih]
    congr 1

theorem gv_emitRef (p : Pool) (r : Ref) (hr : ∀ g i, r ≠ .gchild g i := by intro _ _ e; cases e) :
    gv (p.emitRef r) = gv p := by
  refine gv_mk rfl (fun gi => ?_) (fun _ => rfl) (fun _ => rfl)
  have : isCb gi r = false := by
    cases r with
    | gchild g i => exact absurd rfl (hr g i)
    | _ => rfl
  simp only [pot, emitRef, List.countP_append, List.countP_singleton, this]
  rfl

theorem cb_taskW {w t k' k} (h : TaskW w t k' k) (hw : w ≠ .gather) : k'.outcome = k.outcome ∧ k'.doneCbs = k.doneCbs := by
  cases h with
  | soft h => obtain ⟨_, _, _, e⟩ := h; rw [e]; exact ⟨rfl, rfl⟩
  | own h => exact ⟨h.outcome, h.doneCbs⟩
  | reg => exact absurd rfl hw

theorem cb_reqW {w m r' r} (h : ReqW w m r' r) (hw : w ≠ .gather) : r'.outcome = r.outcome ∧ r'.doneCbs = r.doneCbs := by
  cases h with
  | soft h => obtain ⟨_, _, _, e, _⟩ := h; rw [e]; exact ⟨rfl, rfl⟩
  | own h => exact ⟨h.outcome, h.doneCbs⟩
  | reg => exact absurd rfl hw

theorem gv_emit (p q : Pool) (r : Ref) (hr : ∀ g i, r ≠ .gchild g i) (hg : q.gathers = p.gathers) (he : q.emit = p.emit ++ [r])
    (ht : CbSame PTask.outcome PTask.doneCbs p.tasks q.tasks) (hr' : CbSame Req.outcome Req.doneCbs p.reqs q.reqs) :
    gv q = gv p :=
  (gv_of_cb (p := p.emitRef r) hg he ht hr').trans (gv_emitRef p r hr)

/-- every write of the machine but those of `asyncio.gather` itself (`Inv/Write.lean`) -/
theorem gv_write {w : Who} {p q : Pool} (h : Write w p q) (hw : w ≠ .gather) : gv q = gv p := by
  cases h with
  | rest | lost | runToEnded | canToEnded | runToCan | modApi | forget | close | waitClosed => exact gv_of rfl rfl rfl rfl
  | emit _ r hr => exact gv_emit p _ r hr rfl rfl .refl .refl
  | task _ t f hf => exact gv_of_cb rfl rfl (.modify t f fun x => cb_taskW (hf x) hw) .refl
  | req _ m f hf => exact gv_of_cb rfl rfl .refl (.modify m f fun x => cb_reqW (hf x) hw)
  | flagTask _ t => exact gv_emit p _ _ (fun _ _ => Ref.noConfusion) rfl rfl (.modify t _ fun _ => ⟨rfl, rfl⟩) .refl
  | flagReq _ m => exact gv_emit p _ _ (fun _ _ => Ref.noConfusion) rfl rfl .refl (.modify m _ fun _ => ⟨rfl, rfl⟩)
  | fileCancelled _ f ms hf hm | unfiled _ f ms hf hm =>
    refine gv_of_cb rfl rfl .refl (.map f fun x => ?_)
    obtain ⟨_, _, _, e, _⟩ := hf x
    rw [e]
    exact ⟨rfl, rfl⟩
  | newReq => exact gv_emit p _ _ (fun _ _ => Ref.noConfusion) rfl rfl .refl (.append _ rfl)
  | newApi => exact gv_emit p _ _ (fun _ _ => Ref.noConfusion) rfl rfl .refl .refl
  | newTask _ m =>
    exact gv_emit p _ _ (fun _ _ => Ref.noConfusion) rfl rfl (.append _ rfl) (.modify m _ fun _ => ⟨rfl, rfl⟩)
  -- the done-callbacks of a future are queued once, when it completes: the potential moves from the record to the queue
  | completeTask _ t tk htk o =>
    refine gv_mk rfl (fun gi => ?_) (fun i => ?_) (fun _ => rfl)
    · have := regSum_complete (o := PTask.outcome) (c := PTask.doneCbs) t
        (fun x => { x with phase := .finished, outcome := some o, sched := false, mustCancel := false }) tk htk rfl gi
      simp only [pot, cbRefs, List.countP_append, countP_isCb_map]
      omega
    · rw [dcb_get, dcb_get]
      exact cb_get_modify (c := PTask.doneCbs) t (fun x => { x with phase := .finished, outcome := some o, sched := false, mustCancel := false }) (fun _ => rfl) i
  | finishMeta _ m r hm o =>
    refine gv_mk rfl (fun gi => ?_) (fun _ => rfl) (fun i => ?_)
    · have := regSum_complete (o := Req.outcome) (c := Req.doneCbs) m
        (fun x => { x with frame := .done, outcome := some o, sched := false, mustCancel := false }) r hm rfl gi
      simp only [pot, cbRefs, List.countP_append, countP_isCb_map]
      omega
    · rw [rcb_get, rcb_get]
      exact cb_get_modify (c := Req.doneCbs) m (fun x => { x with frame := .done, outcome := some o, sched := false, mustCancel := false }) (fun _ => rfl) i
  | modGather | flagApi | newGather => exact absurd rfl hw

theorem gv_steps {S : Who → Prop} (hS : ¬ S .gather) {p q : Pool} (h : Steps S p q) : gv q = gv p :=
  (h.keeps (P := fun x => gv x = gv p) fun _ _ _ hs w e => (gv_write w fun e' => hS (e' ▸ hs)).trans e) rfl

theorem gv_completeTask (p : Pool) (t : Nat) (o : Outcome) : gv (p.completeTask t o) = gv p :=
  gv_steps (S := Eq (.wrap t)) nofun (st_completeTask (.refl p) rfl o)

theorem gv_finishMeta (p : Pool) (m : Nat) (o : Outcome) : gv (p.finishMeta m o) = gv p :=
  gv_steps (S := Eq (.spawn m)) nofun (st_finishMeta (.refl p) rfl o)

theorem gv_applyOp (p : Pool) (op : Op) : gv (p.applyOp op).1 = gv p :=
  gv_steps nofun (steps_applyOp p op)
theorem gv_stepTask (p : Pool) (t : Nat) : gv (p.stepTask t) = gv p :=
  gv_steps nofun (steps_runRef p (.task t))
theorem gv_stepMeta (p : Pool) (m : Nat) : gv (p.stepMeta m) = gv p :=
  gv_steps nofun (steps_runRef p (.spawner m))
theorem gv_workerCancelled (p : Pool) (t : Nat) (tk : PTask) : gv (p.workerCancelled t tk) = gv p :=
  gv_steps nofun (steps_workerCancelled p t tk)
theorem gv_modApi (p : Pool) (a : Nat) (f : Api → Api) : gv (p.modApi a f) = gv p := gv_of rfl rfl rfl rfl
theorem gv_schedApi (p : Pool) (a : Nat) : gv (p.schedApi a) = gv p := (gv_emitRef _ _).trans (gv_of rfl rfl rfl rfl)

theorem gv_orders (p : Pool) (orders : List (List Nat)) : gv ({ p with orders := orders } : Pool) = gv p :=
  gv_of rfl rfl rfl rfl

theorem gv_drainless (p : Pool) : ({ p with emit := [] } : Pool).gathers = p.gathers ∧
    (∀ t, ({ p with emit := [] } : Pool).dcb t = p.dcb t) := ⟨rfl, fun _ => rfl⟩

end Pool
end Taskpool
