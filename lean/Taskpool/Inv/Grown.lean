import Taskpool.Inv.Lists
/-! A list of records seen at two moments: `Grown K N l l'` — every record of `l'` is a record of `l` at the same index
rewritten along `K` (new record first: `K x' x`), or lies beyond `l` and satisfies `N`.  The record lists of the pool
(`tasks`, `reqs`, `apis`, `gathers`) only ever change by `modify`, `map` and `++ [a]`; a frame relation that is a
conjunction of `Grown`s gets its reflexivity, transitivity and its three leaves from here. -/
namespace Taskpool

structure Grown {α} (K : α → α → Prop) (N : α → Prop) (l l' : List α) : Prop where
  len : l.length ≤ l'.length
  get : ∀ (i : Nat) (x' : α), l'[i]? = some x' → (∃ x, l[i]? = some x ∧ K x' x) ∨ (l.length ≤ i ∧ N x')

namespace Grown
variable {α : Type} {K : α → α → Prop} {N : α → Prop} {l l' l'' : List α}

theorem refl (hK : ∀ x, K x x) (l : List α) : Grown K N l l := ⟨Nat.le_refl _, fun _ x h => .inl ⟨x, h, hK x⟩⟩

/-- `hN`: a record appended in between still satisfies `N` after its later rewrites -/
theorem trans (hK : ∀ {a b c}, K a b → K b c → K a c) (hN : ∀ {a b}, K a b → N b → N a) (h1 : Grown K N l l')
    (h2 : Grown K N l' l'') : Grown K N l l'' := by
  refine ⟨Nat.le_trans h1.len h2.len, fun i x'' h => ?_⟩
  rcases h2.get i x'' h with ⟨x', h', k2⟩ | ⟨b, n⟩
  · rcases h1.get i x' h' with ⟨x, h0, k1⟩ | ⟨b, n⟩
    · exact .inl ⟨x, h0, hK k2 k1⟩
    · exact .inr ⟨b, hN k2 n⟩
  · exact .inr ⟨Nat.le_trans h1.len b, n⟩

theorem imp {K' : α → α → Prop} {N' : α → Prop} (hK : ∀ {a b}, K a b → K' a b) (hN : ∀ {a}, N a → N' a) (h : Grown K N l l') :
    Grown K' N' l l' :=
  ⟨h.len, fun i x' hx => (h.get i x' hx).imp (fun ⟨x, a, k⟩ => ⟨x, a, hK k⟩) (fun ⟨a, n⟩ => ⟨a, hN n⟩)⟩

theorem fwd (h : Grown K N l l') {i : Nat} {x : α} (hx : l[i]? = some x) : ∃ x', l'[i]? = some x' ∧ K x' x := by
  have hi := lt_of_getElem?_some hx
  have hi' := Nat.lt_of_lt_of_le hi h.len
  rcases h.get i l'[i] (List.getElem?_eq_getElem hi') with ⟨y, hy, k⟩ | ⟨b, _⟩
  · cases hx.symm.trans hy
    exact ⟨_, List.getElem?_eq_getElem hi', k⟩
  · exact absurd hi (Nat.not_lt_of_le b)

theorem old (h : Grown K N l l') {i : Nat} {x' : α} (hx : l'[i]? = some x') (hn : ¬ N x') : ∃ x, l[i]? = some x ∧ K x' x :=
  (h.get i x' hx).elim id fun b => absurd b.2 hn

theorem modifyAt (hK : ∀ x, K x x) (t : Nat) (f : α → α) (hf : ∀ x, l[t]? = some x → K (f x) x) : Grown K N l (l.modify t f) := by
  refine ⟨Nat.le_of_eq (List.length_modify ..).symm, fun i x' h => ?_⟩
  obtain ⟨x, hx, rfl⟩ := getElem?_modify_some l t i f x' h
  refine .inl ⟨x, hx, ?_⟩
  split
  · next e => exact hf x (e ▸ hx)
  · exact hK x

theorem modify (hK : ∀ x, K x x) (t : Nat) (f : α → α) (hf : ∀ x, K (f x) x) : Grown K N l (l.modify t f) :=
  modifyAt hK t f fun x _ => hf x

theorem map (f : α → α) (hf : ∀ x, K (f x) x) : Grown K N l (l.map f) := by
  refine ⟨Nat.le_of_eq (List.length_map ..).symm, fun i x' h => ?_⟩
  obtain ⟨x, hx, rfl⟩ := getElem?_map_some h
  exact .inl ⟨x, hx, hf x⟩

theorem append (hK : ∀ x, K x x) (a : α) (ha : N a) : Grown K N l (l ++ [a]) := by
  refine ⟨List.length_append ▸ Nat.le_add_right _ _, fun i x' h => ?_⟩
  rcases getElem?_append_one h with b | ⟨b, rfl⟩
  · exact .inl ⟨x', b, hK x'⟩
  · exact .inr ⟨Nat.le_of_eq b.symm, ha⟩

end Grown
end Taskpool
