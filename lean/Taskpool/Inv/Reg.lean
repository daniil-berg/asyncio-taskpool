import Taskpool.Inv.Tame
/-! Registry invariant `RegOK`: the few steps that really touch the registries. -/
namespace Taskpool
open Pool

theorem RegOK.of_eq {p q : Pool} (hr : RegOK p) (ht : q.tasks = p.tasks) (h1 : q.running = p.running)
    (h2 : q.cancelledR = p.cancelledR) (h3 : q.ended = p.ended) (h4 : q.lost = p.lost) : RegOK q :=
  hr.of_tasks h1 h2 h3 h4 (by rw [ht]) fun _ tk' a => ⟨tk', ht ▸ a, rfl, fun _ c => c⟩

theorem RegOK.lt {p : Pool} (hr : RegOK p) (t : Nat) (h : t ∈ p.running ∨ t ∈ p.cancelledR ∨ t ∈ p.ended) :
    t < p.tasks.length := by
  rcases h with h | h | h
  · obtain ⟨tk, a, _⟩ := hr.run t h; exact lt_of_getElem?_some a
  · obtain ⟨tk, a, _⟩ := hr.can t h; exact lt_of_getElem?_some a
  · obtain ⟨tk, a, _⟩ := hr.fin t h; exact lt_of_getElem?_some a

theorem RegOK.modTaskAt {p : Pool} (hr : RegOK p) (t : Nat) (f : PTask → PTask) (x : PTask) (hx : p.tasks[t]? = some x)
    (hf : (f x).released = x.released)
    (hc : t ∈ p.cancelledR → (f x).phase ≠ .created ∧ (f x).phase ≠ .inWorker) : RegOK (p.modTask t f) :=
  hr.of_tasks rfl rfl rfl rfl (List.length_modify ..) fun i tk' a => by
    rcases getElem?_modify_cases hx a with ⟨rfl, rfl⟩ | ⟨_, a'⟩
    · exact ⟨x, hx, hf, fun m _ => hc m⟩
    · exact ⟨tk', a', rfl, fun _ c => c⟩

theorem RegOK.modTask {p : Pool} (hr : RegOK p) (t : Nat) (f : PTask → PTask)
    (hf : ∀ x, (f x).released = x.released)
    (hc : (∀ x, (f x).phase = x.phase) ∨ t ∉ p.cancelledR ∨
          (∀ x, (f x).phase ≠ .created ∧ (f x).phase ≠ .inWorker)) : RegOK (p.modTask t f) := by
  cases hx : p.tasks[t]? with
  | none =>
    exact hr.of_eq (List.modify_eq_self (List.getElem?_eq_none_iff.mp hx)) rfl rfl rfl rfl
  | some x =>
    refine hr.modTaskAt t f x hx (hf x) fun hm => ?_
    rcases hc with h | h | h
    · obtain ⟨tk, a, _, c, d⟩ := hr.can t hm
      cases hx.symm.trans a
      rw [h]; exact ⟨c, d⟩
    · exact absurd hm h
    · exact h x

theorem count_move {X : List Nat} (Y : List Nat) {t : Nat} (ht : t ∈ X) (a : Nat) :
    (X.erase t).count a + (Y.count a + [t].count a) = X.count a + Y.count a := by
  by_cases e : a = t
  · subst e
    have hpos : 0 < List.count a X := List.count_pos_iff.mpr ht
    rw [List.count_erase_self, List.count_singleton_self]
    omega
  · rw [List.count_erase_of_ne e, List.count_singleton, if_neg (fun h => e (eq_of_beq h).symm)]
    rfl

theorem nodup3_move12 {A B C : List Nat} (t : Nat) (h : (A ++ B ++ C).Nodup) (ht : t ∈ A) :
    (A.erase t ++ (B ++ [t]) ++ C).Nodup := by
  rw [List.nodup_iff_count] at h ⊢
  intro a
  have ha := h a
  have := count_move B ht a
  simp only [List.count_append] at ha ⊢
  omega

theorem nodup3_move13 {A B C : List Nat} (t : Nat) (h : (A ++ B ++ C).Nodup) (ht : t ∈ A) :
    (A.erase t ++ B ++ (C ++ [t])).Nodup := by
  rw [List.nodup_iff_count] at h ⊢
  intro a
  have ha := h a
  have := count_move C ht a
  simp only [List.count_append] at ha ⊢
  omega

theorem nodup3_move23 {A B C : List Nat} (t : Nat) (h : (A ++ B ++ C).Nodup) (ht : t ∈ B) :
    (A ++ B.erase t ++ (C ++ [t])).Nodup := by
  rw [List.nodup_iff_count] at h ⊢
  intro a
  have ha := h a
  have := count_move C ht a
  simp only [List.count_append] at ha ⊢
  omega

theorem nodup3_add1 {A B C : List Nat} (t : Nat) (h : (A ++ B ++ C).Nodup) (h1 : t ∉ A) (h2 : t ∉ B) (h3 : t ∉ C) :
    (A ++ [t] ++ B ++ C).Nodup := by
  rw [List.nodup_iff_count] at h ⊢
  intro a
  have ha := h a
  simp only [List.count_append] at ha ⊢
  by_cases e : a = t
  · subst e
    simp only [List.count_singleton_self, List.count_eq_zero_of_not_mem h1, List.count_eq_zero_of_not_mem h2,
      List.count_eq_zero_of_not_mem h3]
    omega
  · have : List.count a [t] = 0 := List.count_eq_zero_of_not_mem fun h => e (List.mem_singleton.mp h)
    rw [this]; omega

theorem nodup3_mem_disj {A B C : List Nat} (h : (A ++ B ++ C).Nodup) (t : Nat) :
    (t ∈ A → t ∉ B ∧ t ∉ C) ∧ (t ∈ B → t ∉ A ∧ t ∉ C) ∧ (t ∈ C → t ∉ A ∧ t ∉ B) := by
  obtain ⟨hab, _, hc⟩ := List.nodup_append.mp h
  obtain ⟨_, _, hb⟩ := List.nodup_append.mp hab
  exact ⟨fun m => ⟨fun m2 => hb t m t m2 rfl, fun m2 => hc t (List.mem_append_left _ m) t m2 rfl⟩,
    fun m => ⟨fun m2 => hb t m2 t m rfl, fun m2 => hc t (List.mem_append_right _ m) t m2 rfl⟩,
    fun m => ⟨fun m2 => hc t (List.mem_append_left _ m2) t m rfl, fun m2 => hc t (List.mem_append_right _ m2) t m rfl⟩⟩

/-- `_task_cancellation`: the id moves from the running to the cancelled registry -/
theorem RegOK.regCancel {p : Pool} (hr : RegOK p) (t : Nat) (ht : t ∈ p.running)
    (hph : ∀ tk : PTask, p.tasks[t]? = some tk → tk.phase ≠ .created ∧ tk.phase ≠ .inWorker) :
    RegOK ({ p with running := p.running.erase t, cancelledR := p.cancelledR ++ [t] } : Pool) := by
  have hnd := hr.nd
  have hndA : p.running.Nodup := (List.nodup_append.mp (List.nodup_append.mp hnd).1).1
  refine ⟨nodup3_move12 t hnd ht, ?_, ?_, ?_, ?_⟩
  · intro i hi
    exact hr.run i (List.mem_of_mem_erase hi)
  · intro i hi
    simp only [List.mem_append, List.mem_singleton] at hi
    rcases hi with h | rfl
    · exact hr.can i h
    · obtain ⟨tk, a, b⟩ := hr.run i ht
      exact ⟨tk, a, b, (hph tk a).1, (hph tk a).2⟩
  · exact hr.fin
  · intro hl i tk h hrel
    simp only [List.mem_append, List.mem_singleton]
    rcases hr.cpl hl i tk h hrel with h1 | h1
    · by_cases e : i = t
      · exact Or.inr (Or.inr e)
      · exact Or.inl ((hndA.mem_erase_iff).mpr ⟨e, h1⟩)
    · exact Or.inr (Or.inl h1)

theorem Pool.moveToEnded_cases {p p1 : Pool} {t : Nat} (h : p.moveToEnded t = some p1) :
    (t ∈ p.running ∧ p1 = { p with running := p.running.erase t, ended := p.ended ++ [t] }) ∨
    (t ∈ p.cancelledR ∧ p1 = { p with cancelledR := p.cancelledR.erase t, ended := p.ended ++ [t] }) := by
  unfold moveToEnded at h
  split at h
  · exact Or.inl ⟨List.contains_iff_mem.mp ‹_›, (Option.some.inj h).symm⟩
  · split at h
    · exact Or.inr ⟨List.contains_iff_mem.mp ‹_›, (Option.some.inj h).symm⟩
    · cases h

theorem RegOK.moveRelease_of {p q : Pool} (hr : RegOK p) (t : Nat)
    (hnd : (q.running ++ q.cancelledR ++ q.ended).Nodup) (ht : t ∈ p.running ∨ t ∈ p.cancelledR)
    (h1 : ∀ i, i ∈ q.running ↔ i ∈ p.running ∧ i ≠ t) (h2 : ∀ i, i ∈ q.cancelledR ↔ i ∈ p.cancelledR ∧ i ≠ t)
    (h3 : q.ended = p.ended ++ [t]) (hnt : t ∉ p.ended)
    (hq4 : q.lost = p.lost) (hqt : q.tasks = p.tasks.modify t fun k => { k with released := true }) : RegOK q := by
  have old : ∀ (i : Nat) (tk : PTask), i ≠ t → p.tasks[i]? = some tk → q.tasks[i]? = some tk := fun i tk hne h => by
    rw [hqt, List.getElem?_modify_ne _ _ (Ne.symm hne)]; exact h
  refine ⟨hnd, ?_, ?_, ?_, ?_⟩
  · intro i hi
    obtain ⟨hi, hne⟩ := (h1 i).mp hi
    obtain ⟨tk, a, b⟩ := hr.run i hi
    exact ⟨tk, old i tk hne a, b⟩
  · intro i hi
    obtain ⟨hi, hne⟩ := (h2 i).mp hi
    obtain ⟨tk, a, b⟩ := hr.can i hi
    exact ⟨tk, old i tk hne a, b⟩
  · intro i hi
    rw [h3] at hi
    rcases List.mem_append.mp hi with h | h
    · obtain ⟨tk, a, b⟩ := hr.fin i h
      exact ⟨tk, old i tk (fun e => hnt (e ▸ h)) a, b⟩
    · cases List.mem_singleton.mp h
      obtain ⟨tk, a⟩ : ∃ tk, p.tasks[t]? = some tk :=
        ht.elim (fun h => (hr.run t h).imp fun _ x => x.1) (fun h => (hr.can t h).imp fun _ x => x.1)
      exact ⟨_, by rw [hqt]; exact modify_get_self a _, rfl⟩
  · intro hl i tk' h hrel
    rw [hq4] at hl
    rw [hqt] at h
    obtain ⟨x, hx, rfl⟩ := getElem?_modify_some p.tasks t i _ tk' h
    split at hrel
    · cases hrel
    · rename_i ne
      rw [h1, h2]
      exact (hr.cpl hl i x hx hrel).imp (fun h => ⟨h, fun e => ne e.symm⟩) (fun h => ⟨h, fun e => ne e.symm⟩)

/-- `_task_ending`: the id moves to the ended registry and the task is marked released, in one go -/
theorem RegOK.moveRelease {p p1 : Pool} (hr : RegOK p) (t : Nat) (hm : p.moveToEnded t = some p1)
    (q : Pool) (hq1 : q.running = p1.running) (hq2 : q.cancelledR = p1.cancelledR) (hq3 : q.ended = p1.ended)
    (hq4 : q.lost = p.lost) (hqt : q.tasks = p.tasks.modify t fun k => { k with released := true }) : RegOK q := by
  have hnd := hr.nd
  have hd := nodup3_mem_disj hnd t
  have hndA : p.running.Nodup := (List.nodup_append.mp (List.nodup_append.mp hnd).1).1
  have hndB : p.cancelledR.Nodup := (List.nodup_append.mp (List.nodup_append.mp hnd).1).2.1
  rcases moveToEnded_cases hm with ⟨htA, rfl⟩ | ⟨htB, rfl⟩
  · refine hr.moveRelease_of t (by rw [hq1, hq2, hq3]; exact nodup3_move13 t hnd htA) (Or.inl htA)
      (fun i => by rw [hq1]; exact (hndA.mem_erase_iff).trans And.comm)
      (fun i => by rw [hq2]; exact ⟨fun h => ⟨h, fun e => (hd.1 htA).1 (e ▸ h)⟩, And.left⟩) hq3 (hd.1 htA).2 hq4 hqt
  · refine hr.moveRelease_of t (by rw [hq1, hq2, hq3]; exact nodup3_move23 t hnd htB) (Or.inr htB)
      (fun i => by rw [hq1]; exact ⟨fun h => ⟨h, fun e => (hd.2.1 htB).1 (e ▸ h)⟩, And.left⟩)
      (fun i => by rw [hq2]; exact (hndB.mem_erase_iff).trans And.comm) hq3 (hd.2.1 htB).2 hq4 hqt

/-- `_start_task`: a fresh task is appended and filed as running -/
theorem RegOK.create {p : Pool} (hr : RegOK p) (nt : PTask) (hn : nt.released = false) (q : Pool)
    (hqt : q.tasks = p.tasks ++ [nt]) (hq1 : q.running = p.running ++ [p.tasks.length])
    (hq2 : q.cancelledR = p.cancelledR) (hq3 : q.ended = p.ended) (hq4 : q.lost = p.lost) : RegOK q := by
  have hfresh : ∀ i, (i ∈ p.running ∨ i ∈ p.cancelledR ∨ i ∈ p.ended) → i ≠ p.tasks.length :=
    fun i h => Nat.ne_of_lt (hr.lt i h)
  have old : ∀ (i : Nat) (tk : PTask), p.tasks[i]? = some tk → q.tasks[i]? = some tk := by
    intro i tk h
    rw [hqt]; exact getElem?_append_of h _
  refine ⟨?_, ?_, ?_, ?_, ?_⟩
  · rw [hq1, hq2, hq3]
    exact nodup3_add1 _ hr.nd (fun h => hfresh _ (Or.inl h) rfl) (fun h => hfresh _ (Or.inr (Or.inl h)) rfl)
      (fun h => hfresh _ (Or.inr (Or.inr h)) rfl)
  · intro i hi
    rw [hq1] at hi
    simp only [List.mem_append, List.mem_singleton] at hi
    rcases hi with h | rfl
    · obtain ⟨tk, a, b⟩ := hr.run i h; exact ⟨tk, old i tk a, b⟩
    · exact ⟨nt, by rw [hqt]; exact List.getElem?_concat_length, hn⟩
  · intro i hi
    rw [hq2] at hi
    obtain ⟨tk, a, b, c, d⟩ := hr.can i hi; exact ⟨tk, old i tk a, b, c, d⟩
  · intro i hi
    rw [hq3] at hi
    obtain ⟨tk, a, b⟩ := hr.fin i hi; exact ⟨tk, old i tk a, b⟩
  · intro hl i tk h hrel
    rw [hq4] at hl
    rw [hq1, hq2]
    rw [hqt] at h
    rcases getElem?_append_one h with h' | ⟨rfl, _⟩
    · exact (hr.cpl hl i tk h' hrel).imp (List.mem_append_left _) id
    · exact Or.inl (List.mem_append_right _ (List.mem_singleton.mpr rfl))

/-- once something was lost the completeness clause is void -/
theorem RegOK.setLost {p : Pool} (hr : RegOK p) : RegOK ({ p with lost := true } : Pool) :=
  ⟨hr.nd, hr.run, hr.can, hr.fin, fun hl => by simp at hl⟩

theorem heldB_iff (p : Pool) (t : Nat) : p.heldB t = true ↔ ∃ tk : PTask, p.tasks[t]? = some tk ∧ tk.released = false := by
  unfold heldB
  cases h : p.tasks[t]? with
  | none => simp
  | some tk => simp

/-- ids are dropped from the registries: sound as it was; complete unless a dropped id from the running or cancelled
registry still held its slot — which `lost` has to record -/
theorem RegOK.forget {p : Pool} (hr : RegOK p) (q : Pool) (hqt : q.tasks = p.tasks) (h1 : q.running.Sublist p.running)
    (h2 : q.cancelledR.Sublist p.cancelledR) (h3 : q.ended.Sublist p.ended)
    (hl : q.lost = false → p.lost = false ∧ ∀ t, t ∈ p.running ∨ t ∈ p.cancelledR → p.heldB t = true →
      t ∈ q.running ∨ t ∈ q.cancelledR) : RegOK q :=
  ⟨((h1.append h2).append h3).nodup hr.nd, fun i hi => hqt ▸ hr.run i (h1.subset hi), fun i hi => hqt ▸ hr.can i (h2.subset hi),
    fun i hi => hqt ▸ hr.fin i (h3.subset hi), fun l i tk h hrel =>
      (hl l).2 i (hr.cpl (hl l).1 i tk (hqt ▸ h) hrel) ((heldB_iff p i).mpr ⟨tk, hqt ▸ h, hrel⟩)⟩

/-- `flush`: only awaited ids are popped; popping an unreleased task from the cancelled registry counts as a loss -/
theorem RegOK.flushForget {p : Pool} (hr : RegOK p) (f g : Nat → Bool) (q : Pool) (hqt : q.tasks = p.tasks)
    (hq1 : q.running = p.running) (hq2 : q.cancelledR = p.cancelledR.filter g) (hq3 : q.ended = p.ended.filter f)
    (hq4 : q.lost = (p.lost || p.cancelledR.any (fun t => !g t && p.heldB t))) : RegOK q := by
  refine hr.forget q hqt (hq1 ▸ .refl _) (hq2 ▸ List.filter_sublist) (hq3 ▸ List.filter_sublist) fun l => ?_
  rw [hq4, Bool.or_eq_false_iff, List.any_eq_false] at l
  refine ⟨l.1, fun i hi hh => ?_⟩
  rw [hq1, hq2]
  refine hi.imp id fun h1 => List.mem_filter.mpr ⟨h1, ?_⟩
  simpa [hh] using l.2 i h1

/-- `gather_and_close`: the registries are cleared; clearing an unreleased task counts as a loss -/
theorem RegOK.gacClear {p : Pool} (hr : RegOK p) (q : Pool) (hqt : q.tasks = p.tasks)
    (hq1 : q.running = []) (hq2 : q.cancelledR = []) (hq3 : q.ended = [])
    (hq4 : q.lost = (p.lost || (p.running ++ p.cancelledR).any p.heldB)) : RegOK q := by
  refine hr.forget q hqt (hq1 ▸ List.nil_sublist _) (hq2 ▸ List.nil_sublist _) (hq3 ▸ List.nil_sublist _) fun l => ?_
  rw [hq4, Bool.or_eq_false_iff, List.any_eq_false] at l
  exact ⟨l.1, fun i hi hh => absurd hh (l.2 i (List.mem_append.mpr hi))⟩

end Taskpool
