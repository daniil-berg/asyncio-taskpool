import Taskpool.Inv.Seal
import Taskpool.Inv.WantWalk2
import Taskpool.Inv.Wrapper
import Taskpool.Inv.Elim
import Taskpool.Inv.ApiStages
/-! The frame relation of `Pool.SealOK`.

`PStep p q` relates a state `p` to a later state `q` reached by steps that keep everything `Pool.SealOK` reads, up to the
changes the invariant tolerates:

* waiter queues: a cancelled first entry of an owner stays one (`ownCancelled` is monotone), no owner is added;
* a request record keeps its hooks and — as long as its spawner is live — its frame, a set `must_cancel`, a cancelled own
  waiter entry (`RStep`); a spawner is un-filed (`inRunning := false`) only if it has an outcome or is doomed
  (`DoomedAt`) in `q`; a request is appended only while the pool is not locked, without `unlock()` among its hooks;
* a `gather_and_close()` call that is pending in `q` was pending in the same frame in `p`;
* gathers keep `children` and `retExc`; `running ++ cancelledR` only shrinks; the lock is not released.

Every function of the machine that is not a spawner's own progress and not the frame change of a
`gather_and_close()` is such a step, provided the user code it runs contains no `unlock()` — which is what the invariant
itself says (`NH`).  The leaves are stated as `PStep p₀ p → PStep p₀ (f p)`, so that a composite reads in the order of
execution (`((h.logEv _).modTask t _).suspendTask t _`); the synchronous API, all user code and the wrapper of a pool
task come from one instance of `TaskBlind` (`pstep_blind`, `Inv/Wrapper.lean`), which needs `NH` of the state the walk
started from: what rests on it (`ps_runHooks`, `ps_workerNext`) is stated as `PS p (f p)`, that is
`NH p → PStep p (f p)`. -/
namespace Taskpool
namespace Pool

/-- request step: `r'` is a later version of request record `r` that took back nothing of what dooms a live spawner -/
structure RStep (r r' : Req) : Prop where
  hk : r'.hooks = r.hooks
  me : r.mapSem.waiters = [] → r'.mapSem.waiters = []
  lv : r'.outcome = none → r.outcome = none ∧ r'.frame = r.frame ∧ (r.mustCancel = true → r'.mustCancel = true) ∧
         ∀ i, ownCancelled i r.mapSem.waiters → ownCancelled i r'.mapSem.waiters

theorem RStep.refl (r : Req) : RStep r r := ⟨rfl, id, fun h => ⟨h, rfl, id, fun _ x => x⟩⟩

theorem RStep.trans {a b c : Req} (h1 : RStep a b) (h2 : RStep b c) : RStep a c := by
  refine ⟨h2.hk.trans h1.hk, fun h => h2.me (h1.me h), fun ho => ?_⟩
  obtain ⟨o2, f2, m2, w2⟩ := h2.lv ho
  obtain ⟨o1, f1, m1, w1⟩ := h1.lv o2
  exact ⟨o1, f2.trans f1, fun x => m2 (m1 x), fun i x => w2 i (w1 i x)⟩

theorem RStep.of_eq {r r' : Req} (hk : r'.hooks = r.hooks) (ho : r'.outcome = r.outcome) (hf : r'.frame = r.frame)
    (hm : r'.mustCancel = r.mustCancel) (hw : r'.mapSem.waiters = r.mapSem.waiters) : RStep r r' :=
  ⟨hk, fun h => hw.trans h, fun h => ⟨ho ▸ h, hf, fun x => hm.trans x, fun _ x => hw ▸ x⟩⟩

theorem RStep.of_done {r r' : Req} (hk : r'.hooks = r.hooks) (ho : r'.outcome.isSome = true)
    (hw : r'.mapSem.waiters = r.mapSem.waiters) : RStep r r' :=
  ⟨hk, fun h => hw.trans h, fun h => by rw [h] at ho; cases ho⟩

theorem snapReq_inRunning (x : Req) : (snapReq x).inRunning = x.inRunning := by
  rw [snapReq_eq]

theorem snapReq_outcome (x : Req) : (snapReq x).outcome = x.outcome := by
  rw [snapReq_eq]

theorem rstep_snapReq (x : Req) : RStep x (snapReq x) := by
  rw [snapReq_eq]
  exact RStep.of_eq rfl rfl rfl rfl rfl

theorem doomed_step {p q : Pool} {i : Nat} {r r' : Req} (hd : DoomedAt p i r) (hs : RStep r r') (ho : r'.outcome = none)
    (hw : ∀ i, ownCancelled i p.sem.waiters → ownCancelled i q.sem.waiters) : DoomedAt q i r' := by
  obtain ⟨_, f, m, w⟩ := hs.lv ho
  rcases hd with d | ⟨d1, d2⟩ | ⟨d1, d2⟩
  · exact Or.inl (m d)
  · exact Or.inr (Or.inl ⟨f.trans d1, hw i d2⟩)
  · exact Or.inr (Or.inr ⟨f.trans d1, w i d2⟩)

/-- no hook unlocks: no user code of the pool calls `unlock()` (clause `nh` of `SealOK`) -/
def NH (p : Pool) : Prop :=
  (match p.simple with | some sp => sp.noUnlock | none => true) = true ∧
  ∀ (m : Nat) (r : Req), p.reqs[m]? = some r → r.hooks.noUnlock = true

/-- pool step: `q` is `p` after steps that keep what `SealOK` reads (the header goes through the fields) -/
structure PStep (p q : Pool) : Prop where
  sw : ∀ i, ownCancelled i p.sem.waiters → ownCancelled i q.sem.waiters
  so : ∀ x, x ∈ owners q.sem.waiters → x ∈ owners p.sem.waiters
  rl : p.reqs.length ≤ q.reqs.length
  rq : ∀ (i : Nat) (r' : Req), q.reqs[i]? = some r' →
        (∃ r, p.reqs[i]? = some r ∧ RStep r r' ∧ (r'.inRunning = true → r.inRunning = true) ∧
          (r'.outcome = none → r.inRunning = true → r'.inRunning = true ∨ DoomedAt q i r')) ∨
        (p.reqs.length ≤ i ∧ p.locked = false ∧ r'.hooks.noUnlock = true ∧
          (r'.outcome = none → r'.inRunning = true ∨ DoomedAt q i r'))
  ap : ∀ (a : Nat) (A' : Api), q.apis[a]? = some A' → A'.gacPending = true →
        ∃ A, p.apis[a]? = some A ∧ A.kind.isGac = true ∧ A.frame = A'.frame
  ga : ∀ (g : Nat) (G : Gather), p.gathers[g]? = some G →
        ∃ G', q.gathers[g]? = some G' ∧ G'.children = G.children ∧ G'.retExc = G.retExc
  ru : ∀ t, t ∈ q.running ++ q.cancelledR → t ∈ p.running ++ p.cancelledR
  lk : p.locked = true → q.locked = true
  si : q.simple = p.simple

theorem gacPending_iff (A : Api) :
    A.gacPending = true ↔ A.kind.isGac = true ∧ ((∃ g, A.frame = .gather1 g) ∨ ∃ g, A.frame = .gather2 g) := by
  unfold Api.gacPending
  cases A.frame <;> simp

theorem gacPending_of_frame {A A' : Api} (hk : A.kind.isGac = true) (hf : A.frame = A'.frame) (h : A'.gacPending = true) :
    A.gacPending = true := by
  rw [gacPending_iff] at h ⊢
  rw [hf]; exact ⟨hk, h.2⟩

theorem PStep.refl (p : Pool) : PStep p p where
  sw := fun _ h => h
  so := fun _ h => h
  rl := Nat.le_refl _
  rq := fun _ r' h => Or.inl ⟨r', h, RStep.refl r', id, fun _ x => Or.inl x⟩
  ap := fun _ A' h hp => ⟨A', h, ((gacPending_iff A').mp hp).1, rfl⟩
  ga := fun _ G h => ⟨G, h, rfl, rfl⟩
  ru := fun _ h => h
  lk := id
  si := rfl

theorem PStep.trans {p q s : Pool} (h1 : PStep p q) (h2 : PStep q s) : PStep p s where
  sw := fun i h => h2.sw i (h1.sw i h)
  so := fun x h => h1.so x (h2.so x h)
  rl := Nat.le_trans h1.rl h2.rl
  rq := fun i r'' hs => by
    rcases h2.rq i r'' hs with ⟨r', hq, s2, a2, b2⟩ | ⟨l2, k2, n2, f2⟩
    · rcases h1.rq i r' hq with ⟨r, hp, s1, a1, b1⟩ | ⟨l1, k1, n1, f1⟩
      · refine Or.inl ⟨r, hp, s1.trans s2, fun x => a1 (a2 x), fun ho hin => ?_⟩
        have ho' := (s2.lv ho).1
        rcases b1 ho' hin with x | x
        · exact b2 ho x
        · exact Or.inr (doomed_step x s2 ho h2.sw)
      · refine Or.inr ⟨l1, k1, s2.hk ▸ n1, fun ho => ?_⟩
        have ho' := (s2.lv ho).1
        rcases f1 ho' with x | x
        · exact b2 ho x
        · exact Or.inr (doomed_step x s2 ho h2.sw)
    · refine Or.inr ⟨Nat.le_trans h1.rl l2, ?_, n2, f2⟩
      cases hl : p.locked with
      | false => rfl
      | true => rw [h1.lk hl] at k2; cases k2
  ap := fun a A'' hs hp => by
    obtain ⟨A', hq, k, f⟩ := h2.ap a A'' hs hp
    obtain ⟨A, hp', k', f'⟩ := h1.ap a A' hq (gacPending_of_frame k f hp)
    exact ⟨A, hp', k', f'.trans f⟩
  ga := fun g G h => by
    obtain ⟨G', a, b, c⟩ := h1.ga g G h
    obtain ⟨G'', a', b', c'⟩ := h2.ga g G' a
    exact ⟨G'', a', b'.trans b, c'.trans c⟩
  ru := fun t h => h1.ru t (h2.ru t h)
  lk := fun h => h2.lk (h1.lk h)
  si := h2.si.trans h1.si

theorem PStep.nh {p q : Pool} (h : PStep p q) (hn : NH p) : NH q := by
  refine ⟨by rw [h.si]; exact hn.1, fun m r' hq => ?_⟩
  rcases h.rq m r' hq with ⟨r, hp, s, _, _⟩ | ⟨_, _, n, _⟩
  · rw [s.hk]; exact hn.2 m r hp
  · exact n

theorem PStep.doomed {p q : Pool} (h : PStep p q) {i : Nat} {r r' : Req} (hp : p.reqs[i]? = some r)
    (hq : q.reqs[i]? = some r') (ho : r'.outcome = none) (hd : r.outcome = none → DoomedAt p i r) : DoomedAt q i r' := by
  rcases h.rq i r' hq with ⟨r0, hp0, s, _, _⟩ | ⟨l, _⟩
  · rw [hp] at hp0; cases hp0
    exact doomed_step (hd (s.lv ho).1) s ho h.sw
  · have := (lt_of_getElem?_some hp); omega

/-- `PStep` under the proviso `NH`: a step of the machine, given that the user code of the pool does not call `unlock()` -/
def PS (p q : Pool) : Prop := NH p → PStep p q

theorem PS.refl (p : Pool) : PS p p := fun _ => PStep.refl p
theorem PS.trans {p q s : Pool} (h1 : PS p q) (h2 : PS q s) : PS p s :=
  fun hn => (h1 hn).trans (h2 ((h1 hn).nh hn))

theorem ps_foldl_mem {α} (l : List α) (f : Pool → α → Pool) (h : ∀ p, ∀ a ∈ l, PS p (f p a)) (p : Pool) :
    PS p (l.foldl f p) := foldl_rel PS.refl PS.trans f l h p

theorem ps_foldl {α} (l : List α) (f : Pool → α → Pool) (h : ∀ p a, PS p (f p a)) (p : Pool) : PS p (l.foldl f p) :=
  ps_foldl_mem l f (fun p a _ => h p a) p

theorem pstep_reqs (p q : Pool) (hl : q.reqs.length = p.reqs.length)
    (hr : ∀ (i : Nat) (r' : Req), q.reqs[i]? = some r' → ∃ r, p.reqs[i]? = some r ∧ RStep r r' ∧
      (r'.inRunning = true → r.inRunning = true) ∧
      (r'.outcome = none → r.inRunning = true → r'.inRunning = true ∨ DoomedAt q i r'))
    (h3 : p.locked = true → q.locked = true := by exact id) (hs : q.sem.waiters = p.sem.waiters := by rfl)
    (ha : q.apis = p.apis := by rfl) (hg : q.gathers = p.gathers := by rfl) (h1 : q.running = p.running := by rfl)
    (h2 : q.cancelledR = p.cancelledR := by rfl) (h4 : q.simple = p.simple := by rfl) : PStep p q where
  sw := fun _ h => hs ▸ h
  so := fun _ h => hs ▸ h
  rl := Nat.le_of_eq hl.symm
  rq := fun i r' h => Or.inl (hr i r' h)
  ap := fun _ A' h hp => ⟨A', ha ▸ h, ((gacPending_iff A').mp hp).1, rfl⟩
  ga := fun _ G h => ⟨G, hg ▸ h, rfl, rfl⟩
  ru := fun _ h => by rw [h1, h2] at h; exact h
  lk := h3
  si := h4

theorem pstep_of_eq (p q : Pool) (hr : q.reqs = p.reqs := by rfl) (hs : q.sem.waiters = p.sem.waiters := by rfl)
    (ha : q.apis = p.apis := by rfl) (hg : q.gathers = p.gathers := by rfl) (h1 : q.running = p.running := by rfl)
    (h2 : q.cancelledR = p.cancelledR := by rfl) (h3 : q.locked = p.locked := by rfl)
    (h4 : q.simple = p.simple := by rfl) : PStep p q :=
  pstep_reqs p q (congrArg _ hr) (fun _ r' h => ⟨r', hr ▸ h, RStep.refl r', id, fun _ x => Or.inl x⟩) (fun h => h3 ▸ h)
    hs ha hg h1 h2 h4

theorem pstep_of_eq_lock (p q : Pool) (h3 : q.locked = true) (hr : q.reqs = p.reqs := by rfl)
    (hs : q.sem.waiters = p.sem.waiters := by rfl)
    (ha : q.apis = p.apis := by rfl) (hg : q.gathers = p.gathers := by rfl) (h1 : q.running = p.running := by rfl)
    (h2 : q.cancelledR = p.cancelledR := by rfl) (h4 : q.simple = p.simple := by rfl) : PStep p q :=
  pstep_reqs p q (congrArg _ hr) (fun _ r' h => ⟨r', hr ▸ h, RStep.refl r', id, fun _ x => Or.inl x⟩) (fun _ => h3)
    hs ha hg h1 h2 h4

theorem pstep_mapReqs (p q : Pool) (f : Req → Req) (hq : q.reqs = p.reqs.map f) (hf : ∀ r, RStep r (f r))
    (h1 : ∀ r, (f r).inRunning = true → r.inRunning = true)
    (h2 : ∀ i r, p.reqs[i]? = some r → (f r).outcome = none → r.inRunning = true →
      (f r).inRunning = true ∨ DoomedAt q i (f r))
    (hs : q.sem.waiters = p.sem.waiters := by rfl)
    (ha : q.apis = p.apis := by rfl) (hg : q.gathers = p.gathers := by rfl) (e1 : q.running = p.running := by rfl)
    (e2 : q.cancelledR = p.cancelledR := by rfl) (e3 : q.locked = p.locked := by rfl)
    (e4 : q.simple = p.simple := by rfl) : PStep p q := by
  refine pstep_reqs p q (by rw [hq, List.length_map]) (fun i r' h => ?_) (fun h => e3 ▸ h) hs ha hg e1 e2 e4
  obtain ⟨r, hp, rfl⟩ := getElem?_map_some (hq ▸ h)
  exact ⟨r, hp, hf r, h1 r, h2 i r hp⟩

theorem pstep_modApi (p : Pool) (a : Nat) (f : Api → Api)
    (hf : ∀ x, p.apis[a]? = some x → (f x).gacPending = true → (f x).kind = x.kind ∧ (f x).frame = x.frame) :
    PStep p (p.modApi a f) :=
  { PStep.refl p with
    ap := fun i A' h hp => by
      rcases getElem?_modify_split h with ⟨rfl, A, hA, rfl⟩ | ⟨_, hA⟩
      · obtain ⟨k, fr⟩ := hf A hA hp
        exact ⟨A, hA, k ▸ ((gacPending_iff _).mp hp).1, fr.symm⟩
      · exact ⟨A', hA, ((gacPending_iff _).mp hp).1, rfl⟩ }

theorem pstep_modApi_nogac (p : Pool) (a : Nat) (f : Api → Api) (hk : ∀ x, (f x).kind = x.kind)
    (hn : ∀ x, p.apis[a]? = some x → x.kind.isGac = false) : PStep p (p.modApi a f) := by
  refine pstep_modApi p a f (fun x hx h => ?_)
  rw [gacPending_iff, hk, hn x hx] at h
  cases h.1

variable {p₀ p : Pool}

theorem PStep.same (h : PStep p₀ p) (q : Pool) (hr : q.reqs = p.reqs := by rfl)
    (hs : q.sem.waiters = p.sem.waiters := by rfl)
    (ha : q.apis = p.apis := by rfl) (hg : q.gathers = p.gathers := by rfl) (h1 : q.running = p.running := by rfl)
    (h2 : q.cancelledR = p.cancelledR := by rfl) (h3 : q.locked = p.locked := by rfl)
    (h4 : q.simple = p.simple := by rfl) : PStep p₀ q := h.trans (pstep_of_eq p q hr hs ha hg h1 h2 h3 h4)

theorem PStep.shrink (h : PStep p₀ p) (rs cs ended : List Nat) (hm : ∀ t ∈ rs ++ cs, t ∈ p.running ++ p.cancelledR) :
    PStep p₀ { p with running := rs, cancelledR := cs, ended := ended } := h.trans { PStep.refl p with ru := hm }

theorem PStep.sem (h : PStep p₀ p) (s : Sem) (hw : ∀ i, ownCancelled i p.sem.waiters → ownCancelled i s.waiters)
    (ho : ∀ x, x ∈ owners s.waiters → x ∈ owners p.sem.waiters) : PStep p₀ { p with sem := s } :=
  h.trans { PStep.refl p with
    sw := hw, so := ho, rq := fun _ r' hq => Or.inl ⟨r', hq, RStep.refl r', id, fun _ x => Or.inl x⟩ }

theorem PStep.modTask (h : PStep p₀ p) (t : Nat) (f : PTask → PTask) : PStep p₀ (p.modTask t f) := h.same _
theorem PStep.emitRef (h : PStep p₀ p) (r : Ref) : PStep p₀ (p.emitRef r) := h.same _
theorem PStep.logEv (h : PStep p₀ p) (e : Ev) : PStep p₀ (p.logEv e) := h.same _

theorem PStep.modReq (h : PStep p₀ p) (m : Nat) (f : Req → Req)
    (hf : ∀ r, p.reqs[m]? = some r → RStep r (f r) := by intro r _; exact RStep.of_eq rfl rfl rfl rfl rfl)
    (hi : ∀ r, (f r).inRunning = r.inRunning := by intro r; rfl) : PStep p₀ (p.modReq m f) := by
  refine h.trans (pstep_reqs p _ (List.length_modify ..) (fun i r' hq => ?_))
  rcases getElem?_modify_split hq with ⟨rfl, r, hp, rfl⟩ | ⟨_, hp⟩
  · exact ⟨r, hp, hf r hp, fun x => (hi r) ▸ x, fun _ x => Or.inl ((hi r).symm ▸ x)⟩
  · exact ⟨r', hp, RStep.refl r', id, fun _ x => Or.inl x⟩

theorem PStep.modApi (h : PStep p₀ p) (a : Nat) (f : Api → Api) (hk : ∀ x, (f x).kind = x.kind := by intro x; rfl)
    (hfr : ∀ x, (f x).frame = x.frame := by intro x; rfl) : PStep p₀ (p.modApi a f) :=
  h.trans (pstep_modApi p a f fun x _ _ => ⟨hk x, hfr x⟩)

theorem PStep.modGather (h : PStep p₀ p) (g : Nat) (f : Gather → Gather)
    (hc : ∀ G, (f G).children = G.children := by intro G; rfl) (hr : ∀ G, (f G).retExc = G.retExc := by intro G; rfl) :
    PStep p₀ (p.modGather g f) :=
  h.trans { PStep.refl p with
    ga := fun i G hG => by
      refine ⟨_, getElem?_modify_of hG g f, ?_⟩
      split
      · exact ⟨hc G, hr G⟩
      · exact ⟨rfl, rfl⟩ }

theorem PStep.schedMeta (h : PStep p₀ p) (m : Nat) : PStep p₀ (p.schedMeta m) := (h.modReq m _).emitRef _
theorem PStep.schedApi (h : PStep p₀ p) (a : Nat) : PStep p₀ (p.schedApi a) := (h.modApi a _).emitRef _

theorem PStep.schedOpt (h : PStep p₀ p) (o : Option Nat) : PStep p₀ (p.schedOpt o) := by
  cases o with
  | none => exact h
  | some m => exact h.schedMeta m

theorem PStep.emitChildren (h : PStep p₀ p) (cbs : List (Nat × Nat)) : PStep p₀ (p.emitChildren cbs) :=
  foldl_keeps _ (fun _ _ hq => hq.emitRef _) cbs p h

theorem PStep.wake (h : PStep p₀ p) (s : Sem) (hs : s.waiters = p.sem.waiters) :
    PStep p₀ (({ p with sem := s.wakeNext.1 } : Pool).schedOpt s.wakeNext.2) := by
  refine (h.sem _ (fun i hi => ?_) (fun x hx => ?_)).schedOpt _
  · rw [wakeNext_waiters, hs]; exact ownCancelled_wake i _ _ hi
  · rw [wakeNext_waiters, owners_wakeNextL, hs] at hx; exact hx

theorem PStep.releasePool (h : PStep p₀ p) : PStep p₀ p.releasePool := h.wake _ rfl

theorem wakeNextL_nil (v : Cap) : (wakeNextL v []).2.1 = [] := rfl

theorem PStep.releaseMap (h : PStep p₀ p) (m : Nat) : PStep p₀ (p.releaseMap m) := by
  unfold Pool.releaseMap
  split
  · exact h
  · rename_i r hp
    dsimp only
    refine PStep.schedOpt ?_ _
    refine h.modReq m _ (fun x hx => ?_) (fun _ => rfl)
    rw [hp] at hx; cases hx
    refine ⟨rfl, fun e => ?_, fun ho => ⟨ho, rfl, id, fun i hi => ?_⟩⟩
    · show (wakeNextL _ r.mapSem.waiters).2.1 = []
      rw [e]; rfl
    · exact (wakeNext_waiters _) ▸ ownCancelled_wake i _ _ hi

theorem rstep_mustCancel (r : Req) : RStep r { r with mustCancel := true } :=
  ⟨rfl, id, fun ho => ⟨ho, rfl, fun _ => rfl, fun _ h => h⟩⟩

theorem rstep_cancelOwn (m : Nat) (r : Req) :
    RStep r { r with mapSem := { r.mapSem with waiters := cancelWaiterL m r.mapSem.waiters } } :=
  ⟨rfl, fun h => by show cancelWaiterL m r.mapSem.waiters = []; rw [h]; rfl,
    fun ho => ⟨ho, rfl, id, fun i h => ownCancelled_cancel m i _ h⟩⟩

/-- `Task.cancel()` on a spawner takes back nothing -/
theorem PStep.metaCancel (h : PStep p₀ p) (m : Nat) : PStep p₀ (p.metaCancel m) := by
  refine metaCancel_elim p m (fun _ => h) (fun _ _ _ => h) (fun _ _ _ _ => ?_) (fun _ _ _ _ _ => ?_) (fun _ _ _ _ _ => ?_)
  · refine ((h.sem _ (fun i => ownCancelled_cancel m i _) (fun x hx => ?_)).modReq m snapReq
      (fun r _ => rstep_snapReq r) snapReq_inRunning).schedMeta m
    rw [owners_cancelWaiterL] at hx; exact hx
  · exact (h.modReq m _ (fun r _ => (rstep_cancelOwn m r).trans (rstep_snapReq _))
      (fun _ => snapReq_inRunning _)).schedMeta m
  · exact h.modReq m _ (fun r _ => (rstep_mustCancel r).trans (rstep_snapReq _)) (fun _ => snapReq_inRunning _)

theorem doomed_metaCancel (p : Pool) (m : Nat) :
    ∀ r', (p.metaCancel m).reqs[m]? = some r' → r'.outcome = none → DoomedAt (p.metaCancel m) m r' := by
  refine metaCancel_elim (P := fun q => ∀ r', q.reqs[m]? = some r' → r'.outcome = none → DoomedAt q m r') p m
    (fun hp r' hq => by rw [hp] at hq; cases hq)
    (fun r hp c r' hq ho => by rw [hp] at hq; cases hq; rw [ho] at c; cases c)
    (fun r hp _ c r' hq _ => ?_) (fun r hp _ _ c r' hq _ => ?_) (fun r hp _ _ _ r' hq _ => ?_)
  · cases (modReq_get_self _ m _ _ (modReq_get_self _ m snapReq r hp)).symm.trans hq
    simp only [Bool.and_eq_true, beq_iff_eq] at c
    rw [snapReq_eq]
    exact Or.inr (Or.inl ⟨c.1, ownCancelled_of_pending m _ (getD_firstIsPending m _ c.2)⟩)
  · cases (modReq_get_self _ m _ _ (modReq_get_self p m _ r hp)).symm.trans hq
    simp only [Bool.and_eq_true, beq_iff_eq] at c
    rw [snapReq_eq]
    exact Or.inr (Or.inr ⟨c.1, ownCancelled_of_pending m _ (getD_firstIsPending m _ c.2)⟩)
  · cases (modReq_get_self p m _ r hp).symm.trans hq
    rw [snapReq_eq]
    exact Or.inl rfl

/-- once every spawner of the list has been cancelled, those that are still live are doomed; `C` singles out the
spawners the caller is interested in -/
theorem foldl_metaCancel_doomed (C : Req → Prop) (ms : List Nat) (p : Pool)
    (h : ∀ i r, p.reqs[i]? = some r → C r → r.outcome = none → i ∈ ms ∨ DoomedAt p i r) :
    ∀ i r, (ms.foldl (fun p m => p.metaCancel m) p).reqs[i]? = some r → C r → r.outcome = none →
      DoomedAt (ms.foldl (fun p m => p.metaCancel m) p) i r := by
  induction ms generalizing p with
  | nil => exact fun i r hi hc ho => (h i r hi hc ho).resolve_left (List.not_mem_nil)
  | cons m ms ih =>
    refine ih (p.metaCancel m) (fun i r hi hc ho => ?_)
    by_cases e : m = i
    · subst e; exact Or.inr (doomed_metaCancel p m r hi ho)
    · rw [metaCancel_ne p e] at hi
      rcases h i r hi hc ho with x | x
      · exact Or.inl ((List.mem_cons.mp x).resolve_left (Ne.symm e))
      · exact Or.inr (doomed_step x (RStep.refl r) ho ((PStep.refl p).metaCancel m).sw)

/-- `_cancel_group_meta_tasks`: the spawners un-filed are doomed (or done) -/
theorem PStep.cancelGroupMetas (h : PStep p₀ p) (g : String) : PStep p₀ (p.cancelGroupMetas g) := by
  unfold Pool.cancelGroupMetas
  dsimp only
  have hd := foldl_metaCancel_doomed (fun r => (r.inRunning && r.group == g) = true)
    (indicesWhere p.reqs fun r => r.inRunning && r.group == g) p
    (fun i r hi hc _ => Or.inl (mem_indicesWhere_iff.mpr ⟨_, hi, hc⟩))
  have hq := foldl_keeps (P := PStep p₀) _ (fun _ m hq => hq.metaCancel m)
    (indicesWhere p.reqs fun r => r.inRunning && r.group == g) p h
  generalize (indicesWhere p.reqs fun r => r.inRunning && r.group == g).foldl (fun p m => p.metaCancel m) p = q at hd hq
  refine hq.trans (pstep_mapReqs q _ _ rfl (fun r => ?_) (fun r x => ?_) (fun i r hi ho _ => ?_))
  · split
    · exact RStep.of_eq rfl rfl rfl rfl rfl
    · exact RStep.refl r
  · split at x
    · cases x
    · exact x
  · by_cases c : (r.inRunning && r.group == g) = true
    · rw [if_pos c] at ho ⊢
      exact Or.inr (hd i r hi c ho)
    · rw [if_neg c]; exact Or.inl (by assumption)

theorem PStep.register (h : PStep p₀ p) (r : Req) (hl : p.locked = false) (hn : r.hooks.noUnlock = true)
    (hi : r.inRunning = true) : PStep p₀ (p.register r) := by
  unfold Pool.register
  refine PStep.emitRef (h.trans ?_) _
  exact { PStep.refl p with
    rl := List.length_append ▸ Nat.le_add_right _ _
    rq := fun i r' hq => by
      rcases getElem?_append_one hq with hp | ⟨hlen, rfl⟩
      · exact Or.inl ⟨r', hp, RStep.refl r', id, fun _ x => Or.inl x⟩
      · exact Or.inr ⟨Nat.le_of_eq hlen.symm, hl, hn, fun _ => Or.inl hi⟩ }

theorem noUnlock_parts {h : Hooks} (hn : h.noUnlock = true) :
    h.start.all (fun o => !o.isUnlock) = true ∧ h.endCb.all (fun o => !o.isUnlock) = true ∧
    h.cancelCb.all (fun o => !o.isUnlock) = true ∧ h.pull.all (fun o => !o.isUnlock) = true := by
  unfold Hooks.noUnlock at hn
  simp only [List.all_append, Bool.and_eq_true] at hn
  exact ⟨hn.1.1.1.1, hn.1.1.1.2, hn.1.1.2, hn.1.2⟩

theorem noUnlock_next {h : Hooks} (hn : h.noUnlock = true) : h.next.all (fun o => !o.isUnlock) = true := by
  unfold Hooks.noUnlock at hn
  simp only [List.all_append, Bool.and_eq_true] at hn
  exact hn.2

theorem not_unlock_mem {hs : List HookOp} (hh : hs.all (fun o => !o.isUnlock) = true) : HookOp.unlock ∈ hs → False :=
  fun hm => nomatch List.all_eq_true.mp hh _ hm

theorem NH.getD {p : Pool} (hn : NH p) (m : Nat) : (p.reqs[m]?.getD default).hooks.noUnlock = true := by
  cases hp : p.reqs[m]? with
  | none => rfl
  | some r => exact hn.2 m r hp

theorem pstep_blind (hn : NH p₀) : TaskBlind (PStep p₀) (fun sp => sp.noUnlock = true) False where
  cancelTask := cancelTask_keeps (fun _ t f h => h.modTask t f) fun _ r h => h.emitRef r
  cancelGroupMetas := fun _ g h => h.cancelGroupMetas g
  dropGroups := fun _ _ _ h => h.same _
  setOrders := fun _ _ h => h.same _
  lock := fun p h => h.trans (pstep_of_eq_lock p _ rfl)
  unlock := fun f => f.elim
  startCalls := fun _ _ h => h.same _
  logEv := fun _ e h => h.logEv e
  register := fun _ _ _ _ _ _ _ _ hs hc _ _ h => h.register _ (checkStart_unlocked hc) hs rfl
  modTask := fun _ t f h => h.modTask t f
  emitRef := fun _ r h => h.emitRef r
  lost := fun _ h => h.same _
  runToEnded := fun _ _ _ h => h.shrink _ _ _ fun _ hx =>
    (List.mem_append.mp hx).elim (fun a => List.mem_append_left _ (List.mem_of_mem_erase a)) (List.mem_append_right _)
  canToEnded := fun _ _ _ h => h.shrink _ _ _ fun _ hx =>
    (List.mem_append.mp hx).elim (List.mem_append_left _) fun a => List.mem_append_right _ (List.mem_of_mem_erase a)
  runToCan := fun _ _ c h => h.shrink _ _ _ fun x hx => by
    rcases List.mem_append.mp hx with a | a
    · exact List.mem_append_left _ (List.mem_of_mem_erase a)
    · rcases List.mem_append.mp a with b | b
      · exact List.mem_append_right _ b
      · exact List.mem_append_left _ (List.mem_singleton.mp b ▸ List.contains_iff_mem.mp c)
  releasePool := fun _ h => h.releasePool
  releaseMap := fun _ m h => h.releaseMap m
  gated := rfl
  adm := fun p h m r hr hu => by
    have hp := (h.nh hn).2 m r hr
    exact not_unlock_mem (by
      obtain ⟨a, b, c, _⟩ := noUnlock_parts hp
      simp only [List.all_append, Bool.and_eq_true]
      exact ⟨⟨⟨a, b⟩, c⟩, noUnlock_next hp⟩) hu

theorem ps_runHooks (p : Pool) (ctx : Nat) (hs : List HookOp) (hh : hs.all (fun o => !o.isUnlock) = true) :
    PS p (p.runHooks ctx hs) :=
  fun hn => (pstep_blind hn).toSyncKept.runHooks (PStep.refl p) ctx hs (not_unlock_mem hh) rfl

theorem ps_workerNext (p : Pool) (t : Nat) (tk : PTask) : PS p (p.workerNext t tk) :=
  fun hn => (pstep_blind hn).workerNext (PStep.refl p) t tk

theorem PStep.finishMeta (h : PStep p₀ p) (m : Nat) (o : Outcome) : PStep p₀ (p.finishMeta m o) := by
  unfold Pool.finishMeta
  split
  · exact h
  · refine PStep.emitChildren ?_ _
    exact h.modReq m _ (fun r _ => RStep.of_done rfl rfl rfl) (fun _ => rfl)

theorem pstep_gather (p₀ : Pool) : GatherBlind (PStep p₀) where
  modGather := fun _ g f hf h => h.modGather g f (fun G => (hf G).1) fun G => (hf G).2
  schedApi := fun _ a h => h.schedApi a
  regTask := fun _ t _ h => h.modTask t _
  regReq := fun _ m _ h => h.modReq m _
  newGather := fun p _ _ h => h.trans { PStep.refl p with
    ga := fun _ G hG => ⟨G, getElem?_append_of hG _, rfl, rfl⟩ }

/-- nobody running: no spawner is filed as running -/
def NR (p : Pool) : Prop := ∀ (m : Nat) (r : Req), p.reqs[m]? = some r → r.inRunning = false

theorem NR.same {p : Pool} (h : NR p) (q : Pool) (hr : q.reqs = p.reqs := by rfl) : NR q :=
  fun m r a => h m r (hr ▸ a)

theorem nr_gather : GatherBlind NR where
  modGather := fun _ _ _ _ h => h.same _
  schedApi := fun _ _ h => h.same _
  regTask := fun _ _ _ h => h.same _
  regReq := fun p m _ h j r' hj => by
    obtain ⟨x, hx, rfl⟩ := getElem?_modify_some p.reqs m j _ r' hj
    exact ite_keeps (P := fun y : Req => y.inRunning = false) (h j x hx) (h j x hx)
  newGather := fun _ _ _ h => h.same _

theorem PStep.gatherChildDone (h : PStep p₀ p) (g i : Nat) (viaHandle : Bool) :
    PStep p₀ (p.gatherChildDone g i viaHandle) := (pstep_gather p₀).gatherChildDone h g i viaHandle

theorem PStep.gatherStart (h : PStep p₀ p) (children : List Child) (re : Bool) (owner : Nat) (setPrefix : Nat) :
    PStep p₀ (p.gatherStart children re owner setPrefix).1 := (pstep_gather p₀).gatherStart h children re owner setPrefix

theorem PStep.finishApi (h : PStep p₀ p) (a : Nat) (o : Outcome) : PStep p₀ (p.finishApi a o) := by
  refine h.trans (pstep_modApi p a _ (fun x _ hx => ?_))
  rw [gacPending_iff] at hx
  rcases hx.2 with ⟨g, e⟩ | ⟨g, e⟩ <;> cases e

def NoGacAt (a : Nat) (p : Pool) : Prop := ∀ x, p.apis[a]? = some x → x.kind.isGac = false

/-- the stages of `flush()` and `until_closed()` (`Inv/ApiStages.lean`) are steps of the frame: `flush()` un-files only
spawners that have ended, and the frames of the `gather_and_close()` calls are not touched -/
theorem pstep_flush (p₀ : Pool) (a : Nat) :
    FlushStaged (fun _ _ p => PStep p₀ p ∧ NoGacAt a p) (fun _ _ q => PStep p₀ q.1 ∧ NoGacAt a q.1) (PStep p₀) a where
  headF1 := fun re p n h => by
    have t1 : PStep p₀ ({ p with reqs := p.reqs.map fun (r : Req) =>
        if r.inRunning && r.outcome.isSome then { r with inRunning := false } else r } : Pool) := by
      refine h.1.trans (pstep_mapReqs p _ _ rfl (fun r => ?_) (fun r x => ?_) (fun _ r _ ho hi => Or.inl ?_))
      · split
        · exact RStep.of_eq rfl rfl rfl rfl rfl
        · exact RStep.refl r
      · split at x
        · cases x
        · exact x
      · split at ho
        · rename_i c
          rw [hi, show r.outcome = none from ho] at c
          cases c
        · rename_i c; rw [if_neg c]; exact hi
    refine ⟨t1.gatherStart _ re a n, fun x hx => h.2 x ?_⟩
    rwa [(gatherStart_new _ _ re a n).1] at hx
  headF2 := fun re p _ _ h => by
    have t1 : PStep p₀ ({ p with metaCancelled := [], reqs := p.reqs.map fun (r : Req) => { r with inCancelled := false } } : Pool) :=
      h.1.trans (pstep_mapReqs p _ _ rfl (fun r => RStep.of_eq rfl rfl rfl rfl rfl) (fun _ x => x) (fun _ _ _ _ x => Or.inl x))
    refine ⟨(t1.modApi a fun x => { x with snapE := p.ended, snapC := p.cancelledR }).gatherStart _ re a 0, fun x hx => ?_⟩
    rw [(gatherStart_new _ _ re a 0).1] at hx
    obtain ⟨y, hy, rfl⟩ := getElem?_modify_self hx
    exact h.2 y hy
  go := fun _ _ _ _ h _ => h
  suspend := fun _ _ q _ h _ => h.1.trans (pstep_modApi_nogac _ a _ (fun _ => rfl) h.2)
  finish := fun _ _ _ _ _ h _ _ _ => h.1.finishApi a _
  forget := fun _ p _ h => by
    refine PStep.finishApi (h.1.trans ?_) a _
    exact { PStep.refl p with
      ru := fun x hx => (List.mem_append.mp hx).elim (List.mem_append_left _)
        fun b => List.mem_append_right _ (List.mem_filter.mp b).1 }
  seenClosed := fun _ h _ => h.1.finishApi a _
  waitClosed := fun p h _ => by
    refine (h.1.same { p with closedWaiters := p.closedWaiters ++ [a] }).trans (pstep_modApi _ a _ (fun x _ hx => ?_))
    rw [gacPending_iff] at hx
    rcases hx.2 with ⟨g, e⟩ | ⟨g, e⟩ <;> cases e

theorem PStep.addApi (h : PStep p₀ p) (k : ApiKind) : PStep p₀ (p.addApi k) := by
  unfold Pool.addApi
  refine PStep.emitRef (h.trans ?_) _
  exact { PStep.refl p with
    ap := fun i A' hA hp => by
      rcases getElem?_append_one hA with hA | ⟨_, rfl⟩
      · exact ⟨A', hA, ((gacPending_iff A').mp hp).1, rfl⟩
      · rw [gacPending_iff] at hp
        rcases hp.2 with ⟨g, e⟩ | ⟨g, e⟩ <;> cases e }

theorem pstep_applyOp (hn : NH p) (op : Op) (hop : op.noUnlock = true) : PStep p (p.applyOp op).1 := by
  cases hs : op.starts with
  | none =>
    refine (pstep_blind hn).toSyncKept.applyOp (.refl p) hs ?_ (fun sp e => by have := hn.1; rw [e] at this; exact this)
      (fun _ _ => (PStep.refl p).same _) fun t o _ => (pstep_blind hn).doGate (.refl p) t o
    cases op with
    | apply | map => exact hop
    | unlock => cases hop
    | _ => trivial
  | some k => exact applyOp_starts p hs ▸ (PStep.refl p).addApi k

end Pool
end Taskpool
