import Taskpool.Inv.WantWalk
import Taskpool.Inv.Wrapper
/-! **Whoever has something to do is flagged — the wrapper, the spawners, the assembly.**  The task (`WK (ET t)`) resp.
spawner (`WK (ES m)`) whose handle is being run is exempt from the start of its step (`wk_enter_task`, `wk_enter`) to the
change that ends it (`wk0_modTask_close`, `wk0_close`); from there on nobody is (`WK0`).  The wrapper goes through
`WrapStaged` (`Inv/Wrapper.lean`), the spawner's loops through `LoopKept` (`Inv/Loops.lean`). -/
namespace Taskpool
namespace Pool

/-- `WK` with nobody exempt (its `alive` is then empty: this is `Want`) -/
abbrev WK0 (p : Pool) : Prop := WK (fun _ => False) p

/-- the exempt set of `WK` while the handle of task `t` is being run -/
abbrev ET (t : Nat) : Ref → Prop := fun x => x = Ref.task t
/-- the exempt set of `WK` while the handle of spawner `m` is being run -/
abbrev ES (m : Nat) : Ref → Prop := fun x => x = Ref.spawner m

theorem wk0_modTask_close {p : Pool} {t : Nat} (h : WK (ET t) p) (f : PTask → PTask)
    (hf : ∀ k, p.tasks[t]? = some k → TG (f k)) : WK0 (p.modTask t f) := by
  refine (wk_close_task (wk_modTask_ex h t f rfl) ?_).wk
  intro k hk
  obtain ⟨k0, hk0, rfl⟩ := getElem?_modify_self hk
  exact hf k0 hk0

theorem wk0_of_none {p : Pool} {t : Nat} (h : WK (ET t) p) (hn : p.tasks[t]? = none) : WK0 p :=
  (wk_close_task h (fun k hk => by rw [hn] at hk; cases hk)).wk

theorem wk0_completeTask {p : Pool} {t : Nat} (h : WK (ET t) p) (o : Outcome) : WK0 (p.completeTask t o) := by
  unfold completeTask
  split
  · rename_i hn; exact wk0_of_none h hn
  · refine wk_emitChildren (wk0_modTask_close h _ ?_) _
    intro k _
    exact ⟨fun hq => by simp [PTask.quiet] at hq, by simp, fun _ => rfl⟩

theorem tg_susp {k : PTask} (hph : Susp k.phase) (h : k.sched = true ∨ k.fut = .pending) : TG k := by
  refine ⟨fun hq => h.elim id fun hf => ?_, ?_, ?_⟩
  · rcases hph with e | e | e <;> simp [PTask.quiet, e, hf] at hq
  · rcases hph with e | e | e <;> rw [e] <;> exact fun c => nomatch c
  · rcases hph with e | e | e <;> rw [e] <;> exact fun c => nomatch c

theorem wk0_suspendTask {p : Pool} {t : Nat} (h : WK (ET t) p) (ph : Phase) (hph : Susp ph) :
    WK0 (p.suspendTask t ph) := by
  unfold suspendTask
  split
  · rename_i hn; exact wk0_of_none h hn
  · split
    · rw [modTask_schedTask]
      exact wk_emitRef (wk0_modTask_close h _ fun _ _ => tg_susp hph (Or.inl rfl)) _
    · exact wk0_modTask_close h _ fun _ _ => tg_susp hph (Or.inr rfl)

/-- `hk`: the task as it is filed while its handle runs — the record `stepTask` read at the start, flag cleared -/
theorem wk0_still_quiet {p : Pool} {t : Nat} (h : WK (ET t) p) (tk : PTask)
    (hk : p.tasks[t]? = some { tk with sched := false }) (hph : Susp tk.phase) (hf : tk.fut = .pending) : WK0 p := by
  refine (wk_close_task h ?_).wk
  intro k hk'
  rw [hk] at hk'; cases hk'
  exact tg_susp hph (Or.inr hf)

theorem wk_wrap (t : Nat) : WrapStaged (fun _ => WK (ET t)) WK0 (fun _ => True) t where
  gone := fun _ _ hn h => wk0_of_none h hn
  suspend := fun _ _ ph hph h => wk0_suspendTask h ph hph.susp
  modTask := fun _ _ f _ h => wk_modTask_ex h t f rfl
  logEv := fun _ _ e h => wk_logEv h e
  runHooks := fun _ _ ctx hs _ h => wk_runHooks h ctx hs
  adm := fun _ _ _ _ => ⟨trivial, trivial, trivial, trivial⟩
  lost := fun _ h => wk_of_eq h
  toLost := fun _ h => wk_of_eq h
  runToCan := fun _ _ h => wk_of_eq h
  runToEnded := fun _ _ h => wk_of_eq h
  canToEnded := fun _ _ h => wk_of_eq h
  releasePool := fun _ h => wk_releasePool h
  releaseMap := fun _ m h => wk_releaseMap h m
  unhold := fun _ h => wk_modTask_ex h t _ rfl
  noMap := fun _ _ _ _ h => h
  finish := fun _ o h => wk0_completeTask h o
  finishLost := fun _ o h => wk0_completeTask h o

theorem wk0_stepTask {p : Pool} (h : WK0 p) (t : Nat) : WK0 (p.stepTask t) := by
  have h1 : WK (ET t) (p.modTask t fun k => { k with sched := false }) := wk_modTask_ex (wk_enter_task h t) t _ rfl
  refine (wk_wrap t).stepTask (fun _ => h) (fun tk htk hph => ?_) (fun _ _ _ => h1) (fun _ _ _ => h1)
    fun tk htk hph hf => wk0_still_quiet h1 tk (modify_get_self htk _) hph hf
  -- the handle of a task whose wrapper has returned: its asyncio Task is done; `wrapUp` never survives a step
  have htg := h.tg t tk htk (fun f => f)
  refine (wk_close_task h1 fun k hk' => ?_).wk
  cases (modify_get_self htk _).symm.trans hk'
  have ho := htg.2.2 (hph.resolve_left htg.2.1)
  exact ⟨fun hq => by simp [PTask.quiet, ho] at hq, htg.2.1, fun _ => ho⟩

theorem wk_modReq_sem (p : Pool) (m : Nat) (f : Req → Req) : (p.modReq m f).sem = p.sem := rfl

theorem modReq_get_ne (p : Pool) (m : Nat) (f : Req → Req) (i : Nat) (h : i ≠ m) :
    (p.modReq m f).reqs[i]? = p.reqs[i]? := by
  exact List.getElem?_modify_ne f p.reqs (Ne.symm h)

section
variable {p : Pool} {m : Nat} {r : Req} (h : WK0 p) (hp : p.reqs[m]? = some r)
include h hp

theorem wk0_live (hf : r.frame ≠ .done) : r.outcome = none := by
  cases ho : r.outcome with
  | none => rfl
  | some o => exact absurd (h.od m r hp id (by rw [ho]; rfl)) hf

theorem wk0_not_owner (hf : r.frame ≠ .waitRoom) : m ∉ owners p.sem.waiters := by
  intro hm
  obtain ⟨w, hw, hwo⟩ := mem_owners.mp hm
  obtain ⟨r1, hp1, hc⟩ := h.pw w hw
  rw [hwo, hp] at hp1
  cases hp1
  exact hf (hc id).1

theorem wk0_mapWaiters_nil (hf : r.frame ≠ .waitMapSem) : r.mapSem.waiters = [] :=
  List.eq_nil_iff_forall_not_mem.mpr fun w hw => hf ((h.mw m r hp w hw).2 id).1

/-- the waiter queue of the call's own semaphore holds at most the spawner's entry -/
theorem wk0_removeOwn_nil : (removeWaiterL m r.mapSem.waiters).2 = [] :=
  have hs := h.sp hp
  List.eq_nil_iff_forall_not_mem.mpr fun w hw => by
    have e := hs.mo w (removeWaiterL_subset _ _ _ hw)
    rw [mem_iff_ent, ent_remove, if_pos e, tail_nil_of_length_le_one hs.mq.n] at hw
    cases hw

end

theorem QOK.nil_ex {x : Prop} {fr : MFrame} {r : Req} (hx : x) : QOK x fr [] r :=
  ⟨Nat.zero_le 1, fun _ => rfl, fun c => (c hx).elim, fun c => (c hx).elim⟩

theorem spOK_ex {x : Prop} {m : Nat} {r : Req} (hx : x) (hw : r.mapSem.waiters = []) (ho : r.outcome = none) :
    SpOK x [] m r where
  pq := .nil_ex hx
  mq := by rw [hw]; exact .nil_ex hx
  mo := hw ▸ nofun
  al := fun _ => ho
  rs := fun c => (c hx).elim
  od := fun c => (c hx).elim

/-- a spawner in frame `fr'`, seen from the semaphore in which frame `fr` waits: its only entry `st` is there if `fr' = fr` -/
theorem QOK.idle {fr fr' : MFrame} {r : Req} {st : WaitSt} (hf : r.frame = fr') (hfr : fr ≠ .done)
    (hn : r.outcome = none → st ≠ .pending → r.sched = true) (hd : r.outcome.isSome = true → fr' = .done) :
    QOK False fr (if fr' = fr then [st] else []) r := by
  by_cases c : fr' = fr
  · rw [if_pos c]
    refine ⟨Nat.le_refl 1, False.elim, fun _ s hs => ?_, fun _ _ _ => List.cons_ne_nil _ _⟩
    cases List.mem_singleton.mp hs
    cases ho : r.outcome with
    | none => exact ⟨hf.trans c, rfl, hn ho⟩
    | some o => exact absurd (c.symm.trans (hd (ho ▸ rfl))) hfr
  · rw [if_neg c]
    exact ⟨Nat.zero_le 1, fun _ => rfl, fun _ => nofun, fun _ _ e => absurd (hf.symm.trans e) c⟩

/-- suspended in one of the two queues (`fr`, its only entry `st` in `es` resp. in its own queue), or done -/
theorem spOK_idle {m : Nat} {r : Req} {es : List WaitSt} {fr : MFrame} {st : WaitSt} (hf : r.frame = fr)
    (hn : r.outcome = none → fr ≠ .notStarted ∧ fr ≠ .running ∧ fr ≠ .done ∧ (st ≠ .pending → r.sched = true))
    (hd : r.outcome.isSome = true → fr = .done)
    (he : es = if fr = .waitRoom then [st] else []) (hw : r.mapSem.waiters = if fr = .waitMapSem then [⟨m, st⟩] else []) :
    SpOK False es m r where
  pq := he ▸ QOK.idle hf nofun (fun ho => (hn ho).2.2.2) hd
  mq := by
    have e : ent r.mapSem.waiters m = if fr = .waitMapSem then [st] else [] := by
      rw [hw]; split
      · exact (ent_cons ..).trans (if_pos rfl)
      · rfl
    exact e ▸ QOK.idle hf nofun (fun ho => (hn ho).2.2.2) hd
  mo := fun w h => by
    rw [hw] at h; split at h
    · cases List.mem_singleton.mp h; rfl
    · cases h
  al := False.elim
  rs := fun _ ho => hf ▸ ⟨fun e => absurd e (hn ho).1, (hn ho).2.1, (hn ho).2.2.1⟩
  od := fun _ ho => hf ▸ hd ho

/-- a handle that resumes nothing clears the flag: every entry of the spawner was pending -/
theorem QOK.clear {fr : MFrame} {ss : List WaitSt} {r : Req} (k : QOK False fr ss r) (h : ∀ s ∈ ss, s = .pending) :
    QOK False fr ss { r with sched := false } :=
  { k with w := fun x s hs => ⟨(k.w x s hs).1, (k.w x s hs).2.1, fun c => absurd (h s hs) c⟩ }

theorem SpOK.clearSched {m : Nat} {r : Req} {es : List WaitSt} (k : SpOK False es m r) (h1 : r.frame ≠ .notStarted)
    (h2 : ∀ s ∈ es, s = .pending) (h3 : ∀ s ∈ ent r.mapSem.waiters m, s = .pending) :
    SpOK False es m { r with sched := false } :=
  { k with pq := k.pq.clear h2, mq := k.mq.clear h3, rs := fun x ho => ⟨fun e => absurd e h1, (k.rs x ho).2⟩ }

theorem wk0_clearSched {p0 : Pool} {m : Nat} {r : Req} (h0 : WK0 p0) (hp : p0.reqs[m]? = some r)
    (h1 : r.frame ≠ .notStarted) (h2 : ∀ s ∈ ent p0.sem.waiters m, s = .pending)
    (h3 : ∀ s ∈ ent r.mapSem.waiters m, s = .pending) : WK0 (p0.modReq m fun x => { x with sched := false }) :=
  wk_at m h0 rfl (fun _ _ => Iff.rfl) (fun _ c => ⟨modReq_get_ne _ _ _ _ c, rfl⟩)
    ⟨_, modReq_get_self _ _ _ r hp, (h0.sp hp).clearSched h1 h2 h3⟩

theorem wk_enter {p0 q : Pool} {m : Nat} {r' : Req} (h0 : WK0 p0) (ht : q.tasks = p0.tasks)
    (hne : ∀ i, i ≠ m → q.reqs[i]? = p0.reqs[i]? ∧ ent q.sem.waiters i = ent p0.sem.waiters i)
    (hq : q.reqs[m]? = some r') (he : ent q.sem.waiters m = []) (hw : r'.mapSem.waiters = []) (ho : r'.outcome = none) :
    WK (ES m) q :=
  wk_at m h0 ht (fun _ hx => ⟨fun e => hx e, False.elim⟩) hne ⟨r', hq, he ▸ spOK_ex rfl hw ho⟩

theorem wk0_close {p q : Pool} {m : Nat} {r' : Req} (h : WK (ES m) p) (ht : q.tasks = p.tasks)
    (hne : ∀ i, i ≠ m → q.reqs[i]? = p.reqs[i]? ∧ ent q.sem.waiters i = ent p.sem.waiters i)
    (hq : q.reqs[m]? = some r') (k : SpOK False (ent q.sem.waiters m) m r') : WK0 q :=
  wk_at m h ht (fun _ hx => ⟨False.elim, fun e => hx e⟩) hne ⟨r', hq, k⟩

theorem wk0_finishMeta {p : Pool} {m : Nat} (h : WK (ES m) p) (o : Outcome) : WK0 (p.finishMeta m o) := by
  obtain ⟨r, hp, _⟩ := h.alive m rfl
  unfold finishMeta
  rw [hp]
  simp only
  refine wk_emitChildren (wk0_close (q := p.modReq m _) h rfl (fun i c => ⟨modReq_get_ne _ _ _ _ c, rfl⟩)
    (modReq_get_self _ _ _ r hp) ?_) _
  exact spOK_idle (fr := .done) (st := .pending) rfl nofun (fun _ => rfl) ((h.sp hp).pq.nx rfl) ((h.ce m rfl).2 r hp)

theorem wk0_waitRoom {p : Pool} {m : Nat} (h : WK (ES m) p) : WK0 (p.waitRoom m) := by
  obtain ⟨r, hp, ho⟩ := h.alive m rfl
  have hw := (h.ce m rfl).2 r hp
  have key : ∀ (st : WaitSt) (f : Req → Req), (f r).frame = .waitRoom → (f r).outcome = none → (f r).mapSem.waiters = [] →
      (st ≠ .pending → (f r).sched = true) →
      WK0 (({ p with sem := { p.sem with waiters := p.sem.waiters ++ [⟨m, st⟩] } } : Pool).modReq m f) :=
    fun st f a b c d => wk0_close h rfl (fun i e => ⟨modReq_get_ne _ _ _ _ e, (ent_push ..).trans (if_neg (Ne.symm e))⟩)
      (modReq_get_self _ _ _ r hp) (spOK_idle (fr := .waitRoom) (st := st) a (fun _ => ⟨nofun, nofun, nofun, d⟩)
        (fun e => nomatch b ▸ e) ((ent_push ..).trans (by rw [if_pos rfl, ((h.sp hp).pq.nx rfl)]; rfl)) c)
  unfold waitRoom
  simp only [hp, Option.getD_some]
  cases hmc : r.mustCancel
  · exact key _ _ rfl ho hw fun hn => absurd rfl hn
  · exact modReq_schedMeta _ m _ ▸ wk_emitRef (key _ _ rfl ho hw fun _ => rfl) _

theorem wk0_waitMapSem {p : Pool} {m : Nat} (h : WK (ES m) p) : WK0 (p.waitMapSem m) := by
  obtain ⟨r, hp, ho⟩ := h.alive m rfl
  have hw := (h.ce m rfl).2 r hp
  have key : ∀ (st : WaitSt) (f : Req → Req), (f r).frame = .waitMapSem → (f r).outcome = none →
      (f r).mapSem.waiters = [⟨m, st⟩] → (st ≠ .pending → (f r).sched = true) → WK0 (p.modReq m f) :=
    fun st f a b c d => wk0_close h rfl (fun i e => ⟨modReq_get_ne _ _ _ _ e, rfl⟩) (modReq_get_self _ _ _ r hp)
      (spOK_idle (fr := .waitMapSem) (st := st) a (fun _ => ⟨nofun, nofun, nofun, d⟩) (fun e => nomatch b ▸ e)
        ((h.sp hp).pq.nx rfl) c)
  unfold waitMapSem
  simp only [hp, Option.getD_some]
  cases hmc : r.mustCancel
  · exact key _ _ rfl ho (congrArg (· ++ [_]) hw) fun hn => absurd rfl hn
  · exact modReq_schedMeta _ m _ ▸ wk_emitRef (key _ _ rfl ho (congrArg (· ++ [_]) hw) fun _ => rfl) _

theorem wk_createTask {p : Pool} {m : Nat} (h : WK (ES m) p) (isMap : Bool) : WK (ES m) (p.createTask m isMap) := by
  unfold createTask
  simp only
  refine wk_emitRef (wk_modReq_ex (wk_tasks h (by rfl) (by rfl) (fun _ => Iff.rfl) ?_) m _ rfl) _
  intro i k' hq hE hg
  rcases getElem?_append_one hq with hk | ⟨_, rfl⟩
  · exact hg k' hk hE
  · exact ⟨fun _ => rfl, by simp [newTask], by simp [newTask]⟩

theorem wk_loop (m : Nat) : LoopKept (WK (ES m)) WK0 m where
  remaining := fun _ _ h => wk_modReq_ex h m _ rfl
  skipped := fun _ h => wk_modReq_ex h m _ rfl
  itemsNil := fun _ h => wk_modReq_ex h m _ rfl
  acquired := fun _ h => wk_modReq_ex h m _ rfl
  pullItem := fun _ _ h => wk_runHooks (wk_logEv (wk_modReq_ex h m _ rfl) _) _ _
  takeMapSlot := fun _ h => wk_modReq_ex h m _ rfl
  takeSlotAndCreate := fun _ isMap h _ => wk_createTask (wk_of_eq h) isMap
  finishMeta := fun _ o h => wk0_finishMeta h o
  waitRoom := fun _ h => wk0_waitRoom h
  waitMapSem := fun _ h => wk0_waitMapSem h

/-! A spawner that wakes up inside an `acquire()` is walked by hand, not through `MetaKept` (`Inv/Loops.lean`): `WK (ES m)`
says that `m` has no entry in either queue, which holds only after its entry was dropped, whereas `MetaKept` asks for
it before the drop and for every queue put in place of the old one (`dropWaiter`, `mapWake`); and clearing the flag of a
spawner that is not resumed is sound only with what the eliminator knows of its entry (still pending). -/

theorem wk0_roomWaitCancelled {p : Pool} {m : Nat} (h : WK (ES m) p) (r : Req) (st : Option WaitSt) :
    WK0 (p.roomWaitCancelled m r st) := by
  unfold roomWaitCancelled
  simp only
  refine wk0_finishMeta ?_ _
  have h1 : WK (ES m) (if (st == some WaitSt.granted) = true then p.releasePool else p) := by
    exact ite_keeps (wk_releasePool h) h
  generalize (if (st == some WaitSt.granted) = true then p.releasePool else p) = q at h1 ⊢
  exact ite_keeps (wk_releaseMap h1 m) h1

theorem wk0_roomGranted {p : Pool} {m : Nat} (h : WK (ES m) p) (r : Req) : WK0 (p.roomGranted m r) := by
  unfold roomGranted
  simp only
  refine (wk_loop m).continueSpawner (wk_createTask ?_ _)
  have h0 : WK (ES m) (p.modReq m fun x => { x with frame := MFrame.running }) :=
    wk_modReq_ex h m _ rfl
  exact ite_keeps (wk_wake h0 _ rfl) h0

/-- a spawner resumed inside `_enough_room.acquire()`; not resumed: its entry is still pending -/
theorem wk0_wakeWaitRoom {p0 : Pool} {m : Nat} {r : Req} (h0 : WK0 p0) (hp : p0.reqs[m]? = some r)
    (hfr : r.frame = .waitRoom) : WK0 ((p0.modReq m fun x => { x with sched := false }).wakeWaitRoom m r) := by
  have ho := wk0_live h0 hp (fun e => nomatch hfr.symm.trans e)
  have hw := wk0_mapWaiters_nil h0 hp (fun e => nomatch hfr.symm.trans e)
  have hs := h0.sp hp
  have h2 : WK (ES m) (({ (p0.modReq m fun x => { x with sched := false }) with
      sem := { p0.sem with waiters := (removeWaiterL m p0.sem.waiters).2 } } : Pool).modReq m
        fun x => { x with mustCancel := false }) :=
    wk_enter h0 rfl (fun i c => ⟨(modReq_get_ne _ _ _ _ c).trans (modReq_get_ne _ _ _ _ c), (ent_remove ..).trans (if_neg c)⟩)
      (modReq_get_self _ _ _ _ (modReq_get_self _ _ _ r hp))
      ((ent_remove ..).trans ((if_pos rfl).trans (tail_nil_of_length_le_one hs.pq.n))) hw ho
  exact wakeWaitRoom_elim _ m r _ _ rfl rfl
    (fun n1 _ n3 => wk0_clearSched h0 hp (fun e => nomatch hfr.symm.trans e) (pending_of_not_woken hs.pq.n n1 n3)
      fun s hs' => nomatch (show s ∈ ent [] m from hw ▸ hs'))
    (fun _ => wk0_roomWaitCancelled h2 r _) fun _ _ _ => wk0_roomGranted h2 r

/-- nobody waits on the semaphore any more: whatever `acquire()` does on its way out wakes nobody -/
theorem wk_s2_nil (s1 : Sem) (h : s1.waiters = []) (b c : Bool) :
    (if b = true then (if c = true then s1.release else if (!s1.value.isZero) = true then s1.wakeNext else (s1, none))
      else (s1, none)).1.waiters = [] ∧
    (if b = true then (if c = true then s1.release else if (!s1.value.isZero) = true then s1.wakeNext else (s1, none))
      else (s1, none)).2 = none := by
  cases b <;> cases c <;> cases s1.value.isZero <;> simp [Sem.release, Sem.wakeNext, wakeNextL, h]

/-- the same inside `acquire()` of the call's own semaphore -/
theorem wk0_wakeWaitMapSem {p0 : Pool} {m : Nat} {r : Req} (h0 : WK0 p0) (hp : p0.reqs[m]? = some r)
    (hfr : r.frame = .waitMapSem) : WK0 ((p0.modReq m fun x => { x with sched := false }).wakeWaitMapSem m r) := by
  have ho := wk0_live h0 hp (fun e => nomatch hfr.symm.trans e)
  have hs2 := wk_s2_nil { r.mapSem with waiters := (removeWaiterL m r.mapSem.waiters).2 } (wk0_removeOwn_nil h0 hp)
    ((removeWaiterL m r.mapSem.waiters).1 == some WaitSt.granted)
    ((removeWaiterL m r.mapSem.waiters).1 == some WaitSt.cancelled || r.mustCancel)
  have hs := h0.sp hp
  have hem : ent p0.sem.waiters m = [] :=
    List.eq_nil_iff_forall_not_mem.mpr fun s hs' => nomatch hfr.symm.trans (hs.pq.w id s hs').1
  have h2 : ∀ s2a : Sem, s2a.waiters = [] → WK (ES m) (((p0.modReq m fun x => { x with sched := false }).modReq m
      fun x => { x with mapSem := s2a, mustCancel := false }).schedOpt none) := fun s2a e1 =>
    wk_enter h0 rfl (fun i c => ⟨(modReq_get_ne _ _ _ _ c).trans (modReq_get_ne _ _ _ _ c), rfl⟩)
      (modReq_get_self _ _ _ _ (modReq_get_self _ _ _ r hp)) hem e1 ho
  refine wakeWaitMapSem_elim _ m r _ _ _ _ rfl rfl rfl rfl (fun n1 _ n3 => ?_) (fun _ => ?_) (fun _ _ _ => ?_)
  · exact wk0_clearSched h0 hp (fun e => nomatch hfr.symm.trans e) (hem ▸ nofun) (pending_of_not_woken hs.mq.n n1 n3)
  · rw [hs2.2]; exact wk0_finishMeta (h2 _ hs2.1) _
  · rw [hs2.2]; exact (wk_loop m).mapSemGranted (h2 _ hs2.1) r

theorem wk0_stepMeta {p : Pool} (h : WK0 p) (m : Nat) : WK0 (p.stepMeta m) := by
  refine stepMeta_elim p m _ rfl (fun _ => h) (fun _ _ _ => h) (fun r hp f1 f2 f3 => ?_) (fun r hp hf => ?_) (fun r hp hf => wk0_wakeWaitRoom h hp hf)
    (fun r hp hf => wk0_wakeWaitMapSem h hp hf)
  · exact wk0_clearSched h hp f1 (fun s hs => absurd ((h.sp hp).pq.w id s hs).1 f2)
      fun s hs => absurd ((h.sp hp).mq.w id s hs).1 f3
  · exact (wk_loop m).stepMetaNotStarted (wk_modReq_ex (wk_enter h rfl (fun _ _ => ⟨rfl, rfl⟩) hp
      (ent_nil_of_not_mem (wk0_not_owner h hp fun e => nomatch hf.symm.trans e))
      (wk0_mapWaiters_nil h hp fun e => nomatch hf.symm.trans e) (wk0_live h hp fun e => nomatch hf.symm.trans e)) m _ rfl) r

theorem wk0_runRef {p : Pool} (h : WK0 p) (r : Ref) : WK0 (p.runRef r) := by
  cases r with
  | task t => exact wk0_stepTask h t
  | spawner m => exact wk0_stepMeta h m
  | api a => exact (wk_api _).stepApi h a
  | gchild g i => exact (wk_api _).gatherChildDone h g i true

theorem want_init (size : Cap) (simple : Option SpawnSpec) : Want (Pool.init size simple) where
  tq := fun _ _ h => nomatch h
  tw := fun _ _ h => nomatch h
  rs := fun _ _ h => nomatch h
  pn := List.nodup_nil
  pw := fun _ h => nomatch h
  pe := fun _ _ h => nomatch h
  mn := fun _ _ h => nomatch h
  mw := fun _ _ h => nomatch h
  me := fun _ _ h => nomatch h
  od := fun _ _ h => nomatch h
  ce := fun _ h => h.elim

theorem want_applyOp (p : Pool) (orders : List (List Nat)) (o : Op) (h : Want p) :
    Want (({ p with orders := orders } : Pool).applyOp o).1 :=
  (wk_applyOp (wk_of_eq h.wk) o).toWantOK

theorem want_runRef (p : Pool) (orders : List (List Nat)) (r : Ref) (h : Want p) :
    Want (({ p with orders := orders } : Pool).runRef r) :=
  (wk0_runRef (wk_of_eq h.wk) r).toWantOK

theorem want_drain (p : Pool) (h : Want p) : Want { p with emit := [] } :=
  (wk_of_eq h.wk).toWantOK

theorem wantInvariant : PoolInvariant (fun _ p => Want p) allOps where
  init := fun c simple _ => want_init c.size0 simple
  op := fun _ p orders o _ h => want_applyOp p orders o h
  run := fun _ p orders r h => want_runRef p orders r h
  drain := fun _ p h => want_drain p h

end Pool
end Taskpool
