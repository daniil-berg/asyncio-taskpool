import Taskpool.Inv.ElemWalk
/-! `ElemX` through the spawners: the functions that touch the counters (`pullItem`, the skip, `createTask`) and the frames
(`waitRoom`, `waitMapSem`), the loops under the predicates `EW m hand` (map-style: `pulled = created + skipped + hand`) and
`EWA m` (apply-style), every handle, every operation, and the lifting to worlds. -/
namespace Taskpool
namespace Pool

theorem ElemX.modifyR {p : Pool} (h : ElemX p) (m : Nat) (f : Req → Req) (r : Req) (hr : p.reqs[m]? = some r)
    (hk : (f r).kind = r.kind) (hs : (f r).stars = r.stars) (hm : r.created + r.skipped ≤ (f r).created + (f r).skipped)
    (h0 : (f r).kind = .map → (f r).frame = .notStarted → (f r).pulled = (f r).created + (f r).skipped)
    (h1 : (f r).kind = .map → (f r).frame = .waitMapSem ∨ (f r).frame = .waitRoom →
            (f r).pulled = (f r).created + (f r).skipped + 1)
    (hw : (f r).frame = .waitMapSem → (f r).kind = .map) : ElemX (p.modReq m f) := by
  refine ⟨⟨h.ok.ap, ?_, ?_, h.ok.ord⟩, ?_, ?_, ?_, ?_⟩
  · intro t k hk' hm'
    obtain ⟨r0, i, hr0, hkd, ha, hi⟩ := h.ok.el t k hk' hm'
    have hq : (p.modReq m f).reqs[k.req]? = _ := getElem?_modify_of hr0 m f
    by_cases e : m = k.req
    · rw [if_pos e] at hq
      subst e
      cases hr.symm.trans hr0
      exact ⟨f r, i, hq, hk.trans hkd, by rw [hs]; exact ha, Nat.lt_of_lt_of_le hi hm⟩
    · rw [if_neg e] at hq
      exact ⟨r0, i, hq, hkd, ha, hi⟩
  · intro t k r' hk' hr'
    rcases getElem?_modify_cases hr hr' with ⟨e1, rfl⟩ | ⟨_, hx⟩
    · rw [hk]; exact h.ok.km t k r hk' (by rw [e1]; exact hr)
    · exact h.ok.km t k r' hk' hx
  · intro t k hk'
    exact Nat.lt_of_lt_of_eq (h.vr t k hk') (List.length_modify _ _ _).symm
  · intro j r' hr' hkd hf
    rcases getElem?_modify_cases hr hr' with ⟨_, rfl⟩ | ⟨_, hx⟩
    · exact h0 hkd hf
    · exact h.fr0 j r' hx hkd hf
  · intro j r' hr' hkd hf
    rcases getElem?_modify_cases hr hr' with ⟨_, rfl⟩ | ⟨_, hx⟩
    · exact h1 hkd hf
    · exact h.fr1 j r' hx hkd hf
  · intro j r' hr' hf
    rcases getElem?_modify_cases hr hr' with ⟨_, rfl⟩ | ⟨_, hx⟩
    · exact hw hf
    · exact h.wk j r' hx hf

theorem ElemX.modifyRun {p : Pool} (h : ElemX p) (m : Nat) (f : Req → Req) (r : Req) (hr : p.reqs[m]? = some r)
    (hk : (f r).kind = r.kind) (hs : (f r).stars = r.stars) (hm : r.created + r.skipped ≤ (f r).created + (f r).skipped)
    (hb : (f r).kind = .map → (f r).frame = .running ∨ (f r).frame = .done)
    (hw : (f r).frame = .waitMapSem → (f r).kind = .map) : ElemX (p.modReq m f) := by
  have hn : (f r).kind = .map → (f r).frame ≠ .notStarted ∧ (f r).frame ≠ .waitMapSem ∧ (f r).frame ≠ .waitRoom := by
    intro k
    rcases hb k with y | y
    · rw [y]; exact ⟨nofun, nofun, nofun⟩
    · rw [y]; exact ⟨nofun, nofun, nofun⟩
  exact h.modifyR m f r hr hk hs hm (fun k e => absurd e (hn k).1)
    (fun k e => e.elim (fun e => absurd e (hn k).2.1) fun e => absurd e (hn k).2.2) hw

theorem ElemOK.lt {p : Pool} (h : ElemOK p) {t s j : Nat} {k : PTask} {r : Req} (hk : p.tasks[t]? = some k)
    (ha : k.arg = .elem s j) (hr : p.reqs[k.req]? = some r) : j < r.created + r.skipped := by
  cases hb : k.isMap with
  | false => exact nomatch ha.symm.trans (h.ap t k hk hb)
  | true =>
    obtain ⟨r0, i, hr0, _, ha0, hi⟩ := h.el t k hk hb
    cases hr.symm.trans hr0
    cases ha.symm.trans ha0
    exact hi

theorem ElemX.push {p q : Pool} (h : ElemX p) (nt : PTask) (r : Req) (et : q.tasks = p.tasks ++ [nt]) (er : q.reqs = p.reqs)
    (hr : p.reqs[nt.req]? = some r) (hk : nt.isMap = true ↔ r.kind = .map) (ha : nt.isMap = false → nt.arg = .apply)
    (he : nt.isMap = true → ∃ i, nt.arg = .elem r.stars i ∧ i < r.created + r.skipped ∧
      ∀ (t : Nat) (k : PTask) (s j : Nat), p.tasks[t]? = some k → k.req = nt.req → k.arg = .elem s j → j < i) :
    ElemX q := by
  have bwd : ∀ t k, q.tasks[t]? = some k → p.tasks[t]? = some k ∨ (t = p.tasks.length ∧ k = nt) :=
    fun t k e => getElem?_append_one (by rw [← et]; exact e)
  refine ⟨⟨?_, ?_, ?_, ?_⟩, ?_, ?_, ?_, ?_⟩
  · intro t k hk' hm'
    rcases bwd t k hk' with ho | ⟨_, rfl⟩
    · exact h.ok.ap t k ho hm'
    · exact ha hm'
  · intro t k hk' hm'
    rw [er]
    rcases bwd t k hk' with ho | ⟨_, rfl⟩
    · exact h.ok.el t k ho hm'
    · obtain ⟨i, a, b, _⟩ := he hm'
      exact ⟨r, i, hr, hk.1 hm', a, b⟩
  · intro t k r' hk' hr'
    rw [er] at hr'
    rcases bwd t k hk' with ho | ⟨_, rfl⟩
    · exact h.ok.km t k r' ho hr'
    · cases hr.symm.trans hr'
      exact hk
  · intro t1 t2 k1 k2 s1 s2 i1 i2 hlt h1 h2 hq a1 a2
    rcases bwd t2 k2 h2 with ho2 | ⟨e2, rfl⟩
    · rcases bwd t1 k1 h1 with ho1 | ⟨e1, _⟩
      · exact h.ok.ord t1 t2 k1 k2 s1 s2 i1 i2 hlt ho1 ho2 hq a1 a2
      · exact absurd (e1 ▸ hlt) (Nat.lt_asymm (lt_of_getElem?_some ho2))
    · rcases bwd t1 k1 h1 with ho1 | ⟨e1, _⟩
      · have him : k2.isMap = true := by
          cases hb : k2.isMap with
          | true => rfl
          | false => exact nomatch a2.symm.trans (ha hb)
        obtain ⟨i, a, _, c⟩ := he him
        cases a2.symm.trans a
        exact c t1 k1 s1 i1 ho1 hq a1
      · exact absurd hlt (by rw [e1, e2]; exact Nat.lt_irrefl _)
  · intro t k hk'
    rw [er]
    rcases bwd t k hk' with ho | ⟨_, rfl⟩
    · exact h.vr t k ho
    · exact lt_of_getElem?_some hr
  · rw [er]; exact h.fr0
  · rw [er]; exact h.fr1
  · rw [er]; exact h.wk

/-- `createTask`: the new task gets the element in hand, whose index `pulled - 1 = created + skipped` lies above every
index the request has handed out and below the new `created + skipped`. The proof raises the counter first and appends
the task to the result (the model writes in the other order; the two commute), each step a lemma about a variable
pool, so that no step carries the unfolded function. -/
theorem ElemX.create {p : Pool} (h : ElemX p) (m : Nat) (r : Req) (isMap : Bool) (hr : p.reqs[m]? = some r)
    (hk : isMap = true ↔ r.kind = .map) (hp : isMap = true → r.pulled = r.created + r.skipped + 1)
    (hf : isMap = true → r.frame = .running ∨ r.frame = .done) : ElemX (p.createTask m isMap) := by
  have h1 : ElemX (p.modReq m fun x => { x with created := x.created + 1 }) :=
    h.modifyRun m _ r hr rfl rfl (Nat.add_le_add_right (Nat.le_succ _) _) (fun e => hf (hk.2 e)) (h.wk m r hr)
  unfold createTask
  rw [hr]
  refine h1.push (newTask m isMap _ r.endCb r.cancelCb) { r with created := r.created + 1 } rfl rfl (modReq_get_self p m _ r hr)
    hk (fun e => by subst e; rfl) fun e => ⟨r.pulled - 1, by subst e; rfl, ?_, fun t k s j hk' hq ha => ?_⟩
  · show r.pulled - 1 < r.created + 1 + r.skipped
    rw [hp e, Nat.add_sub_cancel]
    exact Nat.add_lt_add_right (Nat.lt_succ_self _) _
  · rw [hp e, Nat.add_sub_cancel]
    exact h.ok.lt hk' ha (by rw [hq]; exact hr)

/-- the map-style spawner `m` is inside its loop (or about to enter it) with `hand` pulled elements in hand -/
def EW (m hand : Nat) (p : Pool) : Prop :=
  ElemX p ∧ ∃ r, p.reqs[m]? = some r ∧ r.kind = .map ∧ r.pulled = r.created + r.skipped + hand ∧
    (r.frame = .running ∨ r.frame = .done ∨ (r.frame = .notStarted ∧ hand = 0))

/-- `EW` for an `apply` / `start` spawner, which has no element in hand to count -/
def EWA (m : Nat) (p : Pool) : Prop := ElemX p ∧ ∃ r, p.reqs[m]? = some r ∧ r.kind = .apply

theorem EW.ext {m hand : Nat} {p q : Pool} (h : EW m hand p) (e : Ext p q) : EW m hand q := by
  obtain ⟨hx, r, hr, hk, hp, hf⟩ := h
  obtain ⟨r', hr', rr⟩ := ExtL.fwd e m r hr
  refine ⟨hx.ext e, r', hr', by rw [rr.kind]; exact hk, by rw [rr.pulled, rr.created, rr.skipped]; exact hp, ?_⟩
  rcases rr.frame with x | x | x
  · rw [x]; exact hf
  · exact Or.inr (Or.inl x)
  · exact Or.inl x

theorem EWA.ext {m : Nat} {p q : Pool} (h : EWA m p) (e : Ext p q) : EWA m q := by
  obtain ⟨hx, r, hr, hk⟩ := h
  obtain ⟨r', hr', rr⟩ := ExtL.fwd e m r hr
  exact ⟨hx.ext e, r', hr', by rw [rr.kind]; exact hk⟩

theorem EW.enter {p : Pool} (h : ElemX p) (m hand : Nat) (r : Req) (hr : p.reqs[m]? = some r) (hk : r.kind = .map)
    (hp : r.pulled = r.created + r.skipped + hand) (f : Req → Req) (hf : ∀ x, KR (f x) x) (hfr : ∀ x, (f x).frame = .running) :
    EW m hand (p.modReq m f) :=
  ⟨h.ext (ext_modReq (Ext.refl p) m f hf), f r, modReq_get_self p m f r hr, by rw [(hf r).kind]; exact hk,
    by rw [(hf r).pulled, (hf r).created, (hf r).skipped]; exact hp, Or.inl (hfr r)⟩

theorem EWA.enter {p : Pool} (h : ElemX p) (m : Nat) (r : Req) (hr : p.reqs[m]? = some r) (hk : r.kind = .apply)
    (f : Req → Req) (hf : ∀ x, KR (f x) x) : EWA m (p.modReq m f) :=
  ⟨h.ext (ext_modReq (Ext.refl p) m f hf), f r, modReq_get_self p m f r hr, by rw [(hf r).kind]; exact hk⟩

/-- a spawner that holds an element is past its first pull -/
theorem EW.busy {hand : Nat} {r : Req}
    (hf : r.frame = .running ∨ r.frame = .done ∨ (r.frame = .notStarted ∧ hand + 1 = 0)) : r.frame = .running ∨ r.frame = .done :=
  hf.imp_right fun x => x.elim id fun x => nomatch x.2

theorem EW.createTask {m : Nat} {p : Pool} (h : EW m 1 p) : EW m 0 (p.createTask m true) := by
  obtain ⟨hx, r, hr, hk, hp, hf⟩ := h
  have hf' := EW.busy hf
  refine ⟨hx.create m r true hr ⟨fun _ => hk, fun _ => rfl⟩ (fun _ => hp) (fun _ => hf'), { r with created := r.created + 1 },
    modReq_get_self p m _ r hr, hk, ?_, hf'.imp_right Or.inl⟩
  show r.pulled = r.created + 1 + r.skipped
  exact hp.trans (Nat.add_right_comm _ _ _)

theorem EWA.createTask {m : Nat} {p : Pool} (h : EWA m p) : EWA m (p.createTask m false) := by
  obtain ⟨hx, r, hr, hk⟩ := h
  refine ⟨hx.create m r false hr (Iff.intro (fun e => (by cases e)) (fun e => (by rw [hk] at e; cases e)))
    (fun e => (by cases e)) (fun e => (by cases e)), { r with created := r.created + 1 }, modReq_get_self p m _ r hr, hk⟩

theorem EW.takeSlotAndCreate {m : Nat} {p : Pool} (h : EW m 1 p) : EW m 0 (p.takeSlotAndCreate m true) := by
  unfold Pool.takeSlotAndCreate
  exact EW.createTask (h.ext ((Ext.refl p).same _))

theorem EWA.takeSlotAndCreate {m : Nat} {p : Pool} (h : EWA m p) : EWA m (p.takeSlotAndCreate m false) := by
  unfold Pool.takeSlotAndCreate
  exact EWA.createTask (h.ext ((Ext.refl p).same _))

/-- a pending `must_cancel` schedules the spawner at once -/
theorem ElemX.schedIf {q : Pool} (h : ElemX q) (c : Prop) [Decidable c] (m : Nat) : ElemX (if c then q.schedMeta m else q) := by
  split
  · exact h.ext (ext_schedMeta (Ext.refl q) m)
  · exact h

theorem elemx_waitRoom (p : Pool) (m : Nat) (r : Req) (h : ElemX p) (hr : p.reqs[m]? = some r)
    (hh : r.kind = .map → r.pulled = r.created + r.skipped + 1) : ElemX (p.waitRoom m) := by
  unfold waitRoom
  refine ElemX.schedIf ?_ _ m
  exact (h.same _).modifyR m _ r hr rfl rfl (Nat.le_refl _) nofun (fun e _ => hh e) nofun

theorem elemx_waitMapSem (p : Pool) (m : Nat) (h : EW m 1 p) : ElemX (p.waitMapSem m) := by
  obtain ⟨hx, r, hr, hk, hp, _⟩ := h
  unfold waitMapSem
  refine ElemX.schedIf ?_ _ m
  exact (hx.same _).modifyR m _ r hr rfl rfl (Nat.le_refl _) nofun (fun _ _ => hp) fun _ => hk

theorem EW.pullItem {m : Nat} {p : Pool} (rest : List Item) (h : EW m 0 p) : EW m 1 (p.pullItem m rest) := by
  obtain ⟨hx, r, hr, hk, hp, _⟩ := h
  have h2 : EW m 1 (p.modReq m fun x => { x with items := rest, pulled := x.pulled + 1, acquired := false, frame := .running }) :=
    ⟨hx.modifyRun m _ r hr rfl rfl (Nat.le_refl _) (fun _ => Or.inl rfl) fun _ => hk,
      _, modReq_get_self p m _ r hr, hk, congrArg (· + 1) hp, Or.inl rfl⟩
  exact h2.ext (ext_runHooks (ext_logEv (Ext.refl _) _) _ _)

theorem EW.skip {m : Nat} {p : Pool} (h : EW m 1 p) : EW m 0 (p.modReq m fun x => { x with skipped := x.skipped + 1 }) := by
  obtain ⟨hx, r, hr, hk, hp, hf⟩ := h
  have hf' := EW.busy hf
  exact ⟨hx.modifyRun m _ r hr rfl rfl (Nat.le_succ _) (fun _ => hf') (hx.wk m r hr), _, modReq_get_self p m _ r hr, hk,
    hp, hf'.imp_right Or.inl⟩

theorem EWA.skip {m : Nat} {p : Pool} (h : EWA m p) : EWA m (p.modReq m fun x => { x with skipped := x.skipped + 1 }) := by
  obtain ⟨hx, r, hr, hk⟩ := h
  exact ⟨hx.modifyRun m _ r hr rfl rfl (Nat.le_succ _) (fun e => nomatch hk.symm.trans e) (hx.wk m r hr), _,
    modReq_get_self p m _ r hr, hk⟩

theorem elemx_finishMeta (p : Pool) (m : Nat) (o : Outcome) (h : ElemX p) : ElemX (p.finishMeta m o) :=
  h.ext (ext_finishMeta (Ext.refl _) _ _)

theorem elemx_applyLoop (m n : Nat) (p : Pool) (h : EWA m p) : ElemX (applyLoop m n p) := by
  induction n generalizing p with
  | zero => exact elemx_finishMeta _ _ _ (h.1.ext (ext_modReq (Ext.refl _) _ _))
  | succ n ih =>
    have h1 : EWA m (p.modReq m fun x => { x with remaining := n + 1 }) := h.ext (ext_modReq (Ext.refl _) _ _)
    obtain ⟨hx, r, hr, hk⟩ := id h1
    exact applyLoop_succ_elim m n p _ rfl (fun _ => ih _ h1.skip) (fun _ => elemx_finishMeta _ _ _ hx)
      (fun _ _ => elemx_finishMeta _ _ _ hx) (fun _ _ _ => elemx_waitRoom _ m r hx hr fun e => nomatch hk.symm.trans e)
      fun _ _ _ => ih _ h1.takeSlotAndCreate

theorem elemx_mapStartTask (p : Pool) (m : Nat) (h : EW m 1 p) :
    ElemX (p.mapStartTask m).1 ∧ ((p.mapStartTask m).2 = true → EW m 0 (p.mapStartTask m).1) := by
  obtain ⟨hx, r, hr, _, hp, _⟩ := id h
  unfold mapStartTask
  cases p.closed with
  | true => exact ⟨elemx_finishMeta _ _ _ hx, fun e => absurd e Bool.false_ne_true⟩
  | false =>
    cases p.sem.locked with
    | true => exact ⟨elemx_waitRoom _ m r hx hr fun _ => hp, fun e => absurd e Bool.false_ne_true⟩
    | false => exact ⟨h.takeSlotAndCreate.1, fun _ => h.takeSlotAndCreate⟩

theorem elemx_mapLoop (m : Nat) (items : List Item) (p : Pool) (h : EW m 0 p) : ElemX (mapLoop m items p) := by
  -- by induction over the rounds and not through `LoopKept`, which keeps ONE predicate while the spawner is under way:
  -- the number of elements in hand (`EW m 0`, `EW m 1`) changes within a round
  induction items generalizing p with
  | nil => exact elemx_finishMeta _ _ _ (h.1.ext (ext_modReq (Ext.refl _) _ _))
  | cons it rest ih =>
    have h1 : EW m 1 (p.pullItem m rest) := h.pullItem rest
    have h2 : EW m 1 ((p.pullItem m rest).takeMapSlot m) :=
      h1.ext (ext_modReq (Ext.refl _) m _ fun _ => ⟨rfl, rfl, rfl, rfl, rfl, .inr (.inr rfl)⟩)
    obtain ⟨h3, h4⟩ := elemx_mapStartTask _ m h2
    exact mapLoop_cons_elim m it rest p _ rfl (fun _ => elemx_finishMeta _ _ _ h1.1) (fun _ _ => ih _ h1.skip)
      (fun _ _ _ => elemx_waitMapSem _ m h1) (fun _ _ _ e => ih _ (h4 e)) fun _ _ _ _ => h3

theorem elemx_continueSpawner (p : Pool) (m : Nat) (h : EW m 0 p ∨ EWA m p) : ElemX (p.continueSpawner m) := by
  unfold continueSpawner
  rcases h with h | h
  · obtain ⟨_, r, hr, hk, _, _⟩ := id h
    simp only [hr, Option.getD_some, hk]
    exact elemx_mapLoop m _ p h
  · obtain ⟨_, r, hr, hk⟩ := id h
    simp only [hr, Option.getD_some, hk]
    exact elemx_applyLoop m _ p h

theorem elemx_stepMetaNotStarted (p : Pool) (m : Nat) (r r' : Req) (h : ElemX p) (hr : p.reqs[m]? = some r')
    (hk : r'.kind = r.kind) (hf : r'.frame = .notStarted) : ElemX (p.stepMetaNotStarted m r) := by
  unfold stepMetaNotStarted
  cases r.mustCancel with
  | true => exact elemx_finishMeta _ _ _ h
  | false =>
    cases e : r.kind with
    | apply => exact elemx_applyLoop m _ p ⟨h, r', hr, hk.trans e⟩
    | map =>
      have hk' := hk.trans e
      exact elemx_mapLoop m _ p ⟨h, r', hr, hk', h.fr0 m r' hr hk' hf, Or.inr (Or.inr ⟨hf, rfl⟩)⟩

theorem ext_roomWaitCancelled {p₀ p : Pool} (h : Ext p₀ p) (m : Nat) (r : Req) (st : Option WaitSt) :
    Ext p₀ (p.roomWaitCancelled m r st) :=
  have h1 : Ext p₀ (if st == some .granted then p.releasePool else p) := ite_keeps (ext_releasePool h) h
  ext_finishMeta (ite_keeps (ext_releaseMap h1 m) h1) m _

/-- `if self._value > 0: self._wake_up_next()` -/
theorem ext_wakeIfRoom {p₀ p : Pool} (h : Ext p₀ p) :
    Ext p₀ (if (!p.sem.value.isZero) = true then ({ p with sem := p.sem.wakeNext.1 } : Pool).schedOpt p.sem.wakeNext.2 else p) :=
  ite_keeps (ext_schedOpt (h.same _) _) h

theorem elemx_roomGranted (p : Pool) (m : Nat) (r r' : Req) (h : ElemX p) (hr : p.reqs[m]? = some r')
    (hk : r'.kind = r.kind) (hp : r'.kind = .map → r'.pulled = r'.created + r'.skipped + 1) :
    ElemX (p.roomGranted m r) := by
  unfold roomGranted
  have e := ext_wakeIfRoom (Ext.refl (p.modReq m fun x => { x with frame := .running }))
  have kr : ∀ x : Req, KR { x with frame := .running } x := fun _ => ⟨rfl, rfl, rfl, rfl, rfl, .inr (.inr rfl)⟩
  refine elemx_continueSpawner _ m ?_
  cases hkd : r.kind with
  | apply => exact .inr (EWA.createTask ((EWA.enter h m r' hr (hk.trans hkd) _ kr).ext e))
  | map =>
    exact .inl (EW.createTask ((EW.enter h m 1 r' hr (hk.trans hkd) (hp (hk.trans hkd)) _ kr fun _ => rfl).ext e))

theorem elemx_wakeWaitRoom (p : Pool) (m : Nat) (r r' : Req) (h : ElemX p) (hr : p.reqs[m]? = some r')
    (hk : r'.kind = r.kind) (hf : r'.frame = .waitRoom) : ElemX (p.wakeWaitRoom m r) :=
  have e := ext_modReq ((Ext.refl p).same
    ({ p with sem := { p.sem with waiters := (removeWaiterL m p.sem.waiters).2 } } : Pool)) m fun x => { x with mustCancel := false }
  wakeWaitRoom_elim p m r _ _ rfl rfl (fun _ _ _ => h) (fun _ => h.ext (ext_roomWaitCancelled e _ _ _)) fun _ _ _ =>
    elemx_roomGranted _ m r { r' with mustCancel := false } (h.ext e) (modReq_get_self _ m _ r' hr) hk
      fun k => h.fr1 m r' hr k (Or.inr hf)

theorem elemx_mapSemGranted (p : Pool) (m : Nat) (r r' : Req) (h : ElemX p) (hr : p.reqs[m]? = some r')
    (hk : r'.kind = .map) (hp : r'.pulled = r'.created + r'.skipped + 1) : ElemX (p.mapSemGranted m r) := by
  have hW : EW m 1 (p.modReq m fun x => { x with acquired := true, frame := .running }) :=
    EW.enter h m 1 r' hr hk hp _ (fun _ => ⟨rfl, rfl, rfl, rfl, rfl, .inr (.inr rfl)⟩) (fun _ => rfl)
  obtain ⟨h3, h4⟩ := elemx_mapStartTask _ m hW
  exact dite_keeps (fun e => elemx_mapLoop m _ _ (h4 e)) fun _ => h3

theorem elemx_wakeWaitMapSem (p : Pool) (m : Nat) (r r' : Req) (h : ElemX p) (hr : p.reqs[m]? = some r')
    (hf : r'.frame = .waitMapSem) : ElemX (p.wakeWaitMapSem m r) := by
  have e : ∀ s2 : Sem × Option Nat, Ext p ((p.modReq m fun x => { x with mapSem := s2.1, mustCancel := false }).schedOpt s2.2) :=
    fun _ => ext_schedOpt (ext_modReq (Ext.refl p) _ _) _
  refine wakeWaitMapSem_elim p m r _ _ _ _ rfl rfl rfl rfl (fun _ _ _ => h) (fun _ => elemx_finishMeta _ _ _ (h.ext (e _)))
    fun _ _ _ => ?_
  have hk := h.wk m r' hr hf
  have hp := h.fr1 m r' hr hk (Or.inl hf)
  obtain ⟨r'', hr'', rr⟩ := ExtL.fwd (e _) m r' hr
  exact elemx_mapSemGranted _ m r r'' (h.ext (e _)) hr'' (by rw [rr.kind]; exact hk)
    (by rw [rr.pulled, rr.created, rr.skipped]; exact hp)

theorem elemx_stepMeta (p : Pool) (m : Nat) (h : ElemX p) : ElemX (p.stepMeta m) :=
  have hx : ElemX (p.modReq m fun x => { x with sched := false }) := h.ext (ext_modReq (Ext.refl p) _ _)
  stepMeta_elim p m _ rfl (fun _ => h) (fun _ _ _ => h) (fun _ _ _ _ _ => hx)
    (fun r hr hf => elemx_stepMetaNotStarted _ m r _ hx (modReq_get_self p m _ r hr) rfl hf)
    (fun r hr hf => elemx_wakeWaitRoom _ m r _ hx (modReq_get_self p m _ r hr) rfl hf)
    fun r hr hf => elemx_wakeWaitMapSem _ m r _ hx (modReq_get_self p m _ r hr) hf

theorem elemx_runRef (p : Pool) (r : Ref) (h : ElemX p) : ElemX (p.runRef r) := by
  cases r with
  | spawner m => exact elemx_stepMeta p m h
  | task | api | gchild => exact h.ext (ext_runRef p _ nofun)

theorem elemx_applyOp (p : Pool) (op : Op) (h : ElemX p) : ElemX (p.applyOp op).1 :=
  h.ext (ext_applyOp p op)

theorem elemx_init (size : Cap) (simple : Option SpawnSpec) : ElemX (Pool.init size simple) :=
  ⟨⟨fun _ _ a => (nomatch a), fun _ _ a => (nomatch a), fun _ _ _ a => (nomatch a), fun _ _ _ _ _ _ _ _ _ a => (nomatch a)⟩,
    fun _ _ a => (nomatch a), fun _ _ a => (nomatch a), fun _ _ a => (nomatch a), fun _ _ a => (nomatch a)⟩

theorem elemInvariant : PoolInvariant (fun _ p => ElemX p) allOps where
  init := fun c simple _ => elemx_init c.size0 simple
  op := fun _ _ _ o _ h => elemx_applyOp _ o (h.same _)
  run := fun _ _ _ r h => elemx_runRef _ r (h.same _)
  drain := fun _ _ h => h.same _

end Pool
/-- `ElemOK` in every pool of every reachable world, whatever the history -/
theorem World.elem_run {base : Nat} {h : History} {c : Cfg} {p : Pool} (r : Reached base h c p) : p.ElemOK :=
  (r.all Pool.elemInvariant).ok

end Taskpool
