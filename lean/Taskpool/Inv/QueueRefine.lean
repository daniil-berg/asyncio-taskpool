import Taskpool.Inv.QueueProd
/-! C20: the frames of the shell (`Ext`, `PSame`, `Quiet`: what a function leaves alone; `Still`, `PStill`: a
bookkeeping move of the consumers' resp. producers' side, which also leaves the accounting core alone), which core
operation each function of the asyncio shell performs (`k_*`; for a bookkeeping move a projection of its frame), and the
producers' half of the refinement: a producer's step is a guarded core operation (`kstep_stepProducer`).  The consumers'
half and the theorem for every input (`kstep_step`) are in `QueueShell`. -/
namespace Taskpool.QueueM

/-- the number of free slots of a bounded queue (0 for an unbounded one, which is never full) -/
def Q.free (q : Q) : Nat := q.k.maxsize - q.k.items.length

/-- `q'` leaves the producers' side of `q` alone and frees no slot: the frame under which `PInv` (`QueuePutters`) is kept -/
structure PSame (q q' : Q) : Prop where
  prods   : q'.k.prods = q.k.prods
  paux    : q'.paux = q.paux
  putters : q'.putters = q.putters
  ready   : ∀ i, Ref.producer i ∈ q.ready → Ref.producer i ∈ q'.ready
  free    : q'.free ≤ q.free

theorem PSame.refl (q : Q) : PSame q q := ⟨rfl, rfl, rfl, fun _ h => h, Nat.le_refl _⟩
theorem PSame.trans {a b c : Q} (h1 : PSame a b) (h2 : PSame b c) : PSame a c :=
  ⟨h2.prods.trans h1.prods, h2.paux.trans h1.paux, h2.putters.trans h1.putters, fun i h => h2.ready i (h1.ready i h),
   Nat.le_trans h2.free h1.free⟩

namespace Q

/-- `q'` extends `q`: the frame under which `Shell` (`QueueShell`) is kept -/
structure Ext (q q' : Q) : Prop where
  joiners : q'.k.joiners = q.k.joiners
  ready   : ∀ r ∈ q.ready, r ∈ q'.ready
  log     : Ev.valueError ∈ q'.log → Ev.valueError ∈ q.log

theorem Ext.refl (q : Q) : Ext q q := ⟨rfl, fun _ h => h, fun h => h⟩
theorem Ext.trans {a b c : Q} (h1 : Ext a b) (h2 : Ext b c) : Ext a c :=
  ⟨h2.joiners.trans h1.joiners, fun r h => h2.ready r (h1.ready r h), fun h => h1.log (h2.log h)⟩

/-- a step of the consumers' side of the shell: it extends the state and leaves the producers alone -/
structure Quiet (q q' : Q) : Prop where
  ext  : Ext q q'
  same : PSame q q'

theorem Quiet.refl (q : Q) : Quiet q q := ⟨.refl q, .refl q⟩
theorem Quiet.trans {a b c : Q} (h1 : Quiet a b) (h2 : Quiet b c) : Quiet a c :=
  ⟨h1.ext.trans h2.ext, h1.same.trans h2.same⟩

theorem quiet_k (q q' : Q) (hk : q'.k = q.k) (hp : q'.paux = q.paux) (hu : q'.putters = q.putters)
    (hr : ∀ r ∈ q.ready, r ∈ q'.ready) (hl : Ev.valueError ∈ q'.log → Ev.valueError ∈ q.log) : Quiet q q' :=
  ⟨⟨by rw [hk], hr, hl⟩, by rw [hk], hp, hu, fun _ => hr _, by rw [Q.free, hk]; exact Nat.le_refl _⟩

/-- a bookkeeping move of the consumers' side: `Quiet`, and the accounting core is not touched -/
structure Still (q q' : Q) : Prop extends Quiet q q' where
  k : q'.k = q.k

theorem Still.refl (q : Q) : Still q q := ⟨.refl q, rfl⟩
theorem Still.trans {a b c : Q} (h1 : Still a b) (h2 : Still b c) : Still a c :=
  ⟨h1.toQuiet.trans h2.toQuiet, h2.k.trans h1.k⟩

theorem still_k (q q' : Q) (hk : q'.k = q.k) (hp : q'.paux = q.paux) (hu : q'.putters = q.putters)
    (hr : ∀ r ∈ q.ready, r ∈ q'.ready) (hl : Ev.valueError ∈ q'.log → Ev.valueError ∈ q.log) : Still q q' :=
  ⟨quiet_k q q' hk hp hu hr hl, hk⟩

theorem still_modA (q : Q) (c : Nat) (f : Aux → Aux) : Still q (q.modA c f) :=
  still_k _ _ rfl rfl rfl (fun _ h => h) fun h => h
theorem still_getters (q : Q) (g : List Nat) : Still q { q with getters := g } :=
  still_k _ _ rfl rfl rfl (fun _ h => h) fun h => h
theorem quiet_logEv (q : Q) (e : Ev) (he : e ≠ .valueError) : Quiet q (q.logEv e) :=
  quiet_k _ _ rfl rfl rfl (fun _ h => h) fun h =>
    (List.mem_append.1 h).elim id fun h' => absurd (List.mem_singleton.1 h').symm he
theorem still_schedC (q : Q) (c : Nat) : Still q (q.schedC c) :=
  still_k _ _ rfl rfl rfl (fun _ h => List.mem_append_left _ h) fun h => h


@[simp] theorem k_setK (q : Q) (k : K) : (q.setK k).k = k := rfl
@[simp] theorem k_modA (q : Q) (c : Nat) (f : Aux → Aux) : (q.modA c f).k = q.k := rfl
@[simp] theorem k_logEv (q : Q) (e : Ev) : (q.logEv e).k = q.k := rfl
@[simp] theorem k_schedC (q : Q) (c : Nat) : (q.schedC c).k = q.k := rfl

@[simp] theorem k_modP (q : Q) (j : Nat) (f : Aux → Aux) : (q.modP j f).k = q.k := rfl
@[simp] theorem k_schedP (q : Q) (j : Nat) : (q.schedP j).k = q.k := rfl

/-- a bookkeeping move of the producers' side: `Ext`, and neither the core nor the consumers' side is touched -/
structure PStill (q q' : Q) : Prop extends Ext q q' where
  k : q'.k = q.k
  aux : q'.aux = q.aux
  getters : q'.getters = q.getters

theorem PStill.refl (q : Q) : PStill q q := ⟨.refl q, rfl, rfl, rfl⟩
theorem PStill.trans {a b c : Q} (h1 : PStill a b) (h2 : PStill b c) : PStill a c :=
  ⟨h1.toExt.trans h2.toExt, h2.k.trans h1.k, h2.aux.trans h1.aux, h2.getters.trans h1.getters⟩

theorem pstill_modP (q : Q) (j : Nat) (f : Aux → Aux) : PStill q (q.modP j f) := ⟨⟨rfl, fun _ h => h, fun h => h⟩, rfl, rfl, rfl⟩
theorem pstill_schedP (q : Q) (j : Nat) : PStill q (q.schedP j) :=
  ⟨⟨rfl, fun _ h => List.mem_append_left _ h, fun h => h⟩, rfl, rfl, rfl⟩
theorem pstill_putters (q : Q) (l : List Nat) : PStill q { q with putters := l } := ⟨⟨rfl, fun _ h => h, fun h => h⟩, rfl, rfl, rfl⟩

theorem pstill_wakePutter (q : Q) : PStill q q.wakePutter := by
  unfold wakePutter
  simp only
  split
  · exact pstill_putters q _
  · exact ((pstill_putters q _).trans (pstill_modP _ _ _)).trans (pstill_schedP _ _)

@[simp] theorem k_wakePutter (q : Q) : q.wakePutter.k = q.k := (pstill_wakePutter q).k

@[simp] theorem k_waitPutter (q : Q) (j : Nat) : (q.waitPutter j).k = q.k := rfl

theorem still_wakeGetter (q : Q) : Still q q.wakeGetter := by
  unfold wakeGetter
  simp only
  split
  · exact still_getters q _
  · exact ((still_getters q _).trans (still_modA _ _ _)).trans (still_schedC _ _)

theorem still_armGate (q : Q) (c : Nat) : Still q (q.armGate c) := by
  unfold armGate
  split
  · exact .refl _
  · split
    · exact (still_modA _ _ _).trans (still_schedC _ _)
    · exact still_modA _ _ _

theorem still_waitGetter (q : Q) (c : Nat) : Still q (q.waitGetter c) := by
  unfold waitGetter
  simp only
  split
  · exact still_getters q _
  · split
    · exact ((still_getters q _).trans (still_modA _ _ _)).trans (still_schedC _ _)
    · exact (still_getters q _).trans (still_modA _ _ _)

@[simp] theorem k_wakeGetter (q : Q) : q.wakeGetter.k = q.k := (still_wakeGetter q).k

@[simp] theorem k_armGate (q : Q) (c : Nat) : (q.armGate c).k = q.k := (still_armGate q c).k

@[simp] theorem k_waitGetter (q : Q) (c : Nat) : (q.waitGetter c).k = q.k := (still_waitGetter q c).k

theorem k_put (q : Q) (x : Nat) : (q.put x).k = if q.k.full then q.k else q.k.put x := by
  unfold put; split <;> simp

@[simp] theorem k_exitBlock (q : Q) (c : Nat) (e : Exit) : (q.exitBlock c e).k = q.k.exit c e := rfl

@[simp] theorem k_abortGet (q : Q) (c : Nat) (w : Bool) : (q.abortGet c w).k = q.k.abort c := by
  unfold abortGet
  simp only
  split <;> simp

theorem still_cancelConsumer (q : Q) (c : Nat) : Still q (q.cancelConsumer c) := by
  unfold cancelConsumer
  split
  · split
    · exact .refl _
    · split
      · exact (still_modA _ _ _).trans (still_schedC _ _)
      · exact still_modA _ _ _
  · exact .refl _

theorem still_gate (q : Q) (c : Nat) (exc : Bool) : Still q (q.gate c exc) := by
  unfold gate
  split
  · exact (still_modA _ _ _).trans (still_schedC _ _)
  · exact .refl _

@[simp] theorem k_cancelConsumer (q : Q) (c : Nat) : (q.cancelConsumer c).k = q.k := (still_cancelConsumer q c).k

@[simp] theorem k_gate (q : Q) (c : Nat) (exc : Bool) : (q.gate c exc).k = q.k := (still_gate q c exc).k

@[simp] theorem k_handTake (q : Q) : q.handTake.k = q.k.handTake := by
  unfold handTake K.handTake
  split <;> simp_all

@[simp] theorem k_spawn (q : Q) : q.spawn.k = q.k.spawn := rfl
@[simp] theorem k_join (q : Q) : q.join.k = q.k.join := rfl
@[simp] theorem k_stepJoiner (q : Q) (j : Nat) : (q.stepJoiner j).k = q.k.stepJoiner j := rfl

theorem k_tryPut (q : Q) (j x : Nat) : (q.tryPut j x).k = if q.k.full then q.k.pwait j else q.k.pput j := by
  unfold tryPut
  split <;> simp

@[simp] theorem k_abortPut (q : Q) (j : Nat) (w : Bool) : (q.abortPut j w).k = q.k.pabort j := by
  unfold abortPut
  simp only
  split <;> simp

theorem pstill_cancelProducer (q : Q) (j : Nat) : PStill q (q.cancelProducer j) := by
  unfold cancelProducer
  split
  · split
    · exact .refl _
    · split
      · exact (pstill_modP _ _ _).trans (pstill_schedP _ _)
      · exact pstill_modP _ _ _
  · exact .refl _

@[simp] theorem k_cancelProducer (q : Q) (j : Nat) : (q.cancelProducer j).k = q.k := (pstill_cancelProducer q j).k

@[simp] theorem k_produce (q : Q) (x : Nat) : (q.produce x).k = q.k.produce x := rfl

theorem kstep_tryPut (q : Q) (j x : Nat) (p : Prod) (h : q.k.prods[j]? = some p) (hp : prePut p.phase = true) :
    KStep q.k (q.tryPut j x).k := by
  rw [k_tryPut]
  split
  · rename_i hf; exact KStep.pwait _ j p h hp hf
  · rename_i hf; exact KStep.pput _ j p h hp (by simpa using hf)

theorem kstep_stepProducer (q : Q) (j : Nat) : KStep q.k (q.stepProducer j).k := by
  unfold stepProducer
  split
  · rename_i p a hk ha
    split
    · exact KStep.refl _
    · simp only
      split
      · rename_i hp
        unfold startProducer
        split
        · simp only [k_setK, k_modP]
          exact KStep.pabort _ j p hk (by simp [hp, prePut])
        · exact kstep_tryPut (q.modP j _) j _ p hk (by simp [hp, prePut])
      · rename_i hp
        unfold wakeProducer
        simp only
        split
        · simp only [k_abortPut, k_modP]
          exact KStep.pabort _ j p hk (by simp [hp, prePut])
        · exact kstep_tryPut (q.modP j _ |>.modP j _) j _ p hk (by simp [hp, prePut])
      · exact KStep.refl _
  · exact KStep.refl _

end Q
end Taskpool.QueueM
