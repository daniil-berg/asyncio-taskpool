import Taskpool.Inv.Tame
import Taskpool.Inv.UserCode
/-! The nine state changes the synchronous API is made of (`SyncKept`, `Inv/UserCode.lean`) are tame; hence so are every
synchronous pool call except `pool_size = …` and user code made of such calls. -/
namespace Taskpool
namespace Pool

theorem flat_addGroupIfMissing (gs : List (String × List Nat)) (g : String) : flat (addGroupIfMissing gs g) = flat gs := by
  unfold addGroupIfMissing
  split
  · rfl
  · simp

theorem freshReq_newReq (kind stars group sp remaining items nc)
    (h1 : kind = .apply → items = []) (h2 : kind = .map → remaining = 0) :
    FreshReq (newReq kind stars group sp remaining items nc) := by
  have hp : (newReq kind stars group sp remaining items nc).pend = 0 := by
    show (if (kind == .map && false && _) = true then 1 else 0) = 0
    rw [Bool.and_false, Bool.false_and]; rfl
  refine ⟨⟨nc, rfl, ?_, fun _ => ?_, fun _ _ _ _ _ hw => nomatch hw⟩, (fun _ h => nomatch h),
    ⟨rfl, rfl, rfl, rfl, fun h => congrArg List.length (h1 h), h2⟩, Or.inl rfl⟩
  · rw [hp]; exact Nat.le_refl _
  · rw [hp]; exact Nat.le_refl _

theorem tame_register (p : Pool) (r : Req) (hr : FreshReq r) (hs : r.cancelSnap = none := by rfl) : Tame p (p.register r) :=
  tame_of_eq _ _ rfl rfl (Grown.append (fun x => ⟨.refl x, .refl x⟩) r ⟨hr, hs⟩)
    (h5 := by
      show (flat (addGroupIfMissing p.groups r.group)).Sublist (flat p.groups)
      rw [flat_addGroupIfMissing]; exact List.Sublist.refl _)

theorem tame_cancelGroupMetas (p : Pool) (g) : Tame p (p.cancelGroupMetas g) := by
  unfold cancelGroupMetas
  simp only
  refine Tame.trans (tame_foldl _ _ (fun p m => tame_metaCancel p m) p) (tame_of_eq _ _ rfl rfl (.map _ fun x => ?_))
  split <;> exact ⟨.of_eq, .of_eq⟩

theorem tame_sync (p₀ : Pool) : SyncKept (Tame p₀) (fun _ => True) True where
  cancelTask := fun p t h => h.trans (tame_cancelTask p t)
  cancelGroupMetas := fun p g h => h.trans (tame_cancelGroupMetas p g)
  dropGroups := fun _ _ hs h => h.trans (tame_of_eq _ _ rfl rfl (h5 := flat_sublist hs))
  setOrders := fun _ _ h => h.trans (tame_of_eq _ _ rfl rfl)
  lock := fun _ h => h.trans (tame_of_eq _ _ rfl rfl)
  unlock := fun _ _ h => h.trans (tame_of_eq _ _ rfl rfl)
  startCalls := fun _ _ h => h.trans (tame_of_eq _ _ rfl rfl)
  logEv := fun p e h => h.trans (tame_logEv p e)
  register := fun p _ _ _ _ _ _ _ _ _ ha hm h =>
    h.trans (tame_register p _ (freshReq_newReq _ _ _ _ _ _ _ (fun e => (ha e).2.1) (fun e => (hm e).1)))

theorem tame_cancelGroupBody (p p' : Pool) (g ids order) (h : p.cancelGroupBody g ids order = some p') : Tame p p' :=
  (tame_sync p).cancelGroupBody (Tame.refl p) g ids order p' h

theorem tame_runHooks (p : Pool) (ctx : Nat) (hs : List HookOp) : Tame p (p.runHooks ctx hs) :=
  (tame_sync p).runHooks (Tame.refl p) ctx hs (fun _ => trivial) trivial

end Pool
end Taskpool
