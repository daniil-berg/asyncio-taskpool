/-! Decimal rendering of natural numbers is injective — the one fact about text that `C10_generated_fresh` takes as a
hypothesis.  Core's `Nat.ofDigitChars` reads the digits back (`Nat.ofDigitChars_ten_toDigits`). -/
namespace Taskpool

theorem toDigits10_inj (n m : Nat) (h : Nat.toDigits 10 n = Nat.toDigits 10 m) : n = m := by
  rw [← Nat.ofDigitChars_ten_toDigits (n := n), h, Nat.ofDigitChars_ten_toDigits]

theorem toString_nat_inj {n m : Nat} (h : toString n = toString m) : n = m := by
  apply toDigits10_inj
  have := congrArg String.toList h
  simpa using this

theorem generated_names_inj (pre : String) (i j : Nat)
    (h : pre ++ "-worker-group-" ++ toString i = pre ++ "-worker-group-" ++ toString j) : i = j := by
  apply toString_nat_inj
  exact (String.append_right_inj (pre ++ "-worker-group-")).mp h

end Taskpool
