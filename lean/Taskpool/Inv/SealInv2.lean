import Taskpool.Inv.SealInv
import Taskpool.Inv.FinSWalk
import Taskpool.Inv.EndWalk2
import Taskpool.Inv.EmptiedWalk
/-! Three further invariants of sealed pools — `FinSOK` (a spawner that was never cancelled ends only when its work is
done, `Inv/FinS.lean`), `EndFiled` (a task inside its end callback stays filed as ended, `Inv/EndOK.lean`) and `EmptiedOK`
(the registries of a closed pool stay empty, `Inv/Emptied.lean`) — lifted, together with `SealedC`, to every pool of
every world reachable without `unlock()` and without assignment to `pool_size`: `World.sealed2_run` is the one induction
over the history (it has the history in hand, which `World.spawnersWaited_run` needs), and `World.sealed_run` is its first
component. -/
namespace Taskpool

def SealedC2 (c : Cfg) (p : Pool) : Prop := SealedC c p ∧ Pool.FinSOK p ∧ Pool.EndFiled p ∧ Pool.EmptiedOK p

theorem World.sealed2_run (base : Nat) (h : History) (hh : ∀ x ∈ h, x.sealOk = true) :
    ((World.init base).run h).All SealedC2 := by
  refine World.run_keeps base WOp.sealOk (World.all_init SealedC2 base) (fun pre x hxo hp => ?_) h hh
  refine World.all_next_local _ x hp ?_ ?_ ?_ ?_
  · intro size simple name e c hs
    subst e
    exact ⟨sealedC_init c simple hxo, Pool.finS_init _ _, Pool.endFiled_init _ _, Pool.emptied_init _ _⟩
  · intro i orders op e c p _ _ ⟨hs, hf, he, hm⟩
    subst e
    exact ⟨sealedC_op c p orders op hxo hs,
      Pool.finS_applyOp _ op (sealedC_orders orders hs).2.1 (Pool.finS_orders p orders hf),
      Pool.endFiled_applyOp _ op (Pool.endFiled_orders p orders he),
      Pool.emptied_applyOp _ op (Pool.emptied_orders p orders hm)⟩
  · intro k orders e i r c p _ hpp ⟨hs, hf, he, hm⟩
    obtain ⟨hg1, hw1, hs1⟩ := sealedC_orders orders hs
    have h0 := World.spawnersWaited_run base pre i p hpp
    have h1 := fun a re => World.spawnersWaited_stage1 base pre i p hpp orders a re
    exact ⟨sealedC_run c p orders r hs h0 h1,
      Pool.finS_runRef _ r hw1 hs1 (Pool.finS_orders p orders hf) (fun g G hG => h0 g G hG) h1,
      Pool.endFiled_runRef _ r hg1.lax hs1 (Pool.endFiled_orders p orders he),
      Pool.emptied_runRef _ r hw1 hs1 (Pool.emptied_orders p orders hm)⟩
  · intro c p ⟨hs, hf, he, hm⟩
    exact ⟨sealedC_drain c p hs, Pool.finS_drain p hf, Pool.endFiled_drain p he, Pool.emptied_drain p hm⟩

theorem World.sealed_run (base : Nat) (h : History) (hh : ∀ x ∈ h, x.sealOk = true) :
    ((World.init base).run h).All SealedC :=
  (World.sealed2_run base h hh).mono fun _ _ h => h.1

/-- no task is ever lost in a history without `unlock()` and without assignment to `pool_size` — with any number of
`gather_and_close()` and `flush()` calls, overlapping in any way -/
theorem sealedAll (base : Nat) (h : History) (hh : ∀ x ∈ h, x.sealOk = true) (i : Nat) (c : Cfg) (p : Pool)
    (hc : ((World.init base).run h).cfgs[i]? = some c) (hp : ((World.init base).run h).pools[i]? = some p) :
    p.lost = false ∧ RegOK p ∧ LifeOK p ∧ Pool.Seal p := by
  obtain ⟨hg, _, hs⟩ := (World.sealed_run base h hh).inv i c p hc hp
  exact ⟨hg.ll rfl, hg.reg, hg.life, hs⟩

end Taskpool
