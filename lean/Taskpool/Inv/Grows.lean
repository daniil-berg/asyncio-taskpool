import Taskpool.Inv.Write
import Taskpool.Inv.Lift
import Taskpool.Inv.Grown
/-! Three facts about ids that hold after **every** history, read off one frame relation.

`Grows p q` relates a pool state to a later one as far as ids on file go: `tasks` and `reqs` only grow; the running
registry loses ids anywhere and gains them only at its end, as `len(tasks)` at the moment the task is appended; an id
enters `_meta_tasks_cancelled` only as the index of an existing request; `kind` and `num_concurrent` of a request are
written once, by `newReq` (and `map` rejects `num_concurrent < 1`).  `Grows` is reflexive and transitive and holds of
every single write (`grows_write`, by cases on `Write`), hence of every function of the machine by `Steps.frame`.

Consequences along `Grows`: `RunSorted` (the running registry is strictly ascending in id), `MC` (`_meta_tasks_cancelled`
holds existing spawners), `NcOK` (`num_concurrent ≥ 1`). -/
namespace Taskpool
namespace Pool

/-- the running registry (`_tasks_running`, a dict in insertion order) is strictly ascending and holds ids of existing tasks only -/
structure RunSorted (p : Pool) : Prop where
  asc : p.running.Pairwise (· < ·)
  bnd : ∀ t ∈ p.running, t < p.tasks.length

/-- `MC` for `_meta_tasks_cancelled`: the spawner ids in it are ids of existing requests -/
def MC (p : Pool) : Prop := ∀ m ∈ p.metaCancelled, m < p.reqs.length

/-- a map-style request was given `num_concurrent ≥ 1` (`map` rejects anything else) -/
def NcOK (p : Pool) : Prop := ∀ (m : Nat) (r : Req), p.reqs[m]? = some r → r.kind = .map → 1 ≤ r.nc

/-- `KN` for `kind` and `nc` (`num_concurrent`): those of a request are written once, by `newReq` -/
def KN (r' r : Req) : Prop := r'.kind = r.kind ∧ r'.nc = r.nc

def NcReq (r : Req) : Prop := r.kind = .map → 1 ≤ r.nc

theorem KN.rfl' (r : Req) : KN r r := ⟨rfl, rfl⟩

structure Grows (p q : Pool) : Prop where
  tl : p.tasks.length ≤ q.tasks.length
  run : q.running.Sublist (p.running ++ List.range' p.tasks.length (q.tasks.length - p.tasks.length))
  mc : ∀ m ∈ q.metaCancelled, m ∈ p.metaCancelled ∨ m < q.reqs.length
  rq : Grown KN NcReq p.reqs q.reqs

theorem Grows.refl (p : Pool) : Grows p p := ⟨Nat.le_refl _, by simp, fun _ h => Or.inl h, .refl KN.rfl' _⟩

theorem Grows.trans {p q r : Pool} (h1 : Grows p q) (h2 : Grows q r) : Grows p r := by
  refine ⟨Nat.le_trans h1.tl h2.tl, ?_, ?_, h1.rq.trans (fun a b => ⟨a.1.trans b.1, a.2.trans b.2⟩)
    (fun k n e => k.2 ▸ n (k.1 ▸ e)) h2.rq⟩
  · obtain ⟨k1, e1⟩ := Nat.exists_eq_add_of_le h1.tl
    obtain ⟨k2, e2⟩ := Nat.exists_eq_add_of_le h2.tl
    have hq := h1.run
    have hr := h2.run
    rw [e2, e1, Nat.add_sub_cancel_left] at hr
    rw [e1, Nat.add_sub_cancel_left] at hq
    rw [e2, e1, Nat.add_assoc, Nat.add_sub_cancel_left, ← List.range'_append_1, ← List.append_assoc]
    exact hr.trans (List.Sublist.append hq (List.Sublist.refl _))
  · intro m hm
    rcases h2.mc m hm with a | a
    · exact (h1.mc m a).imp_right fun b => Nat.lt_of_lt_of_le b h2.rq.len
    · exact Or.inr a

theorem Grows.runSorted {p q : Pool} (h : Grows p q) (hp : RunSorted p) : RunSorted q := by
  have key : (p.running ++ List.range' p.tasks.length (q.tasks.length - p.tasks.length)).Pairwise (· < ·) := by
    rw [List.pairwise_append]
    refine ⟨hp.asc, List.pairwise_lt_range', fun a ha b hb => ?_⟩
    exact Nat.lt_of_lt_of_le (hp.bnd a ha) (List.mem_range'_1.mp hb).1
  refine ⟨key.sublist h.run, fun t ht => ?_⟩
  rcases List.mem_append.mp (h.run.subset ht) with a | a
  · exact Nat.lt_of_lt_of_le (hp.bnd t a) h.tl
  · have := (List.mem_range'_1.mp a).2
    have := h.tl
    omega

theorem Grows.mcOK {p q : Pool} (h : Grows p q) (hp : MC p) : MC q := fun m hm =>
  (h.mc m hm).elim (fun a => Nat.lt_of_lt_of_le (hp m a) h.rq.len) id

theorem Grows.ncOK {p q : Pool} (h : Grows p q) (hp : NcOK p) : NcOK q := fun m r' hm hk => by
  rcases h.rq.get m r' hm with ⟨r, a, k, n⟩ | ⟨_, b⟩
  · exact n ▸ hp m r a (k ▸ hk)
  · exact b hk

theorem Grows.of_reqs (p q : Pool) (hr : Grown KN NcReq p.reqs q.reqs) (hl : q.tasks.length = p.tasks.length)
    (hn : q.running.Sublist p.running) (hm : ∀ m ∈ q.metaCancelled, m ∈ p.metaCancelled ∨ m < q.reqs.length) : Grows p q :=
  ⟨Nat.le_of_eq hl.symm, by rw [hl, Nat.sub_self]; exact hn.trans (List.sublist_append_left _ _), hm, hr⟩

theorem kn_reqW {w m r' r} (h : ReqW w m r' r) : KN r' r := by
  cases h with
  | soft h => obtain ⟨_, _, _, e, _⟩ := h; rw [e]; exact ⟨rfl, rfl⟩
  | own h => exact ⟨h.kind, h.nc⟩
  | reg _ h => rw [h]; exact ⟨rfl, rfl⟩

theorem kn_filed {r' r} (h : Filed r' r) : KN r' r := by
  obtain ⟨_, _, _, e, _⟩ := h; rw [e]; exact ⟨rfl, rfl⟩

/-- every write of the machine (`Inv/Write.lean`).  `newReq` is the one place where `kind` and `nc` are written;
`newTask`: the new id is `len(tasks)` and goes to the end of the running registry; `_cancel_group_meta_tasks` files
indices of existing requests -/
theorem grows_write {w : Who} {p q : Pool} (h : Write w p q) : Grows p q := by
  have same := Grown.refl (N := NcReq) KN.rfl' p.reqs
  have sub := List.Sublist.refl p.running
  cases h with
  | rest | emit | lost | canToEnded | forget | modGather | newGather | flagApi | newApi | modApi | waitClosed =>
    exact .of_reqs p _ same rfl sub fun _ => .inl
  | task | flagTask | completeTask => exact .of_reqs p _ same (List.length_modify ..) sub fun _ => .inl
  | req _ m f hf => exact .of_reqs p _ (.modify KN.rfl' m f fun x => kn_reqW (hf x)) rfl sub fun _ => .inl
  | flagReq _ m | finishMeta _ m => exact .of_reqs p _ (.modify KN.rfl' m _ fun _ => ⟨rfl, rfl⟩) rfl sub fun _ => .inl
  | fileCancelled _ f ms hf hm =>
    exact .of_reqs p _ (.map f fun x => kn_filed (hf x)) rfl sub fun m a =>
      (List.mem_append.mp a).imp_right fun b => List.length_map (as := p.reqs) f ▸ hm m b
  | unfiled _ f mc' hf hm => exact .of_reqs p _ (.map f fun x => kn_filed (hf x)) rfl sub fun m a => .inl (hm m a)
  | newReq _ _ _ _ _ _ _ _ _ _ _ hm => exact .of_reqs p _ (.append KN.rfl' _ fun e => (hm e).2) rfl sub fun _ => .inl
  | runToEnded | runToCan => exact .of_reqs p _ same rfl List.erase_sublist fun _ => .inl
  | close => exact .of_reqs p _ same rfl (List.nil_sublist _) fun _ => .inl
  | newTask _ m =>
    refine ⟨List.length_append ▸ Nat.le_add_right _ _, ?_, fun _ => .inl, .modify KN.rfl' m _ fun _ => ⟨rfl, rfl⟩⟩
    simp only [List.length_append, List.length_cons, List.length_nil, Nat.add_sub_cancel_left]
    exact List.Sublist.refl _

theorem grows_steps {S : Who → Prop} {p q : Pool} (h : Steps S p q) : Grows p q :=
  h.frame Grows.refl Grows.trans fun _ _ _ _ => grows_write

theorem grows_runRef (p : Pool) (r : Ref) : Grows p (p.runRef r) := grows_steps (steps_runRef p r)
theorem grows_applyOp (p : Pool) (op : Op) : Grows p (p.applyOp op).1 := grows_steps (steps_applyOp p op)

/-- `op` and `run` of a `PoolInvariant` start from `{ p with orders := orders }`: the inner `hg p _ (.of_reqs …)` crosses
that overwrite (`Grows` reads no `orders`), the outer `hg` the step itself.  The same term serves `drain`: nor does it
read `emit` -/
theorem grows_invariant {I : Pool → Prop} (h0 : ∀ size simple, I (Pool.init size simple))
    (hg : ∀ p q, Grows p q → I p → I q) : PoolInvariant (fun _ p => I p) allOps where
  init := fun c simple _ => h0 c.size0 simple
  op := fun _ p _ o _ h => hg _ _ (grows_applyOp _ o) (hg p _ (.of_reqs p _ (.refl KN.rfl' _) rfl (.refl _) fun _ => .inl) h)
  run := fun _ p _ r h => hg _ _ (grows_runRef _ r) (hg p _ (.of_reqs p _ (.refl KN.rfl' _) rfl (.refl _) fun _ => .inl) h)
  drain := fun _ p h => hg p _ (.of_reqs p _ (.refl KN.rfl' _) rfl (.refl _) fun _ => .inl) h

theorem mc_workerNext {p : Pool} (h : MC p) (t : Nat) (tk : PTask) : MC (p.workerNext t tk) :=
  (grows_steps (steps_workerNext p t tk)).mcOK h

theorem mcInvariant : PoolInvariant (fun _ p => MC p) allOps :=
  grows_invariant (fun _ _ _ h => nomatch h) fun _ _ g => g.mcOK

theorem runSorted_init (size : Cap) (simple : Option SpawnSpec) : RunSorted (Pool.init size simple) :=
  ⟨List.Pairwise.nil, fun _ h => nomatch h⟩
theorem runSorted_applyOp (p : Pool) (op : Op) (h : RunSorted p) : RunSorted (p.applyOp op).1 := (grows_applyOp p op).runSorted h
theorem runSorted_runRef (p : Pool) (r : Ref) (h : RunSorted p) : RunSorted (p.runRef r) := (grows_runRef p r).runSorted h

end Pool

theorem World.runSorted_run {base : Nat} {h : History} {c : Cfg} {p : Pool} (r : Reached base h c p) : p.RunSorted :=
  r.all (Pool.grows_invariant Pool.runSorted_init fun _ _ g => g.runSorted)

theorem World.nc_run {base : Nat} {h : History} {c : Cfg} {p : Pool} (r : Reached base h c p) : p.NcOK :=
  r.all (Pool.grows_invariant (fun _ _ _ _ a => nomatch a) fun _ _ g => g.ncOK)

def World.MCAll (w : World) : Prop := ∀ (n : Nat) (p : Pool), w.pools[n]? = some p → p.MC

/-- **every reachable world**: the spawner ids in `_meta_tasks_cancelled` are ids of existing requests -/
theorem World.mcAll_run (base : Nat) (h : History) : ((World.init base).run h).MCAll := fun _ _ hp =>
  ((World.reachable Pool.mcInvariant base h fun x _ => admits_all x).get hp).elim fun _ a => a.2

#print axioms Taskpool.World.mcAll_run

end Taskpool
