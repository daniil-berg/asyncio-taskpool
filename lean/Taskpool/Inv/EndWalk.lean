import Taskpool.Inv.EndOK
import Taskpool.Inv.SealWalk1
import Taskpool.Inv.Write
/-! **A task inside its end callback stays filed as ended — the frame relation.**

`EStep p q` relates a state `p` to a later state `q` reached by steps that keep everything `Pool.EndOK` reads:

* the ended registry is the same (`en`);
* no task *enters* the phase `inEndCb` (`tk`);
* a background call that sits in frame `gather2 g` in `q` sat there in `p`, with the same kind and the same snapshot of
  the ended registry (`ap`);
* gathers keep their `children` (`ga`) — these three are `Grown` clauses (`Inv/Grown.lean`): records are rewritten or
  appended, never dropped;
* an id filed as running or cancelled in `q` was filed so in `p`, or belongs to a task created since (`ru`).

The relation is hypothesis-free, reflexive and transitive, and `EndOK E` is preserved along it for every `E`
(`EndOK.step`).  Every function of the machine is such a step **except** `moveToEnded` (the ended registry grows),
`suspendTask · .inEndCb` (a task enters its end callback), the last stages `flushAfter2` / `gacAfter2` (the ended registry
shrinks) and the frame change into `gather2` (`flushAfter1` / `gacAfter1`): those are walked in `Inv/EndWalk2.lean`.
Every write of user code, a caller, a spawner and `asyncio.gather` (`Inv/Write.lean`) is a step (`estep_write`), hence so
are the functions made of them; besides these the file holds only the single writes of the wrapper of a pool task and
of the background calls that `Inv/EndWalk2.lean` composes. -/
namespace Taskpool
namespace Pool

/-- no task enters the phase `inEndCb` -/
abbrev TkE := Grown (fun k' k : PTask => k'.phase = .inEndCb → k.phase = .inEndCb) (·.phase ≠ .inEndCb)
/-- no call enters a frame `gather2`; in it, the kind and the snapshot of the ended registry are kept -/
abbrev ApE := Grown (fun A' A : Api => ∀ g, A'.frame = .gather2 g → A.frame = .gather2 g ∧ A.kind = A'.kind ∧ A.snapE = A'.snapE)
  (fun A => ∀ g, A.frame ≠ .gather2 g)
abbrev GaE := Grown (fun G' G : Gather => G'.children = G.children) (fun _ => True)

/-- the frame relation of `EndOK` (file header) -/
structure EStep (p q : Pool) : Prop where
  en : q.ended = p.ended
  tk : TkE p.tasks q.tasks
  ap : ApE p.apis q.apis
  ga : GaE p.gathers q.gathers
  ru : ∀ t, t ∈ q.running ++ q.cancelledR → t ∈ p.running ++ p.cancelledR ∨ p.tasks.length ≤ t

theorem EStep.tl {p q : Pool} (h : EStep p q) : p.tasks.length ≤ q.tasks.length := h.tk.len

theorem estep_of_eq (p q : Pool) (h1 : q.ended = p.ended := by rfl) (h2 : q.tasks = p.tasks := by rfl)
    (h3 : q.apis = p.apis := by rfl) (h4 : q.gathers = p.gathers := by rfl) (h5 : q.running = p.running := by rfl)
    (h6 : q.cancelledR = p.cancelledR := by rfl) : EStep p q where
  en := h1
  tk := by rw [h2]; exact .refl (fun _ h => h) _
  ap := by rw [h3]; exact .refl (fun _ _ h => ⟨h, rfl, rfl⟩) _
  ga := by rw [h4]; exact .refl (by exact fun _ => rfl) _
  ru := fun _ h => by rw [h5, h6] at h; exact Or.inl h

theorem EStep.refl (p : Pool) : EStep p p := estep_of_eq p p

theorem EStep.trans {p q s : Pool} (h1 : EStep p q) (h2 : EStep q s) : EStep p s where
  en := h2.en.trans h1.en
  tk := h1.tk.trans (fun a b h => b (a h)) (fun k n h => n (k h)) h2.tk
  ap := h1.ap.trans (fun a b g h => let ⟨f, k, s⟩ := a g h; let ⟨f', k', s'⟩ := b g f; ⟨f', k'.trans k, s'.trans s⟩)
    (fun k n g h => n g (k g h).1) h2.ap
  ga := h1.ga.trans (fun a b => a.trans b) (fun _ n => n) h2.ga
  ru := fun t h => (h2.ru t h).elim (h1.ru t) fun a => .inr (Nat.le_trans h1.tl a)

theorem EStep.apOld {p q : Pool} (s : EStep p q) {a g : Nat} {A' : Api} (hq : q.apis[a]? = some A') (hf : A'.frame = .gather2 g) :
    ∃ A, p.apis[a]? = some A ∧ A.frame = .gather2 g ∧ A.kind = A'.kind ∧ A.snapE = A'.snapE :=
  let ⟨A, hp, k⟩ := s.ap.old hq (· g hf); ⟨A, hp, k g hf⟩

theorem EndOK.step {E : Nat → Prop} {p q : Pool} (h : EndOK E p) (s : EStep p q) : EndOK E q where
  ef := fun t k' hq hE hph => by
    obtain ⟨k, hp, hk⟩ := s.tk.old hq (· hph)
    rw [s.en]; exact h.ef t k hp hE (hk hph)
  fe := fun a A' g hq hf hk => by
    obtain ⟨A, hp, f, k, sn⟩ := s.apOld hq hf
    obtain ⟨G, hG, hsub⟩ := h.fe a A g hp f (by rw [k]; exact hk)
    obtain ⟨G', hG', hc⟩ := s.ga.fwd hG
    exact ⟨G', hG', fun t ht => by rw [hc]; exact hsub t (by rw [sn]; exact ht)⟩
  ge := fun a A' g hq hf hk => by
    obtain ⟨A, hp, f, k, _⟩ := s.apOld hq hf
    obtain ⟨G, hG, hsub⟩ := h.ge a A g hp f (by rw [k]; exact hk)
    obtain ⟨G', hG', hc⟩ := s.ga.fwd hG
    exact ⟨G', hG', fun t ht => by rw [hc]; exact hsub t (by rw [← s.en]; exact ht)⟩

theorem estep_modTask (p : Pool) (t : Nat) (f : PTask → PTask)
    (hf : ∀ k, (f k).phase = .inEndCb → k.phase = .inEndCb := by exact fun _ h => h) :
    EStep p (p.modTask t f) := { EStep.refl p with tk := .modify (fun _ h => h) t f hf }

theorem estep_logEv (p : Pool) (e : Ev) : EStep p (p.logEv e) := estep_of_eq _ _

theorem estep_modApi (p : Pool) (a : Nat) (f : Api → Api)
    (hf : ∀ x, p.apis[a]? = some x → ∀ g, (f x).frame = .gather2 g →
      x.frame = .gather2 g ∧ x.kind = (f x).kind ∧ x.snapE = (f x).snapE) : EStep p (p.modApi a f) :=
  { EStep.refl p with ap := .modifyAt (fun _ _ h => ⟨h, rfl, rfl⟩) a f hf }

theorem estep_modApi_triv (p : Pool) (a : Nat) (f : Api → Api) (hk : ∀ x, (f x).kind = x.kind := by intro x; rfl)
    (hfr : ∀ x, (f x).frame = x.frame := by intro x; rfl) (hs : ∀ x, (f x).snapE = x.snapE := by intro x; rfl) :
    EStep p (p.modApi a f) :=
  estep_modApi p a f (fun x _ g h => ⟨by rw [← hfr x]; exact h, (hk x).symm, (hs x).symm⟩)

theorem estep_modApi_out (p : Pool) (a : Nat) (f : Api → Api) (hfr : ∀ x g, (f x).frame ≠ .gather2 g) :
    EStep p (p.modApi a f) :=
  estep_modApi p a f (fun x _ g h => absurd h (hfr x g))

theorem estep_write {w : Who} {p q : Pool} (x : Write w p q) (hw : (∀ t, w ≠ .wrap t) ∧ w ≠ .api ∧ w ≠ .closer) :
    EStep p q := by
  cases x with
  | rest | emit | req | fileCancelled | newReq | flagReq | finishMeta => exact estep_of_eq _ _
  | flagTask p t => exact (estep_modTask p t fun x => { x with sched := true }).trans (estep_of_eq _ _)
  | task p t f hf =>
    refine estep_modTask p t f fun k h => ?_
    cases hf k with
    | soft e => obtain ⟨_, _, _, e⟩ := e; rw [e] at h; exact h
    | own => exact absurd rfl (hw.1 t)
    | reg _ e => rw [e] at h; exact h
  | newTask p m isMap =>
    exact { EStep.refl p with
      tk := .append (fun _ h => h) _ nofun
      ru := fun t h => by
        rcases List.mem_append.mp h with a | a
        · rcases List.mem_append.mp (show t ∈ p.running ++ [p.tasks.length] from a) with b | b
          · exact .inl (List.mem_append_left _ b)
          · exact .inr (Nat.le_of_eq (List.mem_singleton.mp b).symm)
        · exact .inl (List.mem_append_right _ a) }
  | modGather p g f hf => exact { EStep.refl p with ga := .modify (by exact fun _ => rfl) g f fun G => (hf G).1 }
  | flagApi p a => exact (estep_modApi_triv p a fun x => { x with sched := true }).trans (estep_of_eq _ _)
  | newGather p G amb => exact { EStep.refl p with ga := .append (by exact fun _ => rfl) _ trivial }
  | lost _ t | runToEnded _ t | canToEnded _ t | runToCan _ t | completeTask _ t => exact absurd rfl (hw.1 t)
  | newApi | modApi | unfiled | forget | waitClosed => exact absurd rfl hw.2.1
  | close => exact absurd rfl hw.2.2

theorem estep_steps {S : Who → Prop} (hS : ∀ w, S w → (∀ t, w ≠ .wrap t) ∧ w ≠ .api ∧ w ≠ .closer) {p q : Pool}
    (h : Steps S p q) : EStep p q := h.frame EStep.refl EStep.trans fun w _ _ hw x => estep_write x (hS w hw)

theorem estep_user {p q : Pool} (h : Steps (Eq .user) p q) : EStep p q :=
  estep_steps (S := Eq .user) (by rintro _ rfl; exact ⟨nofun, nofun, nofun⟩) h
theorem estep_gather {p q : Pool} (h : Steps (Eq .gather) p q) : EStep p q :=
  estep_steps (S := Eq .gather) (by rintro _ rfl; exact ⟨nofun, nofun, nofun⟩) h

theorem estep_schedTask (p : Pool) (t : Nat) : EStep p (p.schedTask t) := estep_write (w := .user) (.schedTask p t) ⟨nofun, nofun, nofun⟩
theorem estep_schedApi (p : Pool) (a : Nat) : EStep p (p.schedApi a) := estep_write (.schedApi p a) ⟨nofun, nofun, nofun⟩
theorem estep_releasePool (p : Pool) : EStep p p.releasePool := estep_user (st_releasePool (.refl p) rfl)
theorem estep_releaseMap (p : Pool) (m : Nat) : EStep p (p.releaseMap m) := estep_user (st_releaseMap (.refl p) rfl m)

theorem estep_runHooks (p : Pool) (ctx : Nat) (hs : List HookOp) : EStep p (p.runHooks ctx hs) :=
  estep_user (st_runHooks (.refl p) rfl ctx hs)

theorem estep_gatherStart (p : Pool) (children : List Child) (re : Bool) (owner : Nat) (setPrefix : Nat) :
    EStep p (p.gatherStart children re owner setPrefix).1 :=
  estep_gather ((st_gather _ rfl p).gatherStart (.refl p) children re owner setPrefix)

theorem estep_gatherChildDone (p : Pool) (g i : Nat) (viaHandle : Bool) : EStep p (p.gatherChildDone g i viaHandle) :=
  estep_gather ((st_gather _ rfl p).gatherChildDone (.refl p) g i viaHandle)

theorem estep_stepMeta (p : Pool) (m : Nat) : EStep p (p.stepMeta m) :=
  estep_steps (by rintro _ (rfl | rfl | rfl) <;> exact ⟨nofun, nofun, nofun⟩) (steps_runRef p (.spawner m))

theorem estep_completeTask (p : Pool) (t : Nat) (o : Outcome) : EStep p (p.completeTask t o) := by
  unfold completeTask
  split
  · exact EStep.refl p
  · exact foldl_keeps (P := EStep p) _ (fun q _ h => h.trans (estep_of_eq q _)) _ _ (estep_modTask p _ _ fun _ h => nomatch h)

theorem estep_finishApi (p : Pool) (a : Nat) (o : Outcome) : EStep p (p.finishApi a o) := by
  unfold finishApi
  exact estep_modApi_out p a _ (fun _ _ h => nomatch h)

theorem estep_addApi (p : Pool) (k : ApiKind) : EStep p (p.addApi k) := by
  unfold addApi
  refine EStep.trans (q := { p with apis := p.apis ++ [{ kind := k, frame := .notStarted, sched := true, outcome := none }] }) ?_ (estep_of_eq _ _)
  exact { EStep.refl p with ap := .append (fun _ _ h => ⟨h, rfl, rfl⟩) _ nofun }

theorem estep_applyOp (p : Pool) (op : Op) : EStep p (p.applyOp op).1 := by
  cases hs : op.starts with
  | none => exact estep_steps (by rintro _ (rfl | rfl) <;> exact ⟨nofun, nofun, nofun⟩) (steps_applyOp_sync p hs)
  | some k => exact applyOp_starts p hs ▸ estep_addApi p k

end Pool
end Taskpool
