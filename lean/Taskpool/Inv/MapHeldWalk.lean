import Taskpool.Inv.MapHeld
import Taskpool.Inv.Mono
import Taskpool.Inv.Write
import Taskpool.Inv.Lift
/-! `MHOK` (`Inv/MapHeld.lean`) is preserved by every step of the pool machine.  Every actor but the wrapper of a pool
task — spawners, `flush` / `gather_and_close` / `until_closed`, gathers, the synchronous API — goes through `Steps.keeps`
with `mhok_write`: each single write (`Inv/Write.lean`) that is not the wrapper's keeps `MHOK`.  The wrapper changes
phases, and `inEndCb` / `finished` may be entered only after `releaseMapSlot`, or with `lost`, which a single write does
not know: it goes through `WrapStaged` (`mh_wrap`) with `MhAt t`, `MHOK` plus what is known at each stage of the wrapper.
Both say what a write does to the task records by the relation `Keep` (every `Tame0` step, the releases, the registry
moves, `lost := true`); `MHOK.keep` is the one place that goes through the three clauses. -/
namespace Taskpool
namespace Pool

/-- a relation between two pools (where `…Kept` and `Steps.keeps` elsewhere speak of a predicate that is preserved): `q` is
`p` up to changes that keep the `isMap` flag of every task, hand map slots back at most, never reset `lost`, and keep
the phase of a task or move it to one in which it may hold what it holds -/
structure Keep (p q : Pool) : Prop where
  lost : q.lost = false → p.lost = false
  pt : ∀ (t : Nat) (k' : PTask), q.tasks[t]? = some k' → ∃ k : PTask, p.tasks[t]? = some k ∧
        k'.isMap = k.isMap ∧ (k.mapHeld = false → k'.mapHeld = false) ∧
        (k'.phase = k.phase ∨
          (k'.phase = .inEndCb → k'.mapHeld = false) ∧ (k'.phase = .finished → q.lost = false → k'.mapHeld = false))

/-- task `t` holds no map slot -/
def MF (p : Pool) (t : Nat) : Prop := ∀ k : PTask, p.tasks[t]? = some k → k.mapHeld = false

theorem Keep.refl (p : Pool) : Keep p p := ⟨fun h => h, fun _ k' h => ⟨k', h, rfl, fun x => x, .inl rfl⟩⟩

theorem Keep.trans {p q r : Pool} (h1 : Keep p q) (h2 : Keep q r) : Keep p r := by
  refine ⟨fun h => h1.lost (h2.lost h), fun t k'' h => ?_⟩
  obtain ⟨k', a', b1, b2, b3⟩ := h2.pt t k'' h
  obtain ⟨k, a, c1, c2, c3⟩ := h1.pt t k' a'
  refine ⟨k, a, b1.trans c1, fun x => b2 (c2 x), ?_⟩
  -- the phase disjunct: a move in the second step speaks of `k''` and `r.lost` already; one in the first step, with the
  -- phase kept by the second, is carried over by `b2` (slots are handed back at most) and `h2.lost` (`lost` is not reset)
  rcases b3 with e | e
  · rcases c3 with d | d
    · exact .inl (e.trans d)
    · exact .inr ⟨fun x => b2 (d.1 (e.symm.trans x)), fun x l => b2 (d.2 (e.symm.trans x) (h2.lost l))⟩
  · exact .inr e

theorem _root_.Taskpool.Tame0.keep {p q : Pool} (h : Tame0 p q) : Keep p q := by
  refine ⟨fun x => h.lost.symm.trans x, fun t k' a => ?_⟩
  obtain ⟨k, b, e⟩ := h.soft t k' a
  exact ⟨k, b, congrArg SoftP.isMap e, fun x => (congrArg SoftP.mapHeld e).trans x, .inl (congrArg SoftP.phase e)⟩

theorem _root_.Taskpool.Tame.keep {p q : Pool} (h : Tame p q) : Keep p q := h.toTame0.keep

theorem MHOK.keep {p q : Pool} (h : MHOK p) (k : Keep p q) : MHOK q := by
  refine ⟨fun t k' a hm => ?_, fun t k' a hp => ?_, fun t k' a hp hl => ?_⟩
  · obtain ⟨x, b, e, m, _⟩ := k.pt t k' a
    exact m (h.nm t x b (e.symm.trans hm))
  · obtain ⟨x, b, _, m, e | e⟩ := k.pt t k' a
    · exact m (h.ec t x b (e.symm.trans hp))
    · exact e.1 hp
  · obtain ⟨x, b, _, m, e | e⟩ := k.pt t k' a
    · exact m (h.fin t x b (e.symm.trans hp) (k.lost hl))
    · exact e.2 hp hl

theorem MHOK.tame0 {p q : Pool} (h : MHOK p) (k : Tame0 p q) : MHOK q := h.keep k.keep
theorem MHOK.tame {p q : Pool} (h : MHOK p) (k : Tame p q) : MHOK q := h.keep k.keep

theorem MF.keep {p q : Pool} {t : Nat} (h : MF p t) (k : Keep p q) : MF q t := by
  intro k' a
  obtain ⟨x, b, _, m, _⟩ := k.pt t k' a
  exact m (h x b)

variable {p₀ p : Pool}

theorem Keep.same (h : Keep p₀ p) (q : Pool) (ht : q.tasks = p.tasks := by rfl)
    (hl : q.lost = false → p.lost = false := by exact fun x => x) : Keep p₀ q :=
  h.trans ⟨hl, fun _ k' a => ⟨k', ht ▸ a, rfl, fun x => x, .inl rfl⟩⟩

theorem MHOK.eq (h : MHOK p) (q : Pool) (ht : q.tasks = p.tasks := by rfl)
    (hl : q.lost = false → p.lost = false := by exact fun x => x) : MHOK q := h.keep ((Keep.refl p).same q ht hl)

/-- a rewrite of task `t`: by default one of fields `Keep` does not read; a new phase needs its two clauses -/
theorem keep_modTask (h : Keep p₀ p) (t : Nat) (f : PTask → PTask)
    (hf : ∀ k, p.tasks[t]? = some k → (f k).isMap = k.isMap ∧ (k.mapHeld = false → (f k).mapHeld = false) ∧
      ((f k).phase = k.phase ∨ ((f k).phase = .inEndCb → (f k).mapHeld = false) ∧
        ((f k).phase = .finished → p.lost = false → (f k).mapHeld = false)) := by
      exact fun _ _ => ⟨rfl, fun x => x, .inl rfl⟩) : Keep p₀ (p.modTask t f) := by
  refine h.trans ⟨fun x => x, fun i k' a => ?_⟩
  rcases getElem?_modify_split a with ⟨rfl, x, hx, rfl⟩ | ⟨_, hx⟩
  · exact ⟨x, hx, hf x hx⟩
  · exact ⟨k', hx, rfl, fun x => x, .inl rfl⟩

theorem keep_lost (h : Keep p₀ p) : Keep p₀ { p with lost := true } := h.same _ rfl Bool.noConfusion

theorem keep_releasePool (p : Pool) : Keep p p.releasePool := ((Keep.refl p).same _).trans (tame_schedOpt _ _).keep

theorem keep_releaseMap (p : Pool) (m : Nat) : Keep p (p.releaseMap m) := (tame0_releaseMap p m).keep

theorem mhok_completeTask (h : MHOK p) (t : Nat) (o : Outcome) (hx : p.lost = true ∨ MF p t) :
    MHOK (p.completeTask t o) := by
  unfold completeTask
  split
  · exact h
  · refine (h.keep (keep_modTask (.refl p) t _ ?_)).tame (tame_emitChildren _ _)
    exact fun k hk => ⟨rfl, fun x => x, .inr ⟨Phase.noConfusion, fun _ hl =>
      hx.elim (fun e => nomatch e.symm.trans hl) fun e => e k hk⟩⟩

/-- `MHOK` along the wrapper of task `t`: at stage `endCb` the map slot is back, at stage `lost` a task was lost -/
structure MhAt (t : Nat) (s : WStage) (p : Pool) : Prop where
  ok : MHOK p
  mf : s = .endCb → MF p t
  ls : s = .lost → p.lost = true

theorem MhAt.keep {t : Nat} {s : WStage} {p q : Pool} (h : MhAt t s p) (k : Keep p q) : MhAt t s q :=
  ⟨h.ok.keep k, fun e => (h.mf e).keep k, fun e => by
    cases hq : q.lost with
    | true => rfl
    | false => exact absurd ((k.lost hq).symm.trans (h.ls e)) Bool.false_ne_true⟩

theorem mh_body (t : Nat) : WrapBody (MhAt t) (fun _ => True) t where
  modTask := fun s p f hw h => h.keep (keep_modTask (.refl p) t f fun k hk => ⟨(hw k).isMap, (hw k).mh, by
    -- the phase moves to `inEndCb` only at stage `endCb`, never to `finished`
    rcases (hw k).ph with a | a | a | a | a
    · exact .inl a
    · exact .inr ⟨fun x => (nomatch a.symm.trans x), fun x => (nomatch a.symm.trans x)⟩
    · exact .inr ⟨fun x => (nomatch a.symm.trans x), fun x => (nomatch a.symm.trans x)⟩
    · exact .inr ⟨fun x => (nomatch a.symm.trans x), fun x => (nomatch a.symm.trans x)⟩
    · exact .inr ⟨fun _ => (hw k).mh (h.mf a.1 k hk), fun x => nomatch a.2.symm.trans x⟩⟩)
  logEv := fun _ p e h => h.keep (tame_logEv p e).keep
  runHooks := fun _ p ctx hs _ h => h.keep (tame_runHooks p ctx hs).keep
  adm := fun _ _ _ _ => ⟨trivial, trivial, trivial, trivial⟩
  lost := fun p h => h.keep (keep_lost (.refl p))
  toLost := fun p h => ⟨h.ok.keep (keep_lost (.refl p)), nofun, fun _ => rfl⟩
  runToCan := fun p _ h => h.keep ((Keep.refl p).same _)
  runToEnded := fun p _ h => ⟨h.ok.keep ((Keep.refl p).same _), nofun, nofun⟩
  canToEnded := fun p _ h => ⟨h.ok.keep ((Keep.refl p).same _), nofun, nofun⟩
  releasePool := fun p h => h.keep (keep_releasePool p)
  releaseMap := fun p m h => h.keep (keep_releaseMap p m)
  unhold := fun p h => ⟨h.ok.keep (keep_modTask (.refl p) t _ fun _ _ => ⟨rfl, fun _ => rfl, .inl rfl⟩), fun _ k a => by
    obtain ⟨x, _, rfl⟩ := getElem?_modify_self a
    rfl, nofun⟩
  noMap := fun p tk ht hm h => ⟨h.ok, fun _ k a => by cases ht.symm.trans a; exact h.ok.nm t _ ht hm, nofun⟩

theorem mh_wrap (t : Nat) : WrapStaged (MhAt t) MHOK (fun _ => True) t :=
  (mh_body t).ofWeaken (fun _ _ h => h.ok) (fun _ p h => h.keep (tame_schedTask p t).keep)
    (fun _ o h => mhok_completeTask h.ok t o (.inr (h.mf rfl))) fun _ o h => mhok_completeTask h.ok t o (.inl (h.ls rfl))

theorem mhok_stepTask {p : Pool} (h : MHOK p) (t : Nat) : MHOK (p.stepTask t) :=
  have k0 := keep_modTask (.refl p) t fun k => { k with sched := false }
  (mh_wrap t).stepTask (fun _ => h) (fun _ _ _ => h.keep k0) (fun _ _ _ => ⟨h.keep k0, nofun, nofun⟩)
    (fun tk htk hph => ⟨h.keep k0, fun _ => MF.keep (fun k a => h.ec t k a (Option.some.inj (htk.symm.trans a) ▸ hph)) k0,
      nofun⟩) fun _ _ _ _ => h.keep k0

theorem mhok_newTask (h : MHOK p) (k : PTask) (hk : k.phase = .created ∧ k.mapHeld = k.isMap) (q : Pool)
    (hq : q.tasks = p.tasks ++ [k]) (hl : q.lost = p.lost := by rfl) : MHOK q := by
  have new : ∀ {t : Nat} {k' : PTask}, q.tasks[t]? = some k' →
      p.tasks[t]? = some k' ∨ (k'.phase = .created ∧ k'.mapHeld = k'.isMap) := fun a =>
    (getElem?_append_one (l := p.tasks) (hq ▸ a)).imp_right fun ⟨_, e⟩ => e ▸ hk
  refine ⟨fun t k' a hm => ?_, fun t k' a hp => ?_, fun t k' a hp hl' => ?_⟩
  · exact (new a).elim (fun b => h.nm t k' b hm) fun c => c.2.trans hm
  · exact (new a).elim (fun b => h.ec t k' b hp) fun c => nomatch c.1.symm.trans hp
  · exact (new a).elim (fun b => h.fin t k' b hp (hl ▸ hl')) fun c => nomatch c.1.symm.trans hp

/-- every write but those of the wrapper of a pool task (`Inv/Write.lean`): `tasks` is written where a task is cancelled,
flagged, registered with a gather or created; `lost` is set at most -/
theorem mhok_write {w : Who} {q : Pool} (x : Write w p q) (hw : ∀ t, w ≠ .wrap t) (h : MHOK p) : MHOK q := by
  cases x with
  | rest | emit | req | flagReq | finishMeta | fileCancelled | unfiled | newReq | modGather | flagApi | newGather | newApi
    | modApi | waitClosed => exact h.eq _
  | forget | close => exact h.eq _ rfl fun x => (Bool.or_eq_false_iff.mp x).1
  | flagTask _ t => exact (h.keep (keep_modTask (.refl p) t fun x => { x with sched := true })).eq _
  | task _ t f hf =>
    refine h.keep (keep_modTask (.refl p) t f fun k _ => ?_)
    cases hf k with
    | soft e => obtain ⟨_, _, _, e⟩ := e; rw [e]; exact ⟨rfl, fun x => x, .inl rfl⟩
    | own => exact absurd rfl (hw t)
    | reg _ e => rw [e]; exact ⟨rfl, fun x => x, .inl rfl⟩
  | newTask => exact mhok_newTask h _ ⟨rfl, rfl⟩ _ rfl
  | lost _ t | runToEnded _ t | canToEnded _ t | runToCan _ t | completeTask _ t => exact absurd rfl (hw t)

theorem mhok_runRef (h : MHOK p) (r : Ref) : MHOK (p.runRef r) := by
  cases r with
  | task t => exact mhok_stepTask h t
  | spawner | api =>
    exact (steps_runRef p _).keeps (fun _ _ _ hw x => mhok_write x (by rcases hw with rfl | rfl | rfl <;> exact nofun)) h
  | gchild g i =>
    exact (steps_runRef p (.gchild g i)).keeps (fun _ _ _ hw x => mhok_write x (by cases (hw : _ = Who.gather); exact nofun)) h

theorem mhok_applyOp (h : MHOK p) (op : Op) : MHOK (p.applyOp op).1 :=
  (steps_applyOp p op).keeps (fun _ _ _ hw x => mhok_write x (by rcases hw with rfl | rfl | rfl <;> exact nofun)) h

theorem mhok_init (size : Cap) (simple : Option SpawnSpec) : MHOK (Pool.init size simple) :=
  ⟨fun _ _ a => (nomatch a), fun _ _ a => (nomatch a), fun _ _ a => (nomatch a)⟩

end Pool

theorem mhInvariant : PoolInvariant (fun _ p => Pool.MHOK p) allOps where
  init := fun c simple _ => Pool.mhok_init c.size0 simple
  op := fun _ _ _ o _ h => Pool.mhok_applyOp (h.eq _) o
  run := fun _ _ _ r h => Pool.mhok_runRef (h.eq _) r
  drain := fun _ _ h => h.eq _

end Taskpool
