import Taskpool.Inv.Gather
/-! The counting invariant of `asyncio.gather` as the pool machine uses it (`flush`, `gather_and_close`):
for every gather the callbacks that have been run (`nfinished`) and the outstanding ones — registered on a child, queued,
or in the loop's ready queue, each with its multiplicity — add up to the number of children: nothing is ever dropped.
(The sum is per gather; that no slot is outstanding twice is not part of it.)  Consequently a gather whose count
is complete has no outstanding slot, every child task has finished, and the outer future has been completed: the
defensive test in `gatherChildDone` ("complete normally only if every child task has finished") never fails on a
reachable state.  The same for child spawners (`regS`) of a gather that collects exceptions (`cmp`: such a gather is
completed with the last count only): once its outer future is completed every child spawner has finished
(`Inv/GatherSpawners.lean`).

`R` is the number of handles per slot in the loop's ready queue (a property of the world, not of the pool).

The walks run on `PInvOn S`: `PInv` with the registration clauses asked of the slots in `S` only (`gather()` has not yet
registered the slots it has not scanned) and the clauses about children stated once for tasks and spawners (`Held`, `cbs`).
That the callback of a slot is called is one theorem, `PInvOn.called`: by the loop (`PInv.gchild`), or by `gather()` on a
child that is done when it is scanned — an unscanned slot counts as a handle in the queue (`pend`). -/
namespace Taskpool

def rsum (n : Nat) (f : Nat → Nat) : Nat := ((List.range n).map f).sum

theorem rsum_succ (n : Nat) (f : Nat → Nat) : rsum (n + 1) f = rsum n f + f n := by
  simp [rsum, List.range_succ]

theorem rsum_congr (n : Nat) (f g : Nat → Nat) (h : ∀ i, i < n → f i = g i) : rsum n f = rsum n g :=
  congrArg List.sum (List.map_congr_left fun i hi => h i (List.mem_range.mp hi))

theorem rsum_split (n : Nat) (f : Nat → Nat) (i : Nat) (hi : i < n) :
    rsum n f = f i + rsum n (fun j => if j = i then 0 else f j) := by
  induction n with
  | zero => omega
  | succ n ih =>
    rw [rsum_succ, rsum_succ]
    by_cases e : i = n
    · subst e
      rw [if_pos rfl, rsum_congr i (fun j => if j = i then 0 else f j) f fun j hj => if_neg (Nat.ne_of_lt hj)]
      omega
    · rw [ih (by omega), if_neg fun x => e x.symm]
      omega

theorem rsum_ge_one (n : Nat) (f : Nat → Nat) (i : Nat) (hi : i < n) : f i ≤ rsum n f :=
  rsum_split n f i hi ▸ Nat.le_add_right _ _

theorem rsum_rest (n : Nat) (f g : Nat → Nat) (i : Nat) (hg : ∀ j, j ≠ i → g j = f j) :
    rsum n (fun j => if j = i then 0 else g j) = rsum n (fun j => if j = i then 0 else f j) :=
  rsum_congr _ _ _ fun j _ => by
    by_cases e : j = i
    · rw [if_pos e, if_pos e]
    · rw [if_neg e, if_neg e, hg j e]

theorem rsum_unique (n : Nat) (f : Nat → Nat) (i j : Nat) (hi : i < n) (hj : j < n) (h : rsum n f ≤ 1) (fi : 0 < f i)
    (fj : 0 < f j) : i = j :=
  Classical.byContradiction fun e => by
    have := rsum_ge_one n (fun k => if k = i then 0 else f k) j hj
    rw [if_neg fun x => e x.symm] at this
    rw [rsum_split n f i hi] at h
    omega

theorem rsum_dec (n : Nat) (f g : Nat → Nat) (i : Nat) (hi : i < n) (hgi : g i + 1 = f i) (hg : ∀ j, j ≠ i → g j = f j) :
    rsum n g + 1 = rsum n f := by
  rw [rsum_split n f i hi, rsum_split n g i hi, rsum_rest n f g i hg]
  omega

theorem rsum_inc (n : Nat) (f g : Nat → Nat) (i : Nat) (hgi : g i ≤ f i + 1) (hg : ∀ j, j ≠ i → g j = f j) :
    rsum n g ≤ rsum n f + 1 := by
  by_cases hi : i < n
  · rw [rsum_split n f i hi, rsum_split n g i hi, rsum_rest n f g i hg]
    omega
  · rw [rsum_congr n g f fun j hj => hg j fun e => hi (e ▸ hj)]
    exact Nat.le_add_right _ _

theorem rsum_const (n : Nat) (f : Nat → Nat) (c : Nat) (h : ∀ i, i < n → f i = c) : rsum n f = n * c := by
  induction n with
  | zero => simp [rsum]
  | succ n ih => rw [rsum_succ, ih fun i hi => h i (by omega), h n (by omega), Nat.succ_mul]

namespace Pool

/-- weight of a callback slot: handles in the ready queue + the pool's own potential -/
def W (R : Nat × Nat → Nat) (p : Pool) (gi : Nat × Nat) : Nat := R gi + p.pot gi

structure PInv (R : Nat × Nat → Nat) (p : Pool) : Prop where
  dom : ∀ (g i : Nat), 0 < W R p (g, i) → ∃ G : Gather, p.gathers[g]? = some G ∧ i < G.children.length
  /-- slots run so far + slots outstanding are all the slots: every slot is either counted, or queued as a handle, or
  registered on a child that has not completed -/
  cnt : ∀ (g : Nat) (G : Gather), p.gathers[g]? = some G →
          G.nfinished + rsum G.children.length (fun i => W R p (g, i)) = G.children.length
  /-- a child task whose wrapper has not returned carries its slot's registration -/
  reg : ∀ (g : Nat) (G : Gather) (i t : Nat), p.gathers[g]? = some G → G.children[i]? = some (.task t) →
          ∃ k : PTask, p.tasks[t]? = some k ∧ (k.phase ≠ .finished → (g, i) ∈ k.doneCbs)
  fin : ∀ (g : Nat) (G : Gather), p.gathers[g]? = some G → G.children.length ≤ G.nfinished → G.outer.isSome = true
  ownT : ∀ (t g i : Nat), (g, i) ∈ p.dcb t → ∃ G : Gather, p.gathers[g]? = some G ∧ G.children[i]? = some (.task t)
  ownS : ∀ (m g i : Nat), (g, i) ∈ p.rcb m → ∃ G : Gather, p.gathers[g]? = some G ∧ G.children[i]? = some (.spawner m)
  regS : ∀ (g : Nat) (G : Gather) (i m : Nat), p.gathers[g]? = some G → G.children[i]? = some (.spawner m) →
          ∃ r : Req, p.reqs[m]? = some r ∧ (r.outcome = none → (g, i) ∈ r.doneCbs)
  cmp : ∀ (g : Nat) (G : Gather), p.gathers[g]? = some G → G.retExc = true → G.outer.isSome = true →
          G.children.length ≤ G.nfinished

/-- `OKs.out` (`Inv/Tame.lean`) of every task of the pool -/
def OutFin (p : Pool) : Prop := ∀ (t : Nat) (k : PTask), p.tasks[t]? = some k → k.outcome.isSome = true → k.phase = .finished

theorem Good.outFin {cap : Cap} {L R : Bool} {p : Pool} (h : Good cap L R p) : OutFin p :=
  fun t k hk ho => (h.life t k hk).out ho

theorem gv_fields {p q : Pool} (h : gv q = gv p) : q.gathers = p.gathers ∧ q.pot = p.pot ∧ q.dcb = p.dcb ∧ q.rcb = p.rcb := by
  simp only [gv, GV.mk.injEq] at h; exact h

theorem dcb_eq (p : Pool) (t : Nat) (k : PTask) (h : p.tasks[t]? = some k) : p.dcb t = k.doneCbs := by
  simp [dcb, h]

theorem rcb_eq (p : Pool) (m : Nat) (r : Req) (h : p.reqs[m]? = some r) : p.rcb m = r.doneCbs := by
  simp [rcb, h]

/-- the record of child `c` exists and, as long as the child has not finished, carries the registration of slot `gi`:
the clauses `reg` and `regS` of `PInv` for either kind of child -/
def Held (p : Pool) (gi : Nat × Nat) : Child → Prop
  | .task t => ∃ k : PTask, p.tasks[t]? = some k ∧ (k.phase ≠ .finished → gi ∈ k.doneCbs)
  | .spawner m => ∃ r : Req, p.reqs[m]? = some r ∧ (r.outcome = none → gi ∈ r.doneCbs)

/-- the slots registered on a child -/
def cbs (p : Pool) : Child → List (Nat × Nat)
  | .task t => p.dcb t
  | .spawner m => p.rcb m

/-- what `PInv` asks of one gather `G` (index `g`, slot weights `w`), the registration clause of the slots in `S` only -/
structure GOk (S : Nat → Prop) (w : Nat → Nat) (p : Pool) (g : Nat) (G : Gather) : Prop where
  cnt : G.nfinished + rsum G.children.length w = G.children.length
  reg : ∀ (i : Nat) (c : Child), G.children[i]? = some c → S i → Held p (g, i) c
  fin : G.children.length ≤ G.nfinished → G.outer.isSome = true
  cmp : G.retExc = true → G.outer.isSome = true → G.children.length ≤ G.nfinished

/-- `PInv` with `reg`, `regS` asked of the slots in `S` only: what holds while `gather()` is still scanning its children
(the slots not yet scanned are not registered yet); `own`: `ownT` and `ownS` -/
structure PInvOn (S : Nat → Nat → Prop) (R : Nat × Nat → Nat) (p : Pool) : Prop where
  dom : ∀ (g i : Nat), 0 < W R p (g, i) → ∃ G : Gather, p.gathers[g]? = some G ∧ i < G.children.length
  own : ∀ (c : Child) (g i : Nat), (g, i) ∈ p.cbs c → ∃ G : Gather, p.gathers[g]? = some G ∧ G.children[i]? = some c
  ok : ∀ (g : Nat) (G : Gather), p.gathers[g]? = some G → GOk (S g) (fun i => W R p (g, i)) p g G

theorem PInv.on {R} {p : Pool} (h : PInv R p) : PInvOn (fun _ _ => True) R p :=
  ⟨h.dom, fun c g i => match c with | .task t => h.ownT t g i | .spawner m => h.ownS m g i,
    fun g G hG => ⟨h.cnt g G hG, fun i c => match c with
      | .task t => fun hc _ => h.reg g G i t hG hc
      | .spawner m => fun hc _ => h.regS g G i m hG hc, h.fin g G hG, h.cmp g G hG⟩⟩

theorem PInvOn.pinv {S R} {p : Pool} (h : PInvOn S R p)
    (hS : ∀ (g : Nat) (G : Gather) (i : Nat), p.gathers[g]? = some G → i < G.children.length → S g i) : PInv R p :=
  ⟨h.dom, fun g G hG => (h.ok g G hG).cnt,
    fun g G i _ hG hc => (h.ok g G hG).reg i _ hc (hS g G i hG (lt_of_getElem?_some hc)),
    fun g G hG => (h.ok g G hG).fin, fun t => h.own (.task t), fun m => h.own (.spawner m),
    fun g G i _ hG hc => (h.ok g G hG).reg i _ hc (hS g G i hG (lt_of_getElem?_some hc)),
    fun g G hG => (h.ok g G hG).cmp⟩

theorem PInvOn.widen {S S' R} {p : Pool} (h : PInvOn S R p) (g j : Nat) (hS : ∀ g0 i, S' g0 i → S g0 i ∨ (g0 = g ∧ i = j))
    (G : Gather) (c : Child) (hG : p.gathers[g]? = some G) (hc : G.children[j]? = some c) (hH : Held p (g, j) c) :
    PInvOn S' R p := by
  refine ⟨h.dom, h.own, fun g0 G0 hG0 =>
    ⟨(h.ok g0 G0 hG0).cnt, fun i c0 hc0 s => ?_, (h.ok g0 G0 hG0).fin, (h.ok g0 G0 hG0).cmp⟩⟩
  rcases hS g0 i s with s | ⟨rfl, rfl⟩
  · exact (h.ok g0 G0 hG0).reg i c0 hc0 s
  · cases Option.some.inj (hG.symm.trans hG0)
    cases Option.some.inj (hc.symm.trans hc0)
    exact hH

theorem mem_dcb {p : Pool} {t : Nat} {x : Nat × Nat} (h : x ∈ p.dcb t) : ∃ k, p.tasks[t]? = some k ∧ x ∈ k.doneCbs := by
  unfold dcb at h
  cases hk : p.tasks[t]? with
  | none => rw [hk] at h; cases h
  | some k => rw [hk] at h; exact ⟨k, rfl, h⟩

theorem mem_rcb {p : Pool} {m : Nat} {x : Nat × Nat} (h : x ∈ p.rcb m) : ∃ r, p.reqs[m]? = some r ∧ x ∈ r.doneCbs := by
  unfold rcb at h
  cases hr : p.reqs[m]? with
  | none => rw [hr] at h; cases h
  | some r => rw [hr] at h; exact ⟨r, rfl, h⟩

theorem PInvOn.transport {S R R'} {p q : Pool} (h : PInvOn S R p) (hg : q.gathers = p.gathers) (hW : W R' q = W R p)
    (hH : ∀ gi c, Held p gi c → Held q gi c)
    (ho : ∀ (c : Child) (g i : Nat), (g, i) ∈ q.cbs c →
      (g, i) ∈ p.cbs c ∨ ∃ G : Gather, p.gathers[g]? = some G ∧ G.children[i]? = some c) : PInvOn S R' q := by
  refine ⟨?_, fun c g i hm => ?_, fun g G hG => ?_⟩
  · rw [hW, hg]; exact h.dom
  · rw [hg]; exact (ho c g i hm).elim (h.own c g i) id
  · have o := h.ok g G (hg ▸ hG)
    exact ⟨hW ▸ o.cnt, fun i c hc s => hH _ c (o.reg i c hc s), o.fin, o.cmp⟩

theorem PInvOn.frame_of {S R} {p q : Pool} (h : PInvOn S R p) (hgv : gv q = gv p) (htl : p.tasks.length ≤ q.tasks.length)
    (hfin : ∀ (t : Nat) (tk : PTask), p.tasks[t]? = some tk → tk.phase = .finished →
      ∃ tk', q.tasks[t]? = some tk' ∧ tk'.phase = .finished)
    (hrq : ∀ (m : Nat) (r : Req), p.reqs[m]? = some r →
      ∃ r', q.reqs[m]? = some r' ∧ (r.outcome.isSome = true → r'.outcome.isSome = true)) : PInvOn S R q := by
  obtain ⟨hg, hp, hd, hrc⟩ := gv_fields hgv
  refine h.transport hg (congrArg (fun f gi => R gi + f gi) hp) (fun gi c => ?_) fun c g i hm => Or.inl ?_
  · cases c with
    | task t =>
      rintro ⟨k, hk, hr⟩
      have hlt : t < q.tasks.length := Nat.lt_of_lt_of_le (lt_of_getElem?_some hk) htl
      have hk' : q.tasks[t]? = some q.tasks[t] := List.getElem?_eq_getElem hlt
      refine ⟨_, hk', fun hnf => ?_⟩
      rw [← dcb_eq q t _ hk', hd, dcb_eq p t k hk]
      refine hr fun hf => hnf ?_
      obtain ⟨k'', a, b⟩ := hfin t k hk hf
      exact Option.some.inj (hk'.symm.trans a) ▸ b
    | spawner m =>
      rintro ⟨r, hr, hreg⟩
      obtain ⟨r', hr', hout⟩ := hrq m r hr
      refine ⟨r', hr', fun hn => ?_⟩
      rw [← rcb_eq q m r' hr', hrc, rcb_eq p m r hr]
      refine hreg (Option.not_isSome_iff_eq_none.mp fun hs => ?_)
      have := hout hs
      rw [hn] at this
      cases this
  · cases c with
    | task t => exact (hd ▸ hm : (g, i) ∈ p.dcb t)
    | spawner m => exact (hrc ▸ hm : (g, i) ∈ p.rcb m)

/-- every step outside the gather family keeps the invariant -/
theorem PInvOn.frame {S R} {p q : Pool} (h : PInvOn S R p) (hgv : gv q = gv p) (hm : Mono p q) : PInvOn S R q :=
  h.frame_of hgv hm.tl hm.fin fun m r hr => (hm.rq m r hr).imp fun _ x => ⟨x.1, x.2.2.2.2⟩

theorem PInv.frame {R} {p q : Pool} (h : PInv R p) (hgv : gv q = gv p) (hm : Mono p q) : PInv R q :=
  (h.on.frame hgv hm).pinv fun _ _ _ _ _ => trivial

/-- moving the handles queued during a step to the loop's ready queue -/
theorem PInv.drain {R} {p : Pool} (h : PInv R p) :
    PInv (fun gi => R gi + p.emit.countP (isCb gi)) ({ p with emit := [] } : Pool) := by
  have hW : W (fun gi => R gi + p.emit.countP (isCb gi)) ({ p with emit := [] } : Pool) = W R p := by
    funext gi; simp only [W, pot, List.countP_nil]; omega
  exact ⟨hW ▸ h.dom, hW ▸ h.cnt, h.reg, h.fin, h.ownT, h.ownS, h.regS, h.cmp⟩

theorem regSum_pos {α} (o : α → Option Outcome) (c : α → List (Nat × Nat)) (l : List α) (t : Nat) (k : α)
    (hk : l[t]? = some k) (ho : o k = none) (gi : Nat × Nat) (hm : gi ∈ c k) :
    1 ≤ (l.map fun x => regOf gi (o x) (c x)).sum := by
  refine Nat.le_trans ?_ (mem_le_sum _ _ (List.mem_map.mpr ⟨k, List.mem_of_getElem? hk, rfl⟩))
  rw [regOf, ho]
  exact List.count_pos_iff.mpr hm

theorem pot_ge_reg (p : Pool) (t : Nat) (k : PTask) (hk : p.tasks[t]? = some k) (ho : k.outcome = none)
    (gi : Nat × Nat) (hm : gi ∈ k.doneCbs) : 1 ≤ p.pot gi :=
  Nat.le_trans (regSum_pos PTask.outcome PTask.doneCbs p.tasks t k hk ho gi hm)
    (Nat.le_trans (Nat.le_add_left _ _) (Nat.le_add_right _ _))

theorem pot_ge_regS (p : Pool) (m : Nat) (r : Req) (hr : p.reqs[m]? = some r) (ho : r.outcome = none)
    (gi : Nat × Nat) (hm : gi ∈ r.doneCbs) : 1 ≤ p.pot gi :=
  Nat.le_trans (regSum_pos Req.outcome Req.doneCbs p.reqs m r hr ho gi hm) (Nat.le_add_left _ _)

theorem PInvOn.room {S R} {p : Pool} (h : PInvOn S R p) {g i : Nat} {G : Gather} (hG : p.gathers[g]? = some G)
    (hw : 0 < W R p (g, i)) : G.nfinished + 1 ≤ G.children.length := by
  obtain ⟨G', hG', hi⟩ := h.dom g i hw
  cases Option.some.inj (hG.symm.trans hG')
  exact Nat.le_trans (Nat.add_le_add_left (Nat.le_trans hw (rsum_ge_one _ (fun i => W R p (g, i)) i hi)) _) (Nat.le_of_eq (h.ok g G hG).cnt)

/-- the counting argument: if all but one slot have been run and a handle of the remaining slot is in the ready
queue, every child task (whose slot is in `S`) has finished: an unfinished one would carry a second outstanding slot -/
theorem PInvOn.all_finished {S R} {p : Pool} (h : PInvOn S R p) (ho : OutFin p) (g : Nat) (G : Gather)
    (hG : p.gathers[g]? = some G) (i : Nat) (hR : 0 < R (g, i)) (hn : G.children.length ≤ G.nfinished + 1)
    (j t : Nat) (hS : S g j) (hj : G.children[j]? = some (.task t)) :
    ∃ k : PTask, p.tasks[t]? = some k ∧ k.phase = .finished := by
  obtain ⟨k, hk, hr⟩ := (h.ok g G hG).reg j (.task t) hj hS
  refine ⟨k, hk, Classical.byContradiction fun hnf => ?_⟩
  have hp := pot_ge_reg p t k hk (Option.not_isSome_iff_eq_none.mp fun hs => hnf (ho t k hk hs)) (g, j) (hr hnf)
  obtain ⟨G', hG', hi⟩ := h.dom g i (Nat.lt_of_lt_of_le hR (Nat.le_add_right _ _))
  cases Option.some.inj (hG.symm.trans hG')
  have hs : rsum G.children.length (fun i => W R p (g, i)) ≤ 1 :=
    Nat.le_of_add_le_add_left (Nat.le_trans (Nat.le_of_eq (h.ok g G hG).cnt) hn)
  cases rsum_unique _ (fun i => W R p (g, i)) i j hi (lt_of_getElem?_some hj) hs (Nat.lt_of_lt_of_le hR (Nat.le_add_right _ _))
    (Nat.lt_of_lt_of_le hp (Nat.le_add_left _ _))
  exact absurd (Nat.le_trans (Nat.add_le_add hR hp) (Nat.le_trans (rsum_ge_one _ (fun i => W R p (g, i)) i hi) hs))
    (by decide)

theorem PInv.all_finished {R} {p : Pool} (h : PInv R p) (ho : OutFin p) (g : Nat) (G : Gather) (hG : p.gathers[g]? = some G)
    (i : Nat) (hR : 0 < R (g, i)) (hn : G.children.length ≤ G.nfinished + 1) :
    ∀ (j t : Nat), G.children[j]? = some (.task t) → ∃ k : PTask, p.tasks[t]? = some k ∧ k.phase = .finished :=
  fun j t hj => h.on.all_finished ho g G hG i hR hn j t trivial hj

theorem modGather_children (p : Pool) (g : Nat) (f : Gather → Gather) (hc : ∀ G, (f G).children = G.children)
    (g0 : Nat) (G : Gather) (hG : p.gathers[g0]? = some G) :
    ∃ G' : Gather, (p.modGather g f).gathers[g0]? = some G' ∧ G'.children = G.children := by
  refine ⟨if g = g0 then f G else G, ?_, ?_⟩
  · exact getElem?_modify_of hG g f
  · split
    · exact hc G
    · rfl

/-- one handle of slot `(g, i)` leaves the ready queue -/
def decAt (R : Nat × Nat → Nat) (g i : Nat) : Nat × Nat → Nat := fun gi => if gi = (g, i) then R gi - 1 else R gi

theorem decAt_le (R) (g i gi) : decAt R g i gi ≤ R gi := by
  unfold decAt; split <;> omega

theorem decAt_ne (R) (g i : Nat) (gi : Nat × Nat) (h : gi ≠ (g, i)) : decAt R g i gi = R gi := if_neg h

theorem decAt_self (R) (g i : Nat) (h : 0 < R (g, i)) : decAt R g i (g, i) + 1 = R (g, i) :=
  (congrArg (· + 1) (if_pos rfl)).trans (Nat.sub_add_cancel h)

theorem decAt_of {R R' : Nat × Nat → Nat} {g i : Nat} (h : ∀ gi, R gi = R' gi + if (g, i) = gi then 1 else 0) :
    R' = decAt R g i := by
  funext gi
  unfold decAt
  by_cases e : gi = (g, i)
  · rw [if_pos e, h gi, if_pos e.symm]; rfl
  · rw [if_neg e, h gi, if_neg fun x => e x.symm]; rfl

theorem all_childFinished (p : Pool) (G : Gather)
    (h : ∀ (j t : Nat), G.children[j]? = some (.task t) → ∃ k : PTask, p.tasks[t]? = some k ∧ k.phase = .finished) :
    G.children.all p.childFinished = true := by
  rw [List.all_eq_true]
  intro c hc
  obtain ⟨j, hj, hjc⟩ := List.getElem_of_mem hc
  cases c with
  | spawner m => rfl
  | task t =>
    obtain ⟨k, hk, hf⟩ := h j t (by rw [List.getElem?_eq_getElem hj, hjc])
    simp [childFinished, hk, hf]

/-- what `_done_callback` does to the record `G` of its gather: one more child is counted, and the outer future is
completed when the count becomes complete — that of a collecting gather only then -/
structure Counted (G : Gather) (F : Gather → Gather) : Prop where
  children : ∀ G, (F G).children = G.children
  nfinished : (F G).nfinished = G.nfinished + 1
  outer : G.children.length ≤ G.nfinished + 1 → (F G).outer.isSome = true
  retExc : (F G).retExc = G.retExc
  cmp : G.retExc = true → (F G).outer.isSome = true → G.outer.isSome = true ∨ G.nfinished + 1 = G.children.length

/-- `_done_callback` is an update of the gather's own record (`viaHandle`: plus the wake-up of the owner when the outer
future is completed); the defensive test does not fail if all children have finished when the count becomes complete -/
theorem gatherChildDone_eq (q : Pool) (g j : Nat) (v : Bool) (G : Gather) (c : Child) (hG : q.gathers[g]? = some G)
    (hc : G.children[j]? = some c) (hlt : G.nfinished + 1 ≤ G.children.length)
    (hall : G.nfinished + 1 = G.children.length → G.children.all q.childFinished = true) :
    ∃ F : Gather → Gather,
      (q.gatherChildDone g j v = q.modGather g F ∨
        (v = true ∧ q.gatherChildDone g j v = (q.modGather g F).schedApi G.owner)) ∧ Counted G F := by
  have e : ∀ f1 f2 : Gather → Gather, (q.modGather g f1).modGather g f2 = q.modGather g (f2 ∘ f1) := fun f1 f2 =>
    congrArg (fun l => ({ q with gathers := l } : Pool)) (List.modify_modify_eq f1 f2 g q.gathers)
  generalize hq : q.gatherChildDone g j v = q'
  unfold gatherChildDone at hq
  simp only [hG, hc] at hq
  by_cases hs : G.outer.isSome = true
  · rw [if_pos hs] at hq
    exact ⟨fun x => { x with nfinished := x.nfinished + 1 }, Or.inl hq.symm, fun _ => rfl, rfl, fun _ => hs, rfl,
      fun _ ho => Or.inl ho⟩
  rw [if_neg hs] at hq
  cases hv : gatherVerdict G (q.childOutcome c) with
  | none =>
    simp only [hv] at hq
    refine ⟨fun x => { x with nfinished := x.nfinished + 1 }, Or.inl hq.symm, fun _ => rfl, rfl, fun hl => ?_, rfl,
      fun _ ho => Or.inl ho⟩
    exact absurd (Nat.le_antisymm hlt hl) (verdict_none_count G _ hv)
  | some o =>
    simp only [hv] at hq
    by_cases hdef : (o == Outcome.ok && !G.children.all q.childFinished) = true
    · rw [Bool.and_eq_true, Bool.not_eq_true', beq_iff_eq] at hdef
      obtain ⟨rfl, hf⟩ := hdef
      rw [hall (verdict_ok_count G _ hv)] at hf
      cases hf
    · rw [if_neg hdef, e] at hq
      refine ⟨fun x => { x with nfinished := x.nfinished + 1, outer := some o }, ?_, fun _ => rfl, rfl, fun _ => rfl, rfl,
        fun hre _ => Or.inr (verdict_retExc_count G _ o hre hv)⟩
      cases v
      · exact Or.inl hq.symm
      · exact Or.inr ⟨rfl, hq.symm⟩

theorem gatherChildDone_false (q : Pool) (g j : Nat) (G : Gather) (c : Child) (hG : q.gathers[g]? = some G)
    (hc : G.children[j]? = some c) (hlt : G.nfinished + 1 ≤ G.children.length)
    (hall : G.nfinished + 1 = G.children.length → G.children.all q.childFinished = true) :
    ∃ F : Gather → Gather, q.gatherChildDone g j false = q.modGather g F ∧ (∀ G, (F G).children = G.children) ∧
      (F G).nfinished = G.nfinished + 1 ∧ (G.children.length ≤ G.nfinished + 1 → (F G).outer.isSome = true) := by
  obtain ⟨F, a | ⟨hv, _⟩, b, c', d, _⟩ := gatherChildDone_eq q g j false G c hG hc hlt hall
  · exact ⟨F, a, b, c', d⟩
  · cases hv

theorem PInvOn.childDone {S R} {p : Pool} (h : PInvOn S R p) (g i : Nat) (G : Gather) (hG : p.gathers[g]? = some G)
    (hi : i < G.children.length) (hR : 0 < R (g, i)) (F : Gather → Gather) (hF : Counted G F) :
    PInvOn S (decAt R g i) (p.modGather g F) := by
  have hdec : rsum G.children.length (fun j => W (decAt R g i) p (g, j)) + 1
      = rsum G.children.length (fun j => W R p (g, j)) := by
    refine rsum_dec _ _ _ i hi ?_ fun j hj => ?_
    · exact (Nat.add_right_comm ..).trans (congrArg (· + p.pot (g, i)) (decAt_self R g i hR))
    · exact congrArg (· + p.pot (g, j)) (decAt_ne R g i (g, j) fun e => hj (Prod.mk.inj e).2)
  have hown : ∀ (g0 j : Nat) (c : Child), (∃ G : Gather, p.gathers[g0]? = some G ∧ G.children[j]? = some c) →
      ∃ G : Gather, (p.modGather g F).gathers[g0]? = some G ∧ G.children[j]? = some c := by
    rintro g0 j c ⟨G1, hG1, hj⟩
    obtain ⟨G', a, b⟩ := modGather_children p g F hF.children g0 G1 hG1
    exact ⟨G', a, b ▸ hj⟩
  refine ⟨fun g0 j hp => ?_, fun c g0 j hm => hown g0 j c (h.own c g0 j hm), fun g0 G' hG' => ?_⟩
  · obtain ⟨G1, hG1, hj⟩ := h.dom g0 j (Nat.lt_of_lt_of_le hp (Nat.add_le_add_right (decAt_le R g i (g0, j)) _))
    obtain ⟨G', a, b⟩ := modGather_children p g F hF.children g0 G1 hG1
    exact ⟨G', a, b ▸ hj⟩
  · rcases getElem?_modify_split (l := p.gathers) hG' with ⟨rfl, G1, hG1, rfl⟩ | ⟨hne, hG1⟩
    · cases Option.some.inj (hG.symm.trans hG1)
      have o := h.ok _ G hG
      refine ⟨?_, fun j c hch => o.reg j c (hF.children G ▸ hch), fun hn => hF.outer (hF.nfinished ▸ hF.children G ▸ hn),
        fun hre hout => ?_⟩
      · rw [hF.children, hF.nfinished, Nat.add_right_comm, Nat.add_assoc]
        exact (congrArg (G.nfinished + ·) hdec).trans o.cnt
      · rw [hF.children, hF.nfinished]
        rcases hF.cmp (hF.retExc ▸ hre) hout with hs | hn
        · exact Nat.le_succ_of_le (o.cmp (hF.retExc ▸ hre) hs)
        · exact Nat.le_of_eq hn.symm
    · have o := h.ok g0 G' hG1
      exact ⟨(congrArg (G'.nfinished + ·) (rsum_congr _ _ _ fun j _ =>
        congrArg (· + p.pot (g0, j)) (decAt_ne R g i (g0, j) fun e => hne (Prod.mk.inj e).1))).trans o.cnt, o.reg, o.fin, o.cmp⟩

/-- the callback of slot `(g, i)` is called, a handle of the slot being in `R`: by the loop, which runs the handle, or by
`gather()` on a child that is done when it is scanned (the slot counts as queued until then, `pend`).  The defensive test
does not fail (`PInvOn.all_finished`; `hS`: when this call completes the count, every slot of the gather is in `S`).  The
gathers keep their children. -/
theorem PInvOn.called {S R} {p : Pool} (h : PInvOn S R p) (ho : OutFin p) (g i : Nat) (v : Bool) (hR : 0 < R (g, i))
    (hS : ∀ G : Gather, p.gathers[g]? = some G → G.nfinished + 1 = G.children.length → ∀ j, j < G.children.length → S g j) :
    PInvOn S (decAt R g i) (p.gatherChildDone g i v) ∧ ∀ (g0 : Nat) (G0 : Gather), p.gathers[g0]? = some G0 →
      ∃ G' : Gather, (p.gatherChildDone g i v).gathers[g0]? = some G' ∧ G'.children = G0.children := by
  have hw : 0 < W R p (g, i) := Nat.lt_of_lt_of_le hR (Nat.le_add_right _ _)
  obtain ⟨G, hG, hi⟩ := h.dom g i hw
  obtain ⟨F, hF, hC⟩ := gatherChildDone_eq p g i v G _ hG (List.getElem?_eq_getElem hi)
    (h.room hG hw) fun hn => all_childFinished p G fun j t hj =>
      h.all_finished ho g G hG i hR (Nat.le_of_eq hn.symm) j t (hS G hG hn j (lt_of_getElem?_some hj)) hj
  have h1 := h.childDone g i G hG hi hR F hC
  rcases hF with e | ⟨_, e⟩
  · rw [e]; exact ⟨h1, modGather_children p g F hC.children⟩
  · rw [e]
    -- the owner's wake-up is no gather callback
    exact ⟨h1.frame (gv_schedApi _ _) (tame_schedApi _ _).mono, modGather_children p g F hC.children⟩

theorem PInv.gchild {R} {p : Pool} (h : PInv R p) (ho : OutFin p) (g i : Nat) (hR : 0 < R (g, i)) :
    PInv (decAt R g i) (p.gatherChildDone g i true) :=
  (h.on.called ho g i true hR fun _ _ _ _ _ => trivial).1.pinv fun _ _ _ _ _ => trivial

theorem regSum_register {α} (o : α → Option Outcome) (c : α → List (Nat × Nat)) (l : List α) (t : Nat) (f : α → α) (k : α)
    (hk : l[t]? = some k) (ho : o k = none) (x : Nat × Nat) (hfo : o (f k) = o k) (hfc : c (f k) = c k ++ [x])
    (gi : Nat × Nat) :
    ((l.modify t f).map fun y => regOf gi (o y) (c y)).sum
      = (l.map fun y => regOf gi (o y) (c y)).sum + if x = gi then 1 else 0 := by
  have hs := sum_map_modify l t f (fun y => regOf gi (o y) (c y)) k hk
  have e : regOf gi (o (f k)) (c (f k)) = regOf gi (o k) (c k) + if x = gi then 1 else 0 := by
    rw [hfo, hfc, ho]
    simp only [regOf, Option.isNone_none, if_true, List.count_append, List.count_singleton, beq_iff_eq]
  omega

theorem pot_registerChild (p : Pool) (c : Child) (g j : Nat)
    (hT : ∀ t, c = .task t → t < p.tasks.length) (hS : ∀ m, c = .spawner m → m < p.reqs.length)
    (hno : p.childOutcome c = none) (gi : Nat × Nat) :
    (p.registerChild c g j).pot gi = p.pot gi + if (g, j) = gi then 1 else 0 := by
  cases c with
  | task t =>
    have hk := List.getElem?_eq_getElem (hT t rfl)
    have := regSum_register PTask.outcome PTask.doneCbs p.tasks t (fun k => { k with doneCbs := k.doneCbs ++ [(g, j)] }) _ hk
      (by simpa only [childOutcome, hk] using hno) (g, j) rfl rfl gi
    show _ + ((p.tasks.modify t _).map _).sum + _ = _
    rw [this, ← Nat.add_assoc, Nat.add_right_comm]
    rfl
  | spawner m =>
    have hk := List.getElem?_eq_getElem (hS m rfl)
    have := regSum_register Req.outcome Req.doneCbs p.reqs m (fun k => { k with doneCbs := k.doneCbs ++ [(g, j)] }) _ hk
      (by simpa only [childOutcome, hk] using hno) (g, j) rfl rfl gi
    show _ + _ + ((p.reqs.modify m _).map _).sum = _
    rw [this, ← Nat.add_assoc]
    rfl

theorem mem_modify_append {α β} (c : α → List β) {l : List α} {t i : Nat} {f : α → α} {x : β}
    (hf : ∀ k, c (f k) = c k ++ [x]) {k' : α} (hk' : (l.modify t f)[i]? = some k') {y : β} (hy : y ∈ c k') :
    (∃ k, l[i]? = some k ∧ y ∈ c k) ∨ (y = x ∧ t = i) := by
  rcases getElem?_modify_split hk' with ⟨e, k, hk, rfl⟩ | ⟨_, hk⟩
  · rw [hf, List.mem_append, List.mem_singleton] at hy
    exact hy.imp (fun a => ⟨k, e ▸ hk, a⟩) fun a => ⟨a, e.symm⟩
  · exact Or.inl ⟨k', hk, hy⟩

/-- `gather()` registers slot `(g, j)` on its child `c`, which exists and has not completed: the slot, outstanding in
`R` before, is outstanding in the potential afterwards, and the registration clauses hold of it -/
theorem PInvOn.registerChild {S S' R R'} {p : Pool} (h : PInvOn S R p) (c : Child) (g j : Nat) (G : Gather)
    (hG : p.gathers[g]? = some G) (hc : G.children[j]? = some c)
    (hT : ∀ t, c = .task t → t < p.tasks.length) (hM : ∀ m, c = .spawner m → m < p.reqs.length)
    (hno : p.childOutcome c = none) (hR : ∀ gi, R gi = R' gi + if (g, j) = gi then 1 else 0)
    (hS : ∀ g0 i, S' g0 i → S g0 i ∨ (g0 = g ∧ i = j)) : PInvOn S' R' (p.registerChild c g j) := by
  have hW : W R' (p.registerChild c g j) = W R p := funext fun gi => by
    show R' gi + _ = R gi + _
    rw [pot_registerChild p c g j hT hM hno gi, hR gi, Nat.add_right_comm, Nat.add_assoc]
  cases c with
  | task t =>
    have hk := List.getElem?_eq_getElem (hT t rfl)
    refine (h.transport (q := p.modTask t fun k => { k with doneCbs := k.doneCbs ++ [(g, j)] }) rfl hW (fun gi c' => ?_)
      fun c' g0 i0 hm => ?_).widen g j hS G _ hG hc
      ⟨_, modify_get_self hk _, fun _ => List.mem_append_right _ (List.mem_singleton_self _)⟩
    · cases c' with
      | task i =>
        rintro ⟨k, hk, hr⟩
        exact ⟨_, getElem?_modify_of hk t _, ite_keeps (P := fun k' : PTask => k'.phase ≠ .finished → gi ∈ k'.doneCbs)
          (fun hnf => List.mem_append_left _ (hr hnf)) hr⟩
      | spawner _ => exact id
    · cases c' with
      | task i =>
        obtain ⟨k', hk', hx⟩ := mem_dcb hm
        rcases mem_modify_append PTask.doneCbs (fun _ => rfl) hk' hx with ⟨k, hk, a⟩ | ⟨a, e⟩
        · exact Or.inl (dcb_eq p i k hk ▸ a : (g0, i0) ∈ p.dcb i)
        · cases a; cases e; exact Or.inr ⟨G, hG, hc⟩
      | spawner _ => exact Or.inl hm
  | spawner m =>
    have hr := List.getElem?_eq_getElem (hM m rfl)
    refine (h.transport (q := p.modReq m fun r => { r with doneCbs := r.doneCbs ++ [(g, j)] }) rfl hW (fun gi c' => ?_)
      fun c' g0 i0 hm => ?_).widen g j hS G _ hG hc
      ⟨_, modify_get_self hr _, fun _ => List.mem_append_right _ (List.mem_singleton_self _)⟩
    · cases c' with
      | task _ => exact id
      | spawner i =>
        rintro ⟨r, hr, hreg⟩
        exact ⟨_, getElem?_modify_of hr m _, ite_keeps (P := fun r' : Req => r'.outcome = none → gi ∈ r'.doneCbs)
          (fun hn => List.mem_append_left _ (hreg hn)) hreg⟩
    · cases c' with
      | task _ => exact Or.inl hm
      | spawner i =>
        obtain ⟨r', hr', hx⟩ := mem_rcb hm
        rcases mem_modify_append Req.doneCbs (fun _ => rfl) hr' hx with ⟨r, hr, a⟩ | ⟨a, e⟩
        · exact Or.inl (rcb_eq p i r hr ▸ a : (g0, i0) ∈ p.rcb i)
        · cases a; cases e; exact Or.inr ⟨G, hG, hc⟩

/-- the slots `j ..` of gather `g` (which has `n`) have not been scanned yet: each counts as outstanding once -/
def pend (R : Nat × Nat → Nat) (g j n : Nat) : Nat × Nat → Nat :=
  fun gi => R gi + if gi.1 = g ∧ j ≤ gi.2 ∧ gi.2 < n then 1 else 0

theorem pend_pos (R) (g j n i : Nat) (h1 : j ≤ i) (h2 : i < n) : 0 < pend R g j n (g, i) :=
  Nat.lt_of_lt_of_le Nat.one_pos (Nat.le_trans (Nat.le_of_eq (if_pos ⟨rfl, h1, h2⟩).symm) (Nat.le_add_left _ _))

theorem pend_done (R) (g n : Nat) : pend R g n n = R := by
  funext gi
  unfold pend
  split <;> omega

theorem pend_succ (R) (g j n : Nat) (h : j < n) (gi : Nat × Nat) :
    pend R g j n gi = pend R g (j + 1) n gi + if (g, j) = gi then 1 else 0 := by
  unfold pend
  by_cases e : (g, j) = gi
  · subst e
    rw [if_pos ⟨rfl, Nat.le_refl j, h⟩, if_neg fun x => Nat.lt_irrefl j x.2.1, if_pos rfl]
  · rw [if_neg e]
    by_cases c : gi.1 = g ∧ j ≤ gi.2 ∧ gi.2 < n
    · rw [if_pos c, if_pos ⟨c.1, Nat.lt_of_le_of_ne c.2.1 fun x => e (Prod.ext c.1.symm x), c.2.2⟩]
    · rw [if_neg c, if_neg fun x => c ⟨x.1, Nat.le_of_succ_le x.2.1, x.2.2⟩]

/-- the state of a scan that has handled the first `j` children of gather `g` (children `cs`) -/
structure ScanInv (R : Nat × Nat → Nat) (g : Nat) (cs : List Child) (j : Nat) (q : Pool) : Prop where
  ofin : OutFin q
  gG : ∃ G : Gather, q.gathers[g]? = some G ∧ G.children = cs
  valid : ∀ (i t : Nat), cs[i]? = some (.task t) → t < q.tasks.length
  validS : ∀ (i m : Nat), cs[i]? = some (.spawner m) → m < q.reqs.length
  inv : PInvOn (fun g0 i => g0 = g → i < j) (pend R g j cs.length) q

theorem ScanInv.done {R g cs q} (h : ScanInv R g cs cs.length q) : PInv R q := by
  obtain ⟨G, hG, hcs⟩ := h.gG
  refine (pend_done R g cs.length ▸ h.inv).pinv fun g0 G0 i hG0 hi e => ?_
  subst e
  cases Option.some.inj (hG.symm.trans hG0)
  exact hcs ▸ hi

theorem OutFin.tame {p q : Pool} (h : OutFin p) (t : Tame p q) : OutFin q := by
  intro i k' hk' ho
  obtain ⟨k, hk, hs⟩ := t.soft i k' hk'
  have h1 : k'.phase = k.phase := congrArg SoftP.phase hs
  have h2 : k'.outcome.isSome = k.outcome.isSome := congrArg SoftP.hasOut hs
  rw [h1]; exact h i k hk (by rw [← h2]; exact ho)

theorem ScanInv.step {R g cs j q} (h : ScanInv R g cs j q) (c : Child) (hc : cs[j]? = some c) :
    ScanInv R g cs (j + 1)
      (if (q.childOutcome c).isSome then q.gatherChildDone g j false else q.registerChild c g j) := by
  obtain ⟨G, hG, rfl⟩ := h.gG
  have hjl : j < G.children.length := lt_of_getElem?_some hc
  have hS : ∀ g0 i, (g0 = g → i < j + 1) → (g0 = g → i < j) ∨ (g0 = g ∧ i = j) := fun g0 i s =>
    if e : g0 = g then (Nat.lt_succ_iff_lt_or_eq.mp (s e)).elim (fun a => Or.inl fun _ => a) (fun a => Or.inr ⟨e, a⟩)
    else Or.inl fun x => absurd x e
  -- what does not concern the gathers is kept by both branches
  have key : ∀ q', Tame q q' → (∃ G' : Gather, q'.gathers[g]? = some G' ∧ G'.children = G.children) →
      PInvOn (fun g0 i => g0 = g → i < j + 1) (pend R g (j + 1) G.children.length) q' →
      ScanInv R g G.children (j + 1) q' := fun q' ht hg hi =>
    ⟨h.ofin.tame ht, hg, fun i t hi => ht.len ▸ h.valid i t hi, fun i m hi => Nat.lt_of_lt_of_le (h.validS i m hi) ht.rql, hi⟩
  split
  · -- the child is done already: its slot counts as scanned (nothing is to be registered on a completed child), and its
    -- callback is called at once, as if a handle of the slot were run
    rename_i hdone
    have hR := pend_pos R g j G.children.length j (Nat.le_refl j) hjl
    have h1 := h.inv.widen g j hS G c hG hc (by
      cases c with
      | task t =>
        have hk := List.getElem?_eq_getElem (h.valid j t hc)
        exact ⟨_, hk, fun hnf => absurd (h.ofin t _ hk (by simpa only [childOutcome, hk] using hdone)) hnf⟩
      | spawner m =>
        have hr := List.getElem?_eq_getElem (h.validS j m hc)
        exact ⟨_, hr, fun hnone => by simp only [childOutcome, hr, hnone] at hdone; cases hdone⟩)
    obtain ⟨h2, hg2⟩ := h1.called h.ofin g j false hR fun G' hG' hn i hil _ => by
      -- the count becomes complete: slot `j` is the one outstanding slot, there is none behind it
      cases Option.some.inj (hG.symm.trans hG')
      exact Nat.lt_succ_of_le (Nat.le_of_not_lt fun hji => Nat.ne_of_gt hji
        (rsum_unique _ (fun i => W (pend R g j G.children.length) q (g, i)) i j hil hjl
          (Nat.le_of_eq (Nat.add_left_cancel ((h.inv.ok g G hG).cnt.trans hn.symm)))
          (Nat.lt_of_lt_of_le (pend_pos R g j _ i (Nat.le_of_lt hji) hil) (Nat.le_add_right _ _))
          (Nat.lt_of_lt_of_le hR (Nat.le_add_right _ _))))
    exact key _ (tame_gatherChildDone q g j false) (hg2 g G hG) (decAt_of (pend_succ R g j _ hjl) ▸ h2)
  · -- the child is pending: the callback slot is registered on it
    rename_i hpend
    exact key _ (tame_registerChild q c g j) ⟨G, by cases c <;> exact hG, rfl⟩
      (h.inv.registerChild c g j G hG hc (fun t e => h.valid j t (e ▸ hc)) (fun m e => h.validS j m (e ▸ hc))
        (Option.not_isSome_iff_eq_none.mp hpend) (pend_succ R g j _ hjl) hS)

theorem ScanInv.scan {R g cs} (rest : List Child) (j : Nat) (q : Pool)
    (hrest : ∀ (n : Nat) (c : Child), rest[n]? = some c → cs[j + n]? = some c) (hlen : j + rest.length = cs.length)
    (h : ScanInv R g cs j q) : ScanInv R g cs cs.length (gatherScan g rest j q) := by
  induction rest generalizing j q with
  | nil => exact (show j = cs.length from hlen) ▸ h
  | cons c rest ih =>
    unfold gatherScan
    refine ih (j + 1) _ (fun n c' hn => ?_) ?_ (h.step c (hrest 0 c rfl))
    · rw [Nat.add_assoc, Nat.add_comm 1 n]; exact hrest (n + 1) c' hn
    · rw [← hlen, List.length_cons]; omega

theorem ScanInv.init {R} {p : Pool} (h : PInv R p) (ho : OutFin p) (cs : List Child) (G0 : Gather) (amb : Bool)
    (hc : G0.children = cs) (hn : G0.nfinished = 0) (hout : cs = [] → G0.outer.isSome = true)
    (hout' : G0.retExc = true → G0.outer.isSome = true → cs = [])
    (hv : ∀ (i t : Nat), cs[i]? = some (.task t) → ∃ k : PTask, p.tasks[t]? = some k)
    (hvs : ∀ (i m : Nat), cs[i]? = some (.spawner m) → m < p.reqs.length) :
    ScanInv R p.gathers.length cs 0 ({ p with gathers := p.gathers ++ [G0], ambiguous := amb } : Pool) := by
  have hnew : (p.gathers ++ [G0])[p.gathers.length]? = some G0 := List.getElem?_concat_length
  have hzero : ∀ i, W R p (p.gathers.length, i) = 0 := fun i => Nat.eq_zero_of_not_pos fun hw => by
    obtain ⟨G, hG, _⟩ := h.dom p.gathers.length i hw
    rw [List.getElem?_eq_none (Nat.le_refl _)] at hG; cases hG
  have hW : ∀ g0 i, W (pend R p.gathers.length 0 cs.length)
      ({ p with gathers := p.gathers ++ [G0], ambiguous := amb } : Pool) (g0, i)
        = if g0 = p.gathers.length ∧ i < cs.length then 1 else W R p (g0, i) := fun g0 i => by
    unfold W pend
    by_cases e : g0 = p.gathers.length ∧ i < cs.length
    · rw [if_pos e, if_pos ⟨e.1, Nat.zero_le i, e.2⟩, Nat.add_right_comm, e.1]
      exact congrArg (· + 1) (hzero i)
    · rw [if_neg e, if_neg fun x => e ⟨x.1, x.2.2⟩]; rfl
  refine ⟨ho, ⟨G0, hnew, hc⟩, fun i t hi => let ⟨_, hk⟩ := hv i t hi; (lt_of_getElem?_some hk), hvs,
    ?_, ?_, fun g0 G hg => ?_⟩
  · intro g0 i hp
    rw [hW] at hp
    by_cases e : g0 = p.gathers.length ∧ i < cs.length
    · exact ⟨G0, e.1 ▸ hnew, hc ▸ e.2⟩
    · rw [if_neg e] at hp
      obtain ⟨G, hG, hi⟩ := h.dom g0 i hp
      exact ⟨G, getElem?_append_of hG _, hi⟩
  · intro c g0 i hm
    obtain ⟨G, hG, hi⟩ := h.on.own c g0 i hm
    exact ⟨G, getElem?_append_of hG _, hi⟩
  · rcases getElem?_append_one hg with hG | ⟨rfl, rfl⟩
    · refine ⟨?_, fun i c hch _ => (h.on.ok g0 G hG).reg i c hch trivial, h.fin g0 G hG, h.cmp g0 G hG⟩
      rw [rsum_congr _ _ _ fun i _ => (hW g0 i).trans
        (if_neg fun x => Nat.ne_of_lt (lt_of_getElem?_some hG) x.1)]
      exact h.cnt g0 G hG
    · refine ⟨?_, fun _ _ _ s => absurd (s rfl) (Nat.not_lt_zero _), fun hl => ?_, fun hre hout2 => ?_⟩
      · rw [hn, hc, rsum_const cs.length _ 1 fun i hi => (hW _ i).trans (if_pos ⟨rfl, hi⟩), Nat.mul_one, Nat.zero_add]
      · rw [hn, hc] at hl
        exact hout (List.eq_nil_of_length_eq_zero (Nat.le_zero.mp hl))
      · rw [hc, hout' hre hout2]; exact Nat.zero_le _

theorem PInv.gatherStart {R} {p : Pool} (h : PInv R p) (ho : OutFin p) (cs : List Child) (re : Bool) (owner n : Nat)
    (hv : ∀ (i t : Nat), cs[i]? = some (.task t) → ∃ k : PTask, p.tasks[t]? = some k)
    (hvs : ∀ (i m : Nat), cs[i]? = some (.spawner m) → m < p.reqs.length) :
    PInv R (p.gatherStart cs re owner n).1 := by
  unfold Pool.gatherStart
  have h0 := ScanInv.init h ho cs
    { children := cs, nfinished := 0, owner := owner, retExc := re, outer := (if cs.isEmpty then some .ok else none) }
    (p.ambiguous || (!re && decide ((p.failKinds (cs.take n)).length > 1))) rfl rfl (fun e => by simp [e])
    (fun _ ho' => by cases cs with | nil => rfl | cons a as => simp at ho') hv hvs
  exact (ScanInv.scan cs 0 _ (fun n c hn => by simpa using hn) (by simp) h0).done

end Pool
end Taskpool
