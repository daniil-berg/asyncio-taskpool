import Taskpool.Inv.QueueInv
/-! C20, bounded queues: the books of the producers in the accounting core `K`.

`K.POK` = every item that entered the queue was put by non-task code (`hputs`) or by a producer task that is through
its `put()` (`PPhase.done true`); a bounded queue never holds more than `maxsize` items; nobody waits in `put()` on an
unbounded queue.  Preserved by every guarded core operation (`KStep`); `maxsize` never changes; a producer that is
through `put()` — either way — is never touched again. -/
namespace Taskpool.QueueM

structure K.POK (k : K) : Prop where
  puts : k.puts = k.hputs + k.prods.countP Prod.putDone
  bnd  : k.maxsize = 0 ∨ k.items.length ≤ k.maxsize
  unb  : k.maxsize = 0 → ∀ p ∈ k.prods, p.phase ≠ .waiting

theorem K.pok_initN (n : Nat) : (K.initN n).POK := by
  refine ⟨by simp [K.initN], by simp [K.initN], by simp [K.initN]⟩

theorem K.room_of_not_full (k : K) (h : k.full = false) : k.maxsize = 0 ∨ k.items.length < k.maxsize := by
  simp only [K.full, Bool.and_eq_false_iff, decide_eq_false_iff_not] at h
  omega

theorem K.pos_of_full (k : K) (h : k.full = true) : 0 < k.maxsize ∧ k.maxsize ≤ k.items.length := by
  simpa [K.full] using h

theorem K.POK.of_le {k k' : K} (hp : k.POK) (h1 : k'.puts = k.puts) (h2 : k'.hputs = k.hputs) (h3 : k'.prods = k.prods)
    (h4 : k'.maxsize = k.maxsize) (h5 : k'.items.length ≤ k.items.length) : k'.POK := by
  obtain ⟨a, b, c⟩ := hp
  refine ⟨by rw [h1, h2, h3]; exact a, ?_, by rw [h3, h4]; exact c⟩
  rw [h4]; omega

theorem K.pframe_setPhase (k : K) (c : Nat) (p : CPhase) :
    (k.setPhase c p).puts = k.puts ∧ (k.setPhase c p).hputs = k.hputs ∧ (k.setPhase c p).prods = k.prods
      ∧ (k.setPhase c p).maxsize = k.maxsize ∧ (k.setPhase c p).items = k.items ∧ (k.setPhase c p).unfinished = k.unfinished :=
  ⟨rfl, rfl, rfl, rfl, rfl, rfl⟩

theorem K.pframe_taskDone (k : K) :
    k.taskDone.puts = k.puts ∧ k.taskDone.hputs = k.hputs ∧ k.taskDone.prods = k.prods ∧ k.taskDone.maxsize = k.maxsize
      ∧ k.taskDone.items = k.items := by
  rw [K.taskDone_eq]
  exact ⟨rfl, rfl, rfl, rfl, rfl⟩

theorem K.pframe_take (k : K) (c : Nat) :
    (k.take c).puts = k.puts ∧ (k.take c).hputs = k.hputs ∧ (k.take c).prods = k.prods ∧ (k.take c).maxsize = k.maxsize
      ∧ (k.take c).items.length ≤ k.items.length ∧ (k.take c).unfinished = k.unfinished := by
  rcases K.take_cases k c with ⟨_, e⟩ | ⟨x, rest, hit, e⟩ <;> rw [e]
  · exact ⟨rfl, rfl, rfl, rfl, Nat.le_refl _, rfl⟩
  · exact ⟨rfl, rfl, rfl, rfl, by rw [hit]; exact Nat.le_succ _, rfl⟩

theorem K.length_take (k : K) (c : Nat) : k.items.length ≤ (k.take c).items.length + 1 := by
  rcases K.take_cases k c with ⟨_, e⟩ | ⟨x, rest, hit, e⟩ <;> rw [e]
  · exact Nat.le_succ _
  · rw [hit]; exact Nat.le_refl _

theorem K.pframe_exit (k : K) (c : Nat) (e : Exit) :
    (k.exit c e).puts = k.puts ∧ (k.exit c e).hputs = k.hputs ∧ (k.exit c e).prods = k.prods
      ∧ (k.exit c e).maxsize = k.maxsize ∧ (k.exit c e).items = k.items := by
  rw [K.exit_eq]
  exact K.pframe_taskDone k

theorem K.pframe_handTake (k : K) :
    k.handTake.puts = k.puts ∧ k.handTake.hputs = k.hputs ∧ k.handTake.prods = k.prods ∧ k.handTake.maxsize = k.maxsize
      ∧ k.handTake.items.length ≤ k.items.length := by
  rcases K.handTake_cases k with ⟨_, e⟩ | ⟨x, rest, hit, e⟩ <;> rw [e]
  · exact ⟨rfl, rfl, rfl, rfl, Nat.le_refl _⟩
  · rw [K.taskDone_eq]
    exact ⟨rfl, rfl, rfl, rfl, by rw [hit]; exact Nat.le_succ _⟩

theorem K.length_handTake (k : K) : k.items.length ≤ k.handTake.items.length + 1 := by
  rcases K.handTake_cases k with ⟨_, e⟩ | ⟨x, rest, hit, e⟩ <;> rw [e]
  · exact Nat.le_succ _
  · rw [K.taskDone_eq, hit]; exact Nat.le_refl _

theorem K.pframe_stepJoiner (k : K) (j : Nat) :
    (k.stepJoiner j).puts = k.puts ∧ (k.stepJoiner j).hputs = k.hputs ∧ (k.stepJoiner j).prods = k.prods
      ∧ (k.stepJoiner j).maxsize = k.maxsize ∧ (k.stepJoiner j).items = k.items := by
  obtain ⟨W, f, e, _⟩ := K.stepJoiner_eq k j
  rw [e]
  exact ⟨rfl, rfl, rfl, rfl, rfl⟩

theorem prePut_not_putDone (p : Prod) (h : prePut p.phase = true) : p.putDone = false := by
  cases p with | mk it ph => cases ph <;> simp_all [Prod.putDone, putDone, prePut]

theorem prePut_not_done (p : Prod) (h : prePut p.phase = true) : isPDone p.phase = false := by
  cases p with | mk it ph => cases ph <;> simp_all [isPDone, prePut]

theorem K.countP_setPP (k : K) (j : Nat) (p : Prod) (ph : PPhase) (h : k.prods[j]? = some p) (hp : prePut p.phase = true) :
    (k.setPP j ph).prods.countP Prod.putDone = k.prods.countP Prod.putDone + (if putDone ph then 1 else 0) := by
  have h1 := countP_modify Prod.putDone (fun y => { y with phase := ph }) k.prods j p h
  have a := prePut_not_putDone p hp
  have e : Prod.putDone ((fun y : Prod => { y with phase := ph }) p) = putDone ph := rfl
  rw [e, a] at h1
  simp only [Bool.false_eq_true, if_false, Nat.add_zero] at h1
  exact h1

theorem K.pok_put (k : K) (x : Nat) (hf : k.full = false) (hp : k.POK) : (k.put x).POK := by
  obtain ⟨a, b, c⟩ := hp
  have := k.room_of_not_full hf
  refine ⟨?_, ?_, c⟩
  · simp only [K.put]; omega
  · simp only [K.put, List.length_append, List.length_singleton]; omega

theorem K.pok_produce (k : K) (x : Nat) (hp : k.POK) : (k.produce x).POK := by
  obtain ⟨a, b, c⟩ := hp
  refine ⟨?_, b, ?_⟩
  · simpa [K.produce, List.countP_append, Prod.putDone, putDone] using a
  · intro h0 p hm
    simp only [K.produce, List.mem_append, List.mem_singleton] at hm
    rcases hm with h | rfl
    · exact c h0 p h
    · simp

theorem K.pok_pwait (k : K) (j : Nat) (p : Prod) (h : k.prods[j]? = some p) (hpre : prePut p.phase = true)
    (hf : k.full = true) (hp : k.POK) : (k.pwait j).POK := by
  obtain ⟨a, b, c⟩ := hp
  have := k.pos_of_full hf
  refine ⟨?_, b, ?_⟩
  · rw [K.pwait, K.countP_setPP k j p _ h hpre]; simpa [putDone, K.setPP] using a
  · intro h0
    have h0' : k.maxsize = 0 := h0
    omega

theorem K.pok_pabort (k : K) (j : Nat) (p : Prod) (h : k.prods[j]? = some p) (hpre : prePut p.phase = true)
    (hp : k.POK) : (k.pabort j).POK := by
  obtain ⟨a, b, c⟩ := hp
  refine ⟨?_, b, ?_⟩
  · rw [K.pabort, K.countP_setPP k j p _ h hpre]; simpa [putDone, K.setPP] using a
  · intro h0 y hy
    rcases mem_modify hy with h' | ⟨z, _, rfl⟩
    · exact c h0 y h'
    · simp

theorem K.pput_eq (k : K) (j : Nat) (p : Prod) (h : k.prods[j]? = some p) :
    k.pput j = ({ k with items := k.items ++ [p.item], unfinished := k.unfinished + 1, finished := false,
                         puts := k.puts + 1 } : K).setPP j (.done true) := by
  unfold K.pput; rw [h]

theorem K.pok_pput (k : K) (j : Nat) (p : Prod) (h : k.prods[j]? = some p) (hpre : prePut p.phase = true)
    (hf : k.full = false) (hp : k.POK) : (k.pput j).POK := by
  obtain ⟨a, b, c⟩ := hp
  have hr := k.room_of_not_full hf
  rw [K.pput_eq k j p h]
  refine ⟨?_, ?_, ?_⟩
  · have hc := K.countP_setPP ({ k with items := k.items ++ [p.item], unfinished := k.unfinished + 1, finished := false,
                                          puts := k.puts + 1 } : K) j p (.done true) h hpre
    simp only [K.setPP, putDone, if_true] at hc ⊢
    omega
  · simp only [K.setPP, List.length_append, List.length_singleton]; omega
  · intro h0 y hy
    rcases mem_modify hy with h' | ⟨z, _, rfl⟩
    · exact c h0 y h'
    · simp

theorem KStep.pok {k k' : K} (h : KStep k k') (hp : k.POK) : k'.POK := by
  cases h with
  | refl => exact hp
  | put x hf => exact K.pok_put k x hf hp
  | spawn => exact hp.of_le rfl rfl rfl rfl (Nat.le_refl _)
  | join => exact hp.of_le rfl rfl rfl rfl (Nat.le_refl _)
  | wait c x _ _ => exact hp.of_le rfl rfl rfl rfl (Nat.le_refl _)
  | take c x _ _ =>
    obtain ⟨a, b, c', d, e, _⟩ := K.pframe_take k c
    exact hp.of_le a b c' d e
  | abort c x _ _ => exact hp.of_le rfl rfl rfl rfl (Nat.le_refl _)
  | exit c x e _ _ =>
    obtain ⟨a, b, c', d, e'⟩ := K.pframe_exit k c e
    exact hp.of_le a b c' d (by rw [e']; exact Nat.le_refl _)
  | stepJ j =>
    obtain ⟨a, b, c', d, e'⟩ := K.pframe_stepJoiner k j
    exact hp.of_le a b c' d (by rw [e']; exact Nat.le_refl _)
  | handTake =>
    obtain ⟨a, b, c', d, e'⟩ := K.pframe_handTake k
    exact hp.of_le a b c' d e'
  | produce x => exact K.pok_produce k x hp
  | pwait j p h hpre hf => exact K.pok_pwait k j p h hpre hf hp
  | pput j p h hpre hf => exact K.pok_pput k j p h hpre hf hp
  | pabort j p h hpre => exact K.pok_pabort k j p h hpre hp

theorem KStep.maxsize_eq {k k' : K} (h : KStep k k') : k'.maxsize = k.maxsize := by
  cases h with
  | refl => rfl
  | put x hf => rfl
  | spawn => rfl
  | join => rfl
  | wait c x _ _ => rfl
  | take c x _ _ => exact (K.pframe_take k c).2.2.2.1
  | abort c x _ _ => rfl
  | exit c x e _ _ => exact (K.pframe_exit k c e).2.2.2.1
  | stepJ j => exact (K.pframe_stepJoiner k j).2.2.2.1
  | handTake => exact (K.pframe_handTake k).2.2.2.1
  | produce x => rfl
  | pwait j p h hpre hf => rfl
  | pput j p h hpre hf => rw [K.pput_eq k j p h]; rfl
  | pabort j p h hpre => rfl

theorem KStep.prods_old {k k' : K} (h : KStep k k') :
    k'.prods = k.prods ∨ (∃ x, k'.prods = k.prods ++ [{ item := x, phase := .notStarted }])
      ∨ ∃ j p ph, k.prods[j]? = some p ∧ prePut p.phase = true ∧ k'.prods = k.prods.modify j fun y => { y with phase := ph } := by
  cases h with
  | refl => exact .inl rfl
  | put x hf => exact .inl rfl
  | spawn => exact .inl rfl
  | join => exact .inl rfl
  | wait c x _ _ => exact .inl rfl
  | take c x _ _ => exact .inl (K.pframe_take k c).2.2.1
  | abort c x _ _ => exact .inl rfl
  | exit c x e _ _ => exact .inl (K.pframe_exit k c e).2.2.1
  | stepJ j => exact .inl (K.pframe_stepJoiner k j).2.2.1
  | handTake => exact .inl (K.pframe_handTake k).2.2.1
  | produce x => exact .inr (.inl ⟨x, rfl⟩)
  | pwait j p h hpre hf => exact .inr (.inr ⟨j, p, _, h, hpre, rfl⟩)
  | pput j p h hpre hf => rw [K.pput_eq k j p h]; exact .inr (.inr ⟨j, p, _, h, hpre, rfl⟩)
  | pabort j p h hpre => exact .inr (.inr ⟨j, p, _, h, hpre, rfl⟩)

theorem KStep.prod_final {k k' : K} (h : KStep k k') (j : Nat) (p : Prod) (hj : k.prods[j]? = some p) :
    ∃ p', k'.prods[j]? = some p' ∧ p'.item = p.item ∧ (isPDone p.phase = true → p' = p) := by
  have hlt : j < k.prods.length := (List.getElem?_eq_some_iff.1 hj).1
  rcases h.prods_old with e | ⟨x, e⟩ | ⟨j0, p0, ph, h0, hpre, e⟩ <;> rw [e]
  · exact ⟨p, hj, rfl, fun _ => rfl⟩
  · exact ⟨p, by rw [List.getElem?_append_left hlt]; exact hj, rfl, fun _ => rfl⟩
  · by_cases hjj : j0 = j
    · subst hjj
      rw [hj] at h0; cases h0
      refine ⟨{ p with phase := ph }, by simp [hj], rfl, fun hd => ?_⟩
      rw [prePut_not_done p hpre] at hd; cases hd
    · exact ⟨p, by simp [hjj, hj], rfl, fun _ => rfl⟩

/-- the step that takes producer `j` through its `put()`: either its item entered the queue — the queue was not
full, the item is appended, `puts` and the unfinished counter go up by one — or it was cancelled and the step changed
neither the queue nor any counter -/
theorem KStep.producer_done {k k' : K} (h : KStep k k') (j : Nat) (p p' : Prod)
    (hp : k.prods[j]? = some p) (hpre : prePut p.phase = true) (hp' : k'.prods[j]? = some p') (hd : isPDone p'.phase = true) :
    (p'.phase = .done true ∧ k.full = false ∧ k'.items = k.items ++ [p.item] ∧ k'.puts = k.puts + 1
        ∧ k'.unfinished = k.unfinished + 1 ∧ k'.hputs = k.hputs)
    ∨ (p'.phase = .done false ∧ k'.items = k.items ∧ k'.puts = k.puts ∧ k'.unfinished = k.unfinished
        ∧ k'.hputs = k.hputs ∧ k'.tdCalls = k.tdCalls ∧ k'.finished = k.finished) := by
  have hnd := prePut_not_done p hpre
  have same : k'.prods[j]? = k.prods[j]? → False := fun e => by
    rw [e, hp] at hp'; cases hp'; rw [hnd] at hd; cases hd
  -- one producer changes phase: another one, or `j` into a phase that is not final
  have mod : ∀ j0 ph, k'.prods = k.prods.modify j0 (fun y => { y with phase := ph }) → (j0 = j → isPDone ph = false) → False := by
    intro j0 ph e hf
    rw [e] at hp'
    rcases getElem?_modify_split hp' with ⟨rfl, y, hy, rfl⟩ | ⟨_, h⟩
    · rw [hf rfl] at hd; cases hd
    · rw [hp] at h; cases h; rw [hnd] at hd; cases hd
  cases h with
  | refl => exact (same rfl).elim
  | put x hf => exact (same rfl).elim
  | spawn => exact (same rfl).elim
  | join => exact (same rfl).elim
  | wait c x _ _ => exact (same rfl).elim
  | take c x _ _ => exact (same (by rw [(K.pframe_take k c).2.2.1])).elim
  | abort c x _ _ => exact (same rfl).elim
  | exit c x e _ _ => exact (same (by rw [(K.pframe_exit k c e).2.2.1])).elim
  | stepJ j0 => exact (same (by rw [(K.pframe_stepJoiner k j0).2.2.1])).elim
  | handTake => exact (same (by rw [(K.pframe_handTake k).2.2.1])).elim
  | produce x => exact (same (List.getElem?_append_left (List.getElem?_eq_some_iff.1 hp).1)).elim
  | pwait j0 p0 h0 hpre0 hf => exact (mod j0 .waiting rfl fun _ => rfl).elim
  | pput j0 p0 h0 hpre0 hf =>
    by_cases hjj : j0 = j
    · subst hjj
      rw [hp] at h0; cases h0
      rw [K.pput_eq k j0 p hp] at hp' ⊢
      simp only [K.setPP, List.getElem?_modify, hp, Option.map_eq_map, Option.map_some, if_true, Option.some.injEq] at hp'
      subst hp'
      exact .inl ⟨rfl, hf, rfl, rfl, rfl, rfl⟩
    · exact (mod j0 (.done true) (by rw [K.pput_eq k j0 p0 h0]; rfl) fun e => absurd e hjj).elim
  | pabort j0 p0 h0 hpre0 =>
    by_cases hjj : j0 = j
    · subst hjj
      simp only [K.pabort, K.setPP, List.getElem?_modify, hp, Option.map_eq_map, Option.map_some, if_true,
        Option.some.injEq] at hp'
      subst hp'
      exact .inr ⟨rfl, rfl, rfl, rfl, rfl, rfl, rfl⟩
    · exact (mod j0 (.done false) rfl fun e => absurd e hjj).elim

end Taskpool.QueueM
