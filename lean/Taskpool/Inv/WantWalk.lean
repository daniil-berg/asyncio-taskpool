import Taskpool.Inv.Want
import Taskpool.Inv.ApiStages
import Taskpool.Inv.Waiters
/-! **Whoever has something to do is flagged — the walk.**  `Pool.WantOK` (`Inv/Want.lean`) is preserved by every step of
the pool machine.  The invariant speaks about one spawner at a time: what it says about request `m` it says about its record
and the states of its entries in the pool's queue and in its call's own (`SpOK x (ent p.sem.waiters m) m r`, `Inv/Waiters.lean`:
twice the same predicate `QOK`, once per semaphore; `WK.sp` reads it off, `wk_mk` puts `WK` together from it).  A step
rewrites the record and the entries of one spawner (`wk_modReq_sp`), or these and whether that spawner is exempt (`wk_at`);
what is left to show is `SpOK` of that spawner.  Here: this layer, and every function that can be called at any time (the
synchronous API, user-code hooks, gathers, background calls), for every exempt set `E`.  The wrapper of a pool task, the
spawners and the assembly: `Inv/WantWalk2.lean`. -/
namespace Taskpool

theorem owners_nil : owners [] = [] := rfl
theorem owners_cons (w : Waiter) (ws : List Waiter) : owners (w :: ws) = w.owner :: owners ws := rfl

theorem mem_owners {m : Nat} {ws : List Waiter} : m ∈ owners ws ↔ ∃ w ∈ ws, w.owner = m := by
  simp [owners]

theorem owners_wakeNextL (v : Cap) (ws : List Waiter) : owners (wakeNextL v ws).2.1 = owners ws := by
  induction ws with
  | nil => rfl
  | cons w ws ih =>
    unfold wakeNextL
    split
    · rfl
    · simp only [owners_cons, ih]

theorem owners_cancelWaiterL (m : Nat) (ws : List Waiter) : owners (cancelWaiterL m ws) = owners ws := by
  induction ws with
  | nil => rfl
  | cons w ws ih =>
    simp only [cancelWaiterL, List.map_cons, owners_cons] at ih ⊢
    rw [ih]
    split <;> rfl

theorem ent_length (ws : List Waiter) (i : Nat) : (ent ws i).length = (owners ws).count i := by
  induction ws with
  | nil => rfl
  | cons w ws ih =>
    rw [ent_cons, owners_cons, List.count_cons, ← ih]
    by_cases e : w.owner = i
    · rw [if_pos e, if_pos (beq_iff_eq.mpr e)]; rfl
    · rw [if_neg e, if_neg fun x => e (beq_iff_eq.mp x)]; rfl

theorem mem_owners_ent {ws : List Waiter} {i : Nat} : i ∈ owners ws ↔ ent ws i ≠ [] := by
  rw [← List.length_pos_iff, ent_length, List.count_pos_iff]

theorem ent_nil_of_not_mem {ws : List Waiter} {i : Nat} (h : i ∉ owners ws) : ent ws i = [] :=
  Classical.not_not.mp fun c => h (mem_owners_ent.mpr c)

theorem nodup_owners_ent {ws : List Waiter} : (owners ws).Nodup ↔ ∀ i, (ent ws i).length ≤ 1 := by
  rw [List.nodup_iff_count]
  exact forall_congr' fun i => by rw [ent_length]

theorem removeWaiterL_not_mem (m : Nat) (ws : List Waiter) (hn : (owners ws).Nodup) :
    m ∉ owners (removeWaiterL m ws).2 := fun c =>
  mem_owners_ent.mp c ((ent_remove ..).trans ((if_pos rfl).trans (tail_nil_of_length_le_one (nodup_owners_ent.mp hn m))))

namespace Pool

/-- `WantOK` as it is walked: in addition, the spawner whose handle is being run exists and its asyncio Task is not done -/
structure WK (E : Ref → Prop) (p : Pool) : Prop extends WantOK E p where
  alive : ∀ m, E (.spawner m) → ∃ r, p.reqs[m]? = some r ∧ r.outcome = none

theorem Want.wk {p : Pool} (h : Want p) : WK (fun _ => False) p := { h with alive := fun _ f => f.elim }

/-- what `WantOK` says about one task record -/
def TG (k : PTask) : Prop :=
  (k.quiet = false → k.sched = true) ∧ k.phase ≠ .wrapUp ∧ (k.phase = .finished → k.outcome.isSome = true)

theorem WK.tg {E : Ref → Prop} {p : Pool} (h : WK E p) (t : Nat) (k : PTask) (hk : p.tasks[t]? = some k)
    (hE : ¬ E (.task t)) : TG k :=
  ⟨h.tq t k hk hE, h.tw t k hk hE⟩

/-- what `WK` says about a spawner and ONE semaphore it may be suspended in — the pool's or its call's own —: `fr` the frame in
which it then is, `ss` the states of its entries in that queue, `x`: its handle is being run -/
structure QOK (x : Prop) (fr : MFrame) (ss : List WaitSt) (r : Req) : Prop where
  n : ss.length ≤ 1
  nx : x → ss = []
  w : ¬ x → ∀ s ∈ ss, r.frame = fr ∧ r.outcome = none ∧ (s ≠ .pending → r.sched = true)
  e : ¬ x → r.outcome = none → r.frame = fr → ss ≠ []

/-- what `WK` says about request `m` with record `r`, `es` the states of its entries in the pool's queue -/
structure SpOK (x : Prop) (es : List WaitSt) (m : Nat) (r : Req) : Prop where
  pq : QOK x .waitRoom es r
  mq : QOK x .waitMapSem (ent r.mapSem.waiters m) r
  mo : ∀ w ∈ r.mapSem.waiters, w.owner = m
  al : x → r.outcome = none
  rs : ¬ x → r.outcome = none → (r.frame = .notStarted → r.sched = true) ∧ r.frame ≠ .running ∧ r.frame ≠ .done
  od : ¬ x → r.outcome.isSome = true → r.frame = .done

variable {E E' : Ref → Prop} {p q : Pool}

theorem WK.sp (h : WK E p) {i : Nat} {r : Req} (hp : p.reqs[i]? = some r) :
    SpOK (E (.spawner i)) (ent p.sem.waiters i) i r :=
  have mo := fun w hw => (h.mw i r hp w hw).1
  { pq := {
      n := nodup_owners_ent.mp h.pn i
      nx := fun hE => Classical.not_not.mp fun c => (h.ce i hE).1 (mem_owners_ent.mpr c)
      w := fun hE s hs => by
        obtain ⟨r0, hp0, hc⟩ := h.pw ⟨i, s⟩ (mem_ent.mp hs)
        cases hp.symm.trans hp0
        exact hc hE
      e := fun hE ho hf => mem_owners_ent.mp (h.pe i r hp hE ho hf) }
    mq := {
      n := Nat.le_trans (ent_length_le ..) (h.mn i r hp)
      nx := fun hE => by rw [(h.ce i hE).2 r hp]; rfl
      w := fun hE s hs => (h.mw i r hp ⟨i, s⟩ (mem_ent.mp hs)).2 hE
      e := fun hE ho hf c => h.me i r hp hE ho hf (List.map_eq_nil_iff.mp (ent_own mo ▸ c)) }
    mo := mo
    al := fun hE => by
      obtain ⟨r0, hp0, ho⟩ := h.alive i hE
      exact Option.some.inj (hp0.symm.trans hp) ▸ ho
    rs := fun hE => h.rs i r hp hE
    od := h.od i r hp }

theorem WK.none (h : WK E p) {i : Nat} (hp : p.reqs[i]? = none) : ent p.sem.waiters i = [] ∧ ¬ E (.spawner i) := by
  refine ⟨List.eq_nil_iff_forall_not_mem.mpr fun s hs => ?_, fun hE => ?_⟩
  · obtain ⟨r0, hp0, _⟩ := h.pw ⟨i, s⟩ (mem_ent.mp hs)
    exact nomatch hp.symm.trans hp0
  · obtain ⟨r0, hp0, _⟩ := h.alive i hE
    exact nomatch hp.symm.trans hp0

theorem wk_mk (ht : ∀ t k, q.tasks[t]? = some k → ¬ E (.task t) → TG k)
    (hd : ∀ i, q.reqs[i]? = none → ent q.sem.waiters i = [] ∧ ¬ E (.spawner i))
    (hs : ∀ i r, q.reqs[i]? = some r → SpOK (E (.spawner i)) (ent q.sem.waiters i) i r) : WK E q where
  tq := fun t k hk hE => (ht t k hk hE).1
  tw := fun t k hk hE => (ht t k hk hE).2
  rs := fun m r hp hE => (hs m r hp).rs hE
  pn := nodup_owners_ent.mpr fun i => by
    cases hq : q.reqs[i]? with
    | none => rw [(hd i hq).1]; exact Nat.zero_le 1
    | some r => exact (hs i r hq).pq.n
  pw := fun w hw => by
    cases hq : q.reqs[w.owner]? with
    | none => exact nomatch (hd _ hq).1 ▸ mem_iff_ent.mp hw
    | some r => exact ⟨r, rfl, fun hE => (hs _ r hq).pq.w hE w.st (mem_iff_ent.mp hw)⟩
  pe := fun m r hp hE ho hf => mem_owners_ent.mpr ((hs m r hp).pq.e hE ho hf)
  mn := fun m r hp => by
    have := (hs m r hp).mq.n
    rwa [ent_own (hs m r hp).mo, List.length_map] at this
  mw := fun m r hp w hw =>
    ⟨(hs m r hp).mo w hw, fun hE => (hs m r hp).mq.w hE w.st ((hs m r hp).mo w hw ▸ mem_iff_ent.mp hw)⟩
  me := fun m r hp hE ho hf c => (hs m r hp).mq.e hE ho hf (by rw [c]; rfl)
  od := fun m r hp => (hs m r hp).od
  ce := fun m hE => by
    cases hq : q.reqs[m]? with
    | none => exact absurd hE (hd m hq).2
    | some r =>
      refine ⟨fun c => mem_owners_ent.mp c ((hs m r hq).pq.nx hE), fun r' hr' => ?_⟩
      cases hr'
      exact List.map_eq_nil_iff.mp (ent_own (hs m r hq).mo ▸ (hs m r hq).mq.nx hE)
  alive := fun m hE => by
    cases hq : q.reqs[m]? with
    | none => exact absurd hE (hd m hq).2
    | some r => exact ⟨r, rfl, (hs m r hq).al hE⟩

theorem wk_at (m : Nat) (h : WK E p) (ht : q.tasks = p.tasks) (hE : ∀ x, x ≠ Ref.spawner m → (E' x ↔ E x))
    (hne : ∀ i, i ≠ m → q.reqs[i]? = p.reqs[i]? ∧ ent q.sem.waiters i = ent p.sem.waiters i)
    (hm : ∃ r', q.reqs[m]? = some r' ∧ SpOK (E' (.spawner m)) (ent q.sem.waiters m) m r') : WK E' q := by
  have hS : ∀ i, i ≠ m → Ref.spawner i ≠ Ref.spawner m := fun i c e => c (Ref.spawner.inj e)
  refine wk_mk (fun t k hk hx => h.tg t k (ht ▸ hk) fun e => hx ((hE (.task t) nofun).mpr e)) (fun i hq => ?_) fun i r hq => ?_
  · by_cases c : i = m
    · obtain ⟨r', hr', _⟩ := hm
      subst c
      exact nomatch hq.symm.trans hr'
    · rw [(hne i c).2, propext (hE _ (hS i c))]
      exact h.none ((hne i c).1 ▸ hq)
  · by_cases c : i = m
    · obtain ⟨r', hr', k⟩ := hm
      subst c
      exact Option.some.inj (hr'.symm.trans hq) ▸ k
    · rw [(hne i c).2, propext (hE _ (hS i c))]
      exact h.sp ((hne i c).1 ▸ hq)


theorem wk_of_ent (h : WK E p) (ht : q.tasks = p.tasks) (hr : q.reqs = p.reqs)
    (hs : ∀ i, ent q.sem.waiters i = ent p.sem.waiters i) : WK E q :=
  wk_mk (fun t k hk hx => h.tg t k (ht ▸ hk) hx) (fun i hq => hs i ▸ h.none (hr ▸ hq)) fun i _ hq => hs i ▸ h.sp (hr ▸ hq)

theorem wk_of_eq (h : WK E p) (ht : q.tasks = p.tasks := by rfl)
    (hr : q.reqs = p.reqs := by rfl) (hs : q.sem.waiters = p.sem.waiters := by rfl) : WK E q :=
  wk_of_ent h ht hr fun _ => by rw [hs]

theorem wk_tasks (h : WK E p) (hr : q.reqs = p.reqs) (hs : q.sem.waiters = p.sem.waiters)
    (hE : ∀ m, E' (.spawner m) ↔ E (.spawner m))
    (ht : ∀ i k', q.tasks[i]? = some k' → ¬ E' (.task i) → (∀ k, p.tasks[i]? = some k → ¬ E (.task i) → TG k) → TG k') :
    WK E' q :=
  wk_mk (fun t k hk hx => ht t k hk hx fun k0 hk0 hx0 => h.tg t k0 hk0 hx0)
    (fun i hq => by rw [hs, propext (hE i)]; exact h.none (hr ▸ hq))
    fun i r hq => by rw [hs, propext (hE i)]; exact h.sp (hr ▸ hq)

theorem wk_modTask (h : WK E p) (t : Nat) (f : PTask → PTask)
    (hf : ∀ k, p.tasks[t]? = some k → ¬ E (.task t) → TG k → TG (f k)) : WK E (p.modTask t f) := by
  refine wk_tasks h rfl rfl (fun _ => Iff.rfl) fun i k' hq hE hg => ?_
  obtain ⟨k, hk, rfl⟩ := getElem?_modify_some _ _ _ _ _ hq
  exact dite_keeps (P := TG) (fun c => by subst c; exact hf k hk hE (hg k hk hE)) fun _ => hg k hk hE

theorem wk_modTask_ex (h : WK E p) (t : Nat) (f : PTask → PTask) (hE : E (.task t)) :
    WK E (p.modTask t f) :=
  wk_modTask h t f (fun _ _ hn => absurd hE hn)

section
variable {x : Prop} {fr : MFrame} {ss ss' es es' : List WaitSt} {m : Nat} {r r' : Req}

theorem QOK.keep (k : QOK x fr ss r) (a : r'.frame = r.frame) (b : r'.outcome = r.outcome)
    (d : ¬ x → r.outcome = none → r.sched = true → r'.sched = true) : QOK x fr ss r' where
  n := k.n
  nx := k.nx
  w := fun hx s hs => let ⟨u, v, z⟩ := k.w hx s hs; ⟨a ▸ u, b ▸ v, fun e => d hx v (z e)⟩
  e := fun hx ho hf => k.e hx (b ▸ ho) (a ▸ hf)

theorem QOK.flag (k : QOK x fr ss r) (hl : ss'.length = ss.length) (a : r'.frame = r.frame) (b : r'.outcome = r.outcome)
    (d : r'.sched = true) : QOK x fr ss' r' where
  n := hl ▸ k.n
  nx := fun hx => List.eq_nil_of_length_eq_zero (hl.trans (k.nx hx ▸ rfl))
  w := fun hx s hs => by
    obtain ⟨s0, hs0⟩ := List.exists_mem_of_ne_nil ss fun e => by
      rw [e] at hl; rw [List.eq_nil_of_length_eq_zero hl] at hs; cases hs
    exact ⟨a ▸ (k.w hx s0 hs0).1, b ▸ (k.w hx s0 hs0).2.1, fun _ => d⟩
  e := fun hx ho hf c => k.e hx (b ▸ ho) (a ▸ hf) (List.eq_nil_of_length_eq_zero (hl ▸ c ▸ rfl))

theorem QOK.ex (k : QOK x fr ss r) (hx : x) : QOK x fr ss r' :=
  ⟨k.n, k.nx, fun c => (c hx).elim, fun c => (c hx).elim⟩

theorem SpOK.own (k : SpOK x es m r) (a : r'.frame = r.frame) (b : r'.outcome = r.outcome)
    (mo : ∀ w ∈ r'.mapSem.waiters, w.owner = m) (d : ¬ x → r.outcome = none → r.sched = true → r'.sched = true)
    (c : ent r'.mapSem.waiters m = ent r.mapSem.waiters m ∨
      (ent r'.mapSem.waiters m).length = (ent r.mapSem.waiters m).length ∧ r'.sched = true) : SpOK x es m r' where
  pq := k.pq.keep a b d
  mq := c.elim (fun c => c ▸ k.mq.keep a b d) fun c => k.mq.flag c.1 a b c.2
  mo := mo
  al := fun hx => b ▸ k.al hx
  rs := fun hx ho => a ▸ ⟨fun e => d hx (b ▸ ho) ((k.rs hx (b ▸ ho)).1 e), (k.rs hx (b ▸ ho)).2⟩
  od := fun hx ho => a ▸ k.od hx (b ▸ ho)

theorem SpOK.keep (k : SpOK x es m r) (a : r'.frame = r.frame) (b : r'.outcome = r.outcome)
    (c : r'.mapSem.waiters = r.mapSem.waiters) (d : ¬ x → r.outcome = none → r.sched = true → r'.sched = true) :
    SpOK x es m r' :=
  k.own a b (c ▸ k.mo) d (Or.inl (by rw [c]))

theorem SpOK.keep_ex (k : SpOK x es m r) (hx : x) (b : r'.outcome = r.outcome)
    (c : r'.mapSem.waiters = r.mapSem.waiters) : SpOK x es m r' where
  pq := k.pq.ex hx
  mq := by rw [c]; exact k.mq.ex hx
  mo := c ▸ k.mo
  al := fun _ => b ▸ k.al hx
  rs := fun n => (n hx).elim
  od := fun n => (n hx).elim

theorem SpOK.flag (k : SpOK x es m r) (hl : es'.length = es.length) (a : r'.frame = r.frame) (b : r'.outcome = r.outcome)
    (c : r'.mapSem.waiters = r.mapSem.waiters) (d : r'.sched = true) : SpOK x es' m r' :=
  { k.keep a b c fun _ _ _ => d with pq := k.pq.flag hl a b d }

end

theorem wk_modReq_sp (h : WK E p) (s : Sem) (m : Nat) (f : Req → Req)
    (hs : ∀ i, i ≠ m → ent s.waiters i = ent p.sem.waiters i) (hn : ent p.sem.waiters m = [] → ent s.waiters m = [])
    (hf : ∀ r, p.reqs[m]? = some r → SpOK (E (.spawner m)) (ent p.sem.waiters m) m r →
      SpOK (E (.spawner m)) (ent s.waiters m) m (f r)) : WK E (({ p with sem := s } : Pool).modReq m f) := by
  refine wk_mk (fun t k hk hx => h.tg t k hk hx) (fun i hq => ?_) fun i r' hq => ?_
  · have hp := getElem?_modify_none hq
    by_cases c : i = m
    · subst c; exact ⟨hn (h.none hp).1, (h.none hp).2⟩
    · exact hs i c ▸ h.none hp
  · rcases getElem?_modify_split hq with ⟨rfl, r, hp, rfl⟩ | ⟨c, hp⟩
    · exact hf r hp (h.sp hp)
    · exact hs i c ▸ h.sp hp

theorem wk_modReq (h : WK E p) (m : Nat) (f : Req → Req)
    (hf : ∀ r, p.reqs[m]? = some r → (f r).frame = r.frame ∧ (f r).outcome = r.outcome ∧
      (f r).mapSem.waiters = r.mapSem.waiters ∧ (r.outcome = none → r.sched = true → (f r).sched = true)) :
    WK E (p.modReq m f) :=
  wk_modReq_sp h p.sem m f (fun _ _ => rfl) id fun r hp k =>
    k.keep (hf r hp).1 (hf r hp).2.1 (hf r hp).2.2.1 fun _ => (hf r hp).2.2.2

theorem wk_modReq_ex (h : WK E p) (m : Nat) (f : Req → Req) (hE : E (.spawner m))
    (hf : ∀ r, (f r).mapSem.waiters = r.mapSem.waiters ∧ (f r).outcome = r.outcome := by exact fun _ => ⟨rfl, rfl⟩) :
    WK E (p.modReq m f) :=
  wk_modReq_sp h p.sem m f (fun _ _ => rfl) id fun r _ k => k.keep_ex hE (hf r).2 (hf r).1

theorem wk_mapReqs (h : WK E p) (f : Req → Req) (ht : q.tasks = p.tasks)
    (hs : q.sem.waiters = p.sem.waiters) (hr : q.reqs = p.reqs.map f)
    (hf : ∀ r, (f r).frame = r.frame ∧ (f r).outcome = r.outcome ∧ (f r).mapSem.waiters = r.mapSem.waiters ∧
      (f r).sched = r.sched) : WK E q := by
  refine wk_mk (fun t k hk hx => h.tg t k (ht ▸ hk) hx) (fun i hq => ?_) fun i r' hq => ?_
  · rw [hr, List.getElem?_map, Option.map_eq_none_iff] at hq
    exact hs ▸ h.none hq
  · obtain ⟨r, hp, rfl⟩ := getElem?_map_some (hr ▸ hq)
    exact hs ▸ (h.sp hp).keep (hf r).1 (hf r).2.1 (hf r).2.2.1 fun _ _ e => (hf r).2.2.2 ▸ e

theorem wk_appendReq (h : WK E p) (r0 : Req) (ht : q.tasks = p.tasks)
    (hs : q.sem.waiters = p.sem.waiters) (hr : q.reqs = p.reqs ++ [r0]) (h1 : r0.frame = .notStarted)
    (h2 : r0.sched = true) (h3 : r0.mapSem.waiters = []) (h4 : r0.outcome = none) : WK E q := by
  have hnew := h.none (List.getElem?_eq_none_iff.mpr (Nat.le_refl p.reqs.length))
  refine wk_mk (fun t k hk hx => h.tg t k (ht ▸ hk) hx) (fun i hq => ?_) fun i r hq => ?_
  · rw [hr, List.getElem?_eq_none_iff, List.length_append] at hq
    exact hs ▸ h.none (List.getElem?_eq_none_iff.mpr (Nat.le_of_succ_le hq))
  · rcases getElem?_append_one (hr ▸ hq) with hp | ⟨e, rfl⟩
    · exact hs ▸ h.sp hp
    · rw [hs, e, hnew.1]
      have hq0 : ∀ fr, fr ≠ .notStarted → QOK (E (.spawner p.reqs.length)) fr [] r := fun fr c =>
        ⟨Nat.zero_le 1, fun _ => rfl, fun _ => nofun, fun _ _ e => absurd (h1.symm.trans e).symm c⟩
      exact { pq := hq0 _ nofun, mq := by rw [h3]; exact hq0 _ nofun, mo := h3 ▸ nofun, al := fun _ => h4,
              rs := fun _ _ => ⟨fun _ => h2, fun e => (nomatch h1.symm.trans e), fun e => (nomatch h1.symm.trans e)⟩,
              od := fun _ e => (nomatch h4 ▸ e) }

theorem wk_enter_task (h : WK (fun _ => False) p) (t : Nat) : WK (fun x => x = Ref.task t) p :=
  wk_tasks h rfl rfl (fun _ => ⟨nofun, False.elim⟩) fun _ k hk _ old => old k hk id

theorem wk_close_task {t : Nat} (h : WK (fun x => x = Ref.task t) p)
    (hk : ∀ k, p.tasks[t]? = some k → TG k) : Want p :=
  (wk_tasks (E' := fun _ => False) h rfl rfl (fun _ => ⟨False.elim, nofun⟩) fun i k hik _ old =>
    dite_keeps (P := fun _ : Unit => TG k) (a := ()) (b := ()) (fun c : i = t => hk k (c ▸ hik))
      fun c => old k hik fun e => c (Ref.task.inj e)).toWantOK

theorem wk_emitRef (h : WK E p) (r : Ref) : WK E (p.emitRef r) := wk_of_eq h
theorem wk_logEv (h : WK E p) (e : Ev) : WK E (p.logEv e) := wk_of_eq h

theorem wk_emitChildren (h : WK E p) (cbs : List (Nat × Nat)) : WK E (p.emitChildren cbs) :=
  foldl_keeps (P := WK E) _ (fun _ _ h => wk_emitRef h _) cbs p h

theorem wk_schedTask {p : Pool} (h : WK E p) (t : Nat) : WK E (p.schedTask t) := by
  unfold schedTask
  refine wk_emitRef (wk_modTask h t _ ?_) _
  exact fun _ _ _ g => ⟨fun _ => rfl, g.2⟩

theorem wk_schedMeta (h : WK E p) (m : Nat) : WK E (p.schedMeta m) := by
  unfold schedMeta
  refine wk_emitRef (wk_modReq h m _ ?_) _
  exact fun _ _ => ⟨rfl, rfl, rfl, fun _ _ => rfl⟩

theorem wk_schedOpt {p : Pool} (h : WK E p) (o : Option Nat) : WK E (p.schedOpt o) := by
  cases o with
  | none => exact h
  | some m => exact wk_schedMeta h m

theorem wk_modTask_sched (h : WK E p) (t : Nat) (f : PTask → PTask)
    (hf : ∀ k, (f k).phase = k.phase ∧ (f k).outcome = k.outcome := by exact fun _ => ⟨rfl, rfl⟩) :
    WK E ((p.modTask t f).schedTask t) :=
  modTask_schedTask p t f ▸ wk_emitRef (wk_modTask h t _ fun k _ _ g =>
    ⟨fun _ => rfl, (hf k).1 ▸ g.2.1, fun e => (hf k).2 ▸ g.2.2 ((hf k).1 ▸ e)⟩) _

/-- `Semaphore._wake_up_next` on the pool's semaphore, followed by the wake-up of the waiter that got the slot.  `ent_wake`:
the entries of that owner go through `grantFirst` (same length), nobody else's change; so this is `wk_modReq_sp` at that
owner, with `SpOK.flag`. -/
theorem wk_wake (h : WK E p) (s : Sem) (hs : s.waiters = p.sem.waiters) :
    WK E (({ p with sem := s.wakeNext.1 } : Pool).schedOpt s.wakeNext.2) := by
  have he : ∀ i, ent s.wakeNext.1.waiters i =
      if s.wakeNext.2 = some i then grantFirst (ent p.sem.waiters i) else ent p.sem.waiters i :=
    fun i => hs ▸ ent_wake s.value s.waiters i
  -- `he` and the goal mention the woken owner only as `s.wakeNext.2`: name it, so that a case split rewrites both
  generalize s.wakeNext.2 = o at he
  cases o with
  | none => exact wk_of_ent h rfl rfl fun i => (he i).trans (if_neg nofun)
  | some o =>
    refine wk_emitRef (wk_modReq_sp h _ o _ (fun i c => (he i).trans (if_neg fun e => c (Option.some.inj e).symm))
      -- `hn` (an owner without entries gets none; used when `o` has no request record): `grantFirst [] = []`
      (fun e => (he o).trans ((if_pos rfl).trans (by rw [e]; rfl))) fun r _ k => ?_) _
    rw [he o, if_pos rfl]
    exact k.flag (grantFirst_length _) rfl rfl rfl rfl

theorem wakeNext_waiters (s : Sem) : s.wakeNext.1.waiters = (wakeNextL s.value s.waiters).2.1 := rfl

theorem wk_releasePool (h : WK E p) : WK E p.releasePool := by
  unfold releasePool Sem.release
  exact wk_wake h _ rfl

theorem wk_modReq_own (h : WK E p) (m : Nat) (f : Req → Req)
    (hf : ∀ r, p.reqs[m]? = some r → (f r).frame = r.frame ∧ (f r).outcome = r.outcome ∧
      owners (f r).mapSem.waiters = owners r.mapSem.waiters ∧ (r.sched = true → (f r).sched = true) ∧
      (ent (f r).mapSem.waiters m = ent r.mapSem.waiters m ∨
        (ent (f r).mapSem.waiters m).length = (ent r.mapSem.waiters m).length ∧ (f r).sched = true)) :
    WK E (p.modReq m f) :=
  wk_modReq_sp h p.sem m f (fun _ _ => rfl) id fun r hp k =>
    let ⟨a, b, o, d, c⟩ := hf r hp
    k.own a b (fun w' hw' => let ⟨w, hw, e⟩ := mem_owners.mp (o ▸ mem_owners.mpr ⟨w', hw', rfl⟩); e ▸ k.mo w hw)
      (fun _ _ => d) c

/-- `release()` of a call's own semaphore: only `m` has entries there, so the spawner woken is `m`, or no entry is rewritten -/
theorem wk_releaseMap (h : WK E p) (m : Nat) : WK E (p.releaseMap m) := by
  unfold releaseMap
  split
  · exact h
  · rename_i r hp
    unfold Sem.release
    have he : ent (Sem.wakeNext { r.mapSem with value := r.mapSem.value.inc }).1.waiters m =
        if (Sem.wakeNext { r.mapSem with value := r.mapSem.value.inc }).2 = some m then grantFirst (ent r.mapSem.waiters m)
        else ent r.mapSem.waiters m := ent_wake _ r.mapSem.waiters m
    have how : owners (Sem.wakeNext { r.mapSem with value := r.mapSem.value.inc }).1.waiters = owners r.mapSem.waiters :=
      owners_wakeNextL _ r.mapSem.waiters
    generalize Sem.wakeNext { r.mapSem with value := r.mapSem.value.inc } = sw at he how ⊢
    have hold : sw.2 ≠ some m → WK E (p.modReq m fun x => { x with mapSem := sw.1 }) := fun c =>
      wk_modReq_own h m _ fun r0 hp0 => by
        cases hp.symm.trans hp0
        exact ⟨rfl, rfl, how, id, Or.inl (he.trans (if_neg c))⟩
    obtain ⟨s, o⟩ := sw
    cases o with
    | none => exact hold nofun
    | some o =>
      by_cases c : o = m
      · subst c
        show WK E ((p.modReq o _).schedMeta o)
        rw [modReq_schedMeta]
        refine wk_emitRef (wk_modReq_own h o _ fun r0 hp0 => ?_) _
        cases hp.symm.trans hp0
        exact ⟨rfl, rfl, how, fun _ => rfl,
          Or.inr ⟨(congrArg List.length (he.trans (if_pos rfl))).trans (grantFirst_length _), rfl⟩⟩
      · exact wk_schedMeta (hold fun e => c (Option.some.inj e)) o

theorem wk_taskCancel (h : WK E p) (t : Nat) : WK E (p.taskCancel t) := by
  unfold taskCancel
  split
  · exact h
  · split
    · exact h
    · split
      · exact wk_modTask_sched h t _
      · exact wk_modTask h t _ fun _ _ _ g => g

theorem wk_cancelTask (h : WK E p) (t : Nat) : WK E (p.cancelTask t) := by
  unfold cancelTask
  split
  · exact h
  · split
    · exact wk_modTask h t _ fun _ _ _ g => g
    · exact wk_taskCancel h t

theorem wk_metaCancel (h : WK E p) (m : Nat) : WK E (p.metaCancel m) := by
  refine metaCancel_elim p m (fun _ => h) (fun _ _ _ => h) (fun _ _ _ _ => ?_) (fun _ _ _ _ _ => ?_) (fun _ _ _ _ _ => ?_)
  · refine modReq_schedMeta _ m snapReq ▸ wk_emitRef (wk_modReq_sp h _ m _ (fun i c => (ent_cancel ..).trans (if_neg c))
      (fun e => (ent_cancel ..).trans ((if_pos rfl).trans (by rw [e]; rfl))) fun r _ k => ?_) _
    rw [show ent (cancelWaiterL m p.sem.waiters) m = _ from (ent_cancel ..).trans (if_pos rfl), snapReq_eq r]
    exact k.flag (List.length_map _) rfl rfl rfl rfl
  · refine modReq_schedMeta p m _ ▸ wk_emitRef (wk_modReq_own h m _ fun r0 _ => ?_) _
    rw [snapReq_eq]
    exact ⟨rfl, rfl, owners_cancelWaiterL _ _, fun _ => rfl,
      Or.inr ⟨(congrArg List.length ((ent_cancel ..).trans (if_pos rfl))).trans (List.length_map _), rfl⟩⟩
  · refine wk_modReq h m _ fun r0 _ => ?_
    rw [snapReq_eq]
    exact ⟨rfl, rfl, rfl, fun _ a => a⟩

theorem wk_cancelGroupMetas (h : WK E p) (g : String) : WK E (p.cancelGroupMetas g) := by
  unfold cancelGroupMetas
  refine wk_mapReqs (foldl_keeps (P := WK E) _ (fun _ m h => wk_metaCancel h m) _ p h) _ rfl rfl rfl fun r => ?_
  split <;> exact ⟨rfl, rfl, rfl, rfl⟩

theorem wk_sync (E : Ref → Prop) : SyncKept (WK E) (fun _ => True) True where
  cancelTask := fun _ t h => wk_cancelTask h t
  cancelGroupMetas := fun _ g h => wk_cancelGroupMetas h g
  dropGroups := fun _ _ _ h => wk_of_eq h
  setOrders := fun _ _ h => wk_of_eq h
  lock := fun _ h => wk_of_eq h
  unlock := fun _ _ h => wk_of_eq h
  startCalls := fun _ _ h => wk_of_eq h
  logEv := fun _ e h => wk_logEv h e
  register := fun _ _ _ _ _ _ _ _ _ _ _ _ h => wk_appendReq h _ rfl rfl rfl rfl rfl rfl rfl

theorem wk_runHooks (h : WK E p) (ctx : Nat) (hs : List HookOp) : WK E (p.runHooks ctx hs) :=
  (wk_sync E).runHooks h ctx hs (fun _ => trivial) trivial

/-- gathers, `flush()`, `gather_and_close()`, `until_closed()` (`Inv/UserCode.lean`, `Inv/ApiStages.lean`): of what
`WK` reads only the done-callback lists of tasks and spawners and the registry bits of spawners (`inRunning`,
`inCancelled`) are written, and no frame, outcome, waiter or flag with them -/
theorem wk_api (E : Ref → Prop) : ApiKept (WK E) where
  modGather := fun _ _ _ _ h => wk_of_eq h
  schedApi := fun _ _ h => wk_of_eq h
  regTask := fun _ t _ h => wk_modTask h t _ fun _ _ _ a => a
  regReq := fun _ m _ h => wk_modReq h m _ fun _ _ => ⟨rfl, rfl, rfl, fun _ a => a⟩
  newGather := fun _ _ _ h => wk_of_eq h
  modApi := fun _ _ _ _ _ h => wk_of_eq h
  unfile := fun _ h => wk_mapReqs h _ rfl rfl rfl fun _ => ite_keeps
    (P := fun x : Req => x.frame = _ ∧ x.outcome = _ ∧ x.mapSem.waiters = _ ∧ x.sched = _) ⟨rfl, rfl, rfl, rfl⟩ ⟨rfl, rfl, rfl, rfl⟩
  uncancel := fun _ h => wk_mapReqs h _ rfl rfl rfl fun _ => ⟨rfl, rfl, rfl, rfl⟩
  clearMetas := fun _ h => wk_mapReqs h _ rfl rfl rfl fun _ => ⟨rfl, rfl, rfl, rfl⟩
  forget := fun _ _ _ _ h => wk_of_eq h
  close := fun _ _ h => wk_of_eq h
  lock := fun _ _ h => wk_of_eq h
  waitClosed := fun _ _ h => wk_of_eq h

theorem wk_doGate (h : WK E p) (t : Nat) (o : FutSt) : WK E (p.doGate t o).1 := by
  unfold doGate
  split
  · exact wk_modTask_sched h t _
  · exact h

theorem wk_applyOp (h : WK E p) (op : Op) : WK E (p.applyOp op).1 := by
  cases hs : op.starts with
  | none =>
    exact (wk_sync E).applyOp h hs (by cases op <;> trivial) (fun _ _ => trivial) (fun _ _ => wk_of_eq h)
      fun t o _ => wk_doGate h t o
  | some k => exact applyOp_starts p hs ▸ wk_of_eq h

end Pool
end Taskpool
