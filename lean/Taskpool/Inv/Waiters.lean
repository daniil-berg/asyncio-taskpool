import Taskpool.Inv.Basics
/-! **A waiter queue, owner by owner.**  What the invariants read of a semaphore's waiter queue — apart from the number of
granted entries (`grantsL`) — they read owner by owner: whether `i` has an entry, how many, in which state the first one is,
whether one of them is cancelled.  Each of the five things the machine does to a queue (append an entry, drop the first
entry of `m`, cancel the pending entries of `m`, `_wake_up_next`, nothing) rewrites the entries of ONE owner, and is
stated here once as an equation about `ent ws i`, the states of the entries of owner `i`. -/
namespace Taskpool

/-- the `ent`ries of owner `i`: their states, in queue order -/
def ent : List Waiter → Nat → List WaitSt
  | [], _ => []
  | w :: ws, i => if w.owner = i then w.st :: ent ws i else ent ws i

theorem ent_cons (w : Waiter) (ws : List Waiter) (i : Nat) :
    ent (w :: ws) i = if w.owner = i then w.st :: ent ws i else ent ws i := rfl

theorem ent_append (a b : List Waiter) (i : Nat) : ent (a ++ b) i = ent a i ++ ent b i := by
  induction a with
  | nil => rfl
  | cons w ws ih =>
    rw [List.cons_append, ent_cons, ent_cons, ih]
    split <;> rfl

theorem ent_push (ws : List Waiter) (w : Waiter) (i : Nat) :
    ent (ws ++ [w]) i = if w.owner = i then ent ws i ++ [w.st] else ent ws i := by
  rw [ent_append, ent_cons]
  split
  · rfl
  · exact List.append_nil _

theorem mem_ent {ws : List Waiter} {i : Nat} {s : WaitSt} : s ∈ ent ws i ↔ (⟨i, s⟩ : Waiter) ∈ ws := by
  induction ws with
  | nil => exact ⟨fun h => (nomatch h), fun h => (nomatch h)⟩
  | cons w ws ih =>
    rw [ent_cons, List.mem_cons]
    by_cases e : w.owner = i
    · rw [if_pos e, List.mem_cons, ih]
      exact or_congr_left ⟨fun a => by rw [← e, a], fun a => by rw [← a]⟩
    · rw [if_neg e, ih]
      exact ⟨Or.inr, fun a => a.resolve_left fun x => e (by rw [← x])⟩

theorem mem_iff_ent {ws : List Waiter} {w : Waiter} : w ∈ ws ↔ w.st ∈ ent ws w.owner := mem_ent.symm

theorem removeWaiterL_fst (m : Nat) (ws : List Waiter) : (removeWaiterL m ws).1 = (ent ws m).head? := by
  induction ws with
  | nil => rfl
  | cons w ws ih =>
    unfold removeWaiterL
    rw [ent_cons]
    split
    · rfl
    · exact ih

theorem ent_remove (m : Nat) (ws : List Waiter) (i : Nat) :
    ent (removeWaiterL m ws).2 i = if i = m then (ent ws m).tail else ent ws i := by
  induction ws with
  | nil => exact (ite_self _).symm
  | cons w ws ih =>
    unfold removeWaiterL
    by_cases e : w.owner = m
    · rw [if_pos e]
      by_cases c : i = m
      · rw [if_pos c, ent_cons, if_pos e, c]; rfl
      · rw [if_neg c, ent_cons, if_neg fun x => c (x.symm.trans e)]
    · rw [if_neg e]
      show ent (w :: (removeWaiterL m ws).2) i = _
      rw [ent_cons, ih, ent_cons (i := m), if_neg e]
      by_cases c : i = m
      · rw [if_pos c, if_pos c, if_neg fun x => e (x.trans c)]
      · rw [if_neg c, if_neg c, ent_cons]

def WaitSt.cancel (s : WaitSt) : WaitSt := if s = .pending then .cancelled else s

theorem ent_cancel (m : Nat) (ws : List Waiter) (i : Nat) :
    ent (cancelWaiterL m ws) i = if i = m then (ent ws m).map WaitSt.cancel else ent ws i := by
  induction ws with
  | nil => exact (ite_self _).symm
  | cons w ws ih =>
    show ent ((if w.owner = m ∧ w.st = .pending then { w with st := .cancelled } else w) :: cancelWaiterL m ws) i = _
    have ho : (if w.owner = m ∧ w.st = .pending then { w with st := .cancelled } else w).owner = w.owner := by
      split <;> rfl
    rw [ent_cons, ho, ih]
    by_cases c : i = m
    · subst c
      rw [if_pos rfl, if_pos rfl, ent_cons]
      by_cases e : w.owner = i
      · rw [if_pos e, if_pos e, List.map_cons]
        congr 1
        unfold WaitSt.cancel
        split
        · rename_i h; rw [if_pos h.2]
        · rename_i h; rw [if_neg fun x => h ⟨e, x⟩]
      · rw [if_neg e, if_neg e]
    · rw [if_neg c, if_neg c, ent_cons]
      by_cases e : w.owner = i
      · rw [if_pos e, if_pos e, if_neg fun x => c (e.symm.trans x.1)]
      · rw [if_neg e, if_neg e]

/-- `_wake_up_next` on the entries of the owner it wakes: the first pending one gets the slot (`ent_wake`) -/
def grantFirst : List WaitSt → List WaitSt
  | [] => []
  | s :: l => if s = .pending then .granted :: l else s :: grantFirst l

theorem ent_wake (v : Cap) (ws : List Waiter) (i : Nat) :
    ent (wakeNextL v ws).2.1 i = if (wakeNextL v ws).2.2 = some i then grantFirst (ent ws i) else ent ws i := by
  induction ws with
  | nil => exact (ite_self _).symm
  | cons w ws ih =>
    unfold wakeNextL
    by_cases hp : w.st = .pending
    · rw [if_pos hp]
      show ent ({ w with st := .granted } :: ws) i = if some w.owner = some i then _ else _
      rw [ent_cons, ent_cons]
      by_cases e : w.owner = i
      · rw [if_pos e, if_pos e, if_pos (congrArg some e), grantFirst, if_pos hp]
      · rw [if_neg e, if_neg e, if_neg fun x => e (Option.some.inj x)]
    · rw [if_neg hp]
      show ent (w :: (wakeNextL v ws).2.1) i = if (wakeNextL v ws).2.2 = some i then _ else _
      rw [ent_cons, ih, ent_cons]
      by_cases e : w.owner = i
      · rw [if_pos e, if_pos e]
        split
        · rw [grantFirst, if_neg hp]
        · rfl
      · rw [if_neg e, if_neg e]

theorem grantFirst_length (l : List WaitSt) : (grantFirst l).length = l.length := by
  induction l with
  | nil => rfl
  | cons s l ih =>
    unfold grantFirst
    split
    · rfl
    · exact congrArg (· + 1) ih

theorem mem_grantFirst {l : List WaitSt} {s : WaitSt} (h : s ∈ grantFirst l) : s ∈ l ∨ s = .granted := by
  induction l with
  | nil => exact nomatch h
  | cons a l ih =>
    unfold grantFirst at h
    split at h
    · exact (List.mem_cons.mp h).elim Or.inr fun x => Or.inl (List.mem_cons_of_mem _ x)
    · exact (List.mem_cons.mp h).elim (fun x => Or.inl (x ▸ List.mem_cons_self)) fun x =>
        (ih x).imp_left (List.mem_cons_of_mem _)

theorem head?_grantFirst {l : List WaitSt} (h : l.head? = some .cancelled) : (grantFirst l).head? = some .cancelled := by
  match l, h with
  | s :: l, h =>
    cases Option.some.inj h
    rfl

theorem ent_length_le (ws : List Waiter) (i : Nat) : (ent ws i).length ≤ ws.length := by
  induction ws with
  | nil => exact Nat.le_refl 0
  | cons w ws ih =>
    rw [ent_cons]
    split
    · exact Nat.succ_le_succ ih
    · exact Nat.le_succ_of_le ih

theorem tail_nil_of_length_le_one {α} {l : List α} (h : l.length ≤ 1) : l.tail = [] :=
  match l, h with
  | [], _ => rfl
  | [_], _ => rfl

theorem eq_singleton_of_mem {α} {l : List α} {a : α} (hl : l.length ≤ 1) (h : a ∈ l) : l = [a] :=
  match l, hl, h with
  | [_], _, h => by cases List.mem_singleton.mp h; rfl

theorem pending_of_not_woken {m : Nat} {ws : List Waiter} (hl : (ent ws m).length ≤ 1)
    (n1 : ¬ (removeWaiterL m ws).1 = some .cancelled) (n3 : ¬ (removeWaiterL m ws).1 = some .granted) :
    ∀ s ∈ ent ws m, s = .pending := by
  intro s hs
  rw [removeWaiterL_fst, eq_singleton_of_mem hl hs] at n1 n3
  cases s
  · rfl
  · exact absurd rfl n3
  · exact absurd rfl n1

theorem removeWaiterL_subset (m : Nat) (ws : List Waiter) (w : Waiter) (h : w ∈ (removeWaiterL m ws).2) : w ∈ ws := by
  rw [mem_iff_ent, ent_remove] at h
  rw [mem_iff_ent]
  split at h
  · rename_i e; rw [e]; exact List.mem_of_mem_tail h
  · exact h

theorem removeWaiterL_fst_some (m : Nat) (ws : List Waiter) (st : WaitSt) (h : (removeWaiterL m ws).1 = some st) :
    ∃ w ∈ ws, w.owner = m ∧ w.st = st :=
  ⟨⟨m, st⟩, mem_ent.mp (List.mem_of_mem_head? (removeWaiterL_fst m ws ▸ h)), rfl, rfl⟩

theorem wakeNextL_cancelled (v : Cap) (ws : List Waiter) (w' : Waiter) (h : w' ∈ (wakeNextL v ws).2.1)
    (hc : w'.st = .cancelled) : w' ∈ ws := by
  rw [mem_iff_ent, ent_wake] at h
  rw [mem_iff_ent]
  split at h
  · exact (mem_grantFirst h).resolve_right fun e => nomatch hc.symm.trans e
  · exact h

theorem mem_cancelWaiterL (m : Nat) (ws : List Waiter) (w' : Waiter) (h : w' ∈ cancelWaiterL m ws) :
    w' ∈ ws ∨ w'.owner = m := by
  by_cases c : w'.owner = m
  · exact Or.inr c
  · rw [mem_iff_ent, ent_cancel, if_neg c] at h
    exact Or.inl (mem_iff_ent.mpr h)

theorem ent_own {m : Nat} {ws : List Waiter} (h : ∀ w ∈ ws, w.owner = m) : ent ws m = ws.map (·.st) := by
  induction ws with
  | nil => rfl
  | cons w ws ih =>
    rw [ent_cons, if_pos (h w List.mem_cons_self), ih fun a ha => h a (List.mem_cons_of_mem _ ha)]
    rfl

end Taskpool
