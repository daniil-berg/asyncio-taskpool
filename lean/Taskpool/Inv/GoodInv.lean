import Taskpool.Inv.Steps
import Taskpool.Inv.Lift
/-! `Good` (DESIGN §4.3) as a pool invariant of every reachable world, in its three variants. -/
namespace Taskpool

/-- `Good` against the size the pool was constructed with (for an unbounded pool: the counter stays unbounded);
histories without `pool_size` assignment -/
def GoodC (c : Cfg) (p : Pool) : Prop := Good c.size0 true true p

/-- `Good` against some size, not the configured one: it survives assignments to `pool_size` -/
def BaseC (_ : Cfg) (p : Pool) : Prop := ∃ cap : Cap, Good cap true false p

/-- the strict variant: additionally no task was ever lost (no `KeyError` in a wrapper, nothing dropped while it held
a slot) and no `gather_and_close` call exists; an invariant of histories without `gather_and_close` -/
def StrictC (_ : Cfg) (p : Pool) : Prop := ∃ cap : Cap, Good cap false false p

def noAsync : Op → Bool := fun o => !o.isAsync

/-- histories without `gather_and_close` (any number of concurrent `flush` and `until_closed` calls allowed) -/
def noGac : Op → Bool := fun o => !o.isGac

theorem noGac_of_noAsync (o : Op) (h : noAsync o = true) : noGac o = true := by
  cases o <;> simp_all [noAsync, noGac, Op.isAsync, Op.isGac]

def noSetSize : Op → Bool := fun o => !o.isSetSize

theorem good_init (cap : Cap) (L R : Bool) (simple : Option SpawnSpec) : Good cap L R (Pool.init cap simple) :=
  ⟨⟨by cases cap with
      | fin n => exact ⟨n, rfl, by simp [Pool.init, heldL, grantsL]⟩
      | inf => exact ⟨rfl, rfl⟩,
   fun i tk h _ => by simp [Pool.init] at h,
   ⟨by simp [Pool.init], fun t h => by simp [Pool.init] at h, fun t h => by simp [Pool.init] at h,
    fun t h => by simp [Pool.init] at h, fun _ t tk h _ => by simp [Pool.init] at h⟩,
   ⟨by simp [Pool.init], fun i hi => by simp [Pool.init] at hi⟩,
   fun t tk h => by simp [Pool.init] at h,
   ⟨fun g G h => by simp [Pool.init] at h, fun a A g h => by simp [Pool.init] at h⟩,
   fun _ v _ _ _ w hw => by simp [Pool.init] at hw, fun _ => rfl,
   fun _ => rfl, fun _ _ A hA => by simp [Pool.init] at hA⟩,
   ⟨fun t tk h _ => by simp [Pool.init] at h, fun m r h => by simp [Pool.init] at h,
    fun m r h => by simp [Pool.init] at h, fun m r h => by simp [Pool.init] at h⟩,
   ⟨fun t tk h => by simp [Pool.init] at h, fun m r h => by simp [Pool.init] at h,
    fun m r h => by simp [Pool.init] at h⟩,
   fun m r c u h => by simp [Pool.init] at h⟩

theorem goodC_invariant : PoolInvariant GoodC noSetSize where
  init := by
    intro c simple _
    exact good_init c.size0 true true simple
  op := by
    intro c p orders o ho hg
    have h1 := (Pool.tame_setOrders p orders).good hg
    exact Pool.good_applyOp _ o (by simpa [noSetSize] using ho) (fun h _ => Bool.noConfusion h) h1
  run := by
    intro c p orders r hg
    exact Pool.good_runRef _ r ((Pool.tame_setOrders p orders).good hg) (fun h => Bool.noConfusion h)
  drain := by
    intro c p hg
    exact (tame_of_eq p { p with emit := [] } rfl rfl).good hg

/-- an assignment to `pool_size` re-bases slot conservation; phase and registry invariants do not care -/
theorem good_setSize {cap : Cap} {L : Bool} (p : Pool) (v : Int) (hg : Good cap L false p) :
    ∃ cap', Good cap' L false (p.doSetSize v).1 := by
  unfold Pool.doSetSize
  split
  · exact ⟨cap, hg⟩
  · exact ⟨.fin (v.toNat + heldL p.tasks + grantsL p.sem.waiters), ⟨⟨v.toNat, rfl, rfl⟩, hg.phase,
      hg.reg.of_eq rfl rfl rfl rfl rfl, hg.grp.of_eq rfl rfl, hg.life.of_eq rfl rfl, hg.fl.frame rfl rfl (fun _ h => h), fun h => Bool.noConfusion h, fun h => Bool.noConfusion h, hg.ll, hg.al⟩, hg.map.of_eq rfl rfl, hg.acc.of_eq rfl rfl, hg.canc.of_eq rfl rfl⟩

/-- the variants that allow assignments to `pool_size` (`R = false`), for any set of operations that leaves out
`gather_and_close` in the strict case -/
theorem resizable_invariant (L : Bool) (adm : Op → Bool) (ha : L = false → ∀ o, adm o = true → o.isGac = false) :
    PoolInvariant (fun _ p => ∃ cap : Cap, Good cap L false p) adm where
  init := by
    intro c simple _
    exact ⟨c.size0, good_init c.size0 L false simple⟩
  op := by
    intro c p orders o ho ⟨cap, hg⟩
    have h1 := (Pool.tame_setOrders p orders).good hg
    cases hs : o.isSetSize with
    | true =>
      cases o with
      | setSize v => exact good_setSize _ v h1
      | _ => exact nomatch hs
    | false => exact ⟨cap, Pool.good_applyOp _ o hs (fun hl _ => ha hl o ho) h1⟩
  run := by
    intro c p orders r ⟨cap, hg⟩
    exact ⟨cap, Pool.good_runRef _ r ((Pool.tame_setOrders p orders).good hg) (fun _ h => Bool.noConfusion h)⟩
  drain := by
    intro c p ⟨cap, hg⟩
    exact ⟨cap, (tame_of_eq p { p with emit := [] } rfl rfl).good hg⟩

/-- phase and registry invariants (with *some* slot conservation) hold in every pool after **every** history,
assignments to `pool_size` included -/
theorem baseC_invariant : PoolInvariant BaseC allOps := resizable_invariant true allOps (fun h => Bool.noConfusion h)

/-- without `gather_and_close` the strict variant holds after every history (assignments to `pool_size` included) -/
theorem strictC_invariant : PoolInvariant StrictC noGac :=
  resizable_invariant false noGac (fun _ o ho => by simpa [noGac] using ho)

section
variable {base : Nat} {h : History} {c : Cfg} {p : Pool}

/-- every pool of every world reachable without an assignment to `pool_size`, if constructed with the finite size `n` -/
theorem goodFin (r : Reached base h c p) (hn : ∀ x ∈ h, x.admits noSetSize = true) {n : Nat} (hsz : c.size0 = .fin n) :
    Good (.fin n) true true p := hsz ▸ r.of goodC_invariant hn

/-- the same for a pool constructed unbounded -/
theorem goodInf (r : Reached base h c p) (hn : ∀ x ∈ h, x.admits noSetSize = true) (hsz : c.size0 = .inf) :
    Good .inf true true p := hsz ▸ r.of goodC_invariant hn

/-- every pool of every reachable world, whatever the history (assignments to `pool_size` included) -/
theorem baseAll (r : Reached base h c p) : PhaseOK p ∧ RegOK p := (r.all baseC_invariant).elim fun _ hg => ⟨hg.phase, hg.reg⟩

/-- the callback life cycle of every task of every pool of every reachable world -/
theorem lifeAll (r : Reached base h c p) : LifeOK p := (r.all baseC_invariant).elim fun _ hg => hg.life

/-- groups partition the tasks they file, in every pool of every reachable world, whatever the history -/
theorem groupsAll (r : Reached base h c p) : GroupsOK p := (r.all baseC_invariant).elim fun _ hg => hg.grp

/-- **no task is ever lost** in a history without `gather_and_close`: no wrapper ever hits the `KeyError` of a missing
registry entry and no `flush` — however many run concurrently — ever forgets a task that still holds its slot,
whatever the mix of returns, exceptions, cancellations, callbacks and resizes -/
theorem strictAll (r : Reached base h c p) (hn : ∀ x ∈ h, x.admits noGac = true) : p.lost = false ∧ RegOK p ∧ LifeOK p :=
  (r.of strictC_invariant hn).elim fun _ hg => ⟨hg.ll rfl, hg.reg, hg.life⟩

/-- the books of every call's own `num_concurrent` semaphore, in every pool of every reachable world, whatever the
history (assignments to `pool_size` included) -/
theorem mapAll (r : Reached base h c p) : MapOK p := (r.all baseC_invariant).elim fun _ hg => hg.map

/-- request accounting, in every pool of every reachable world, whatever the history -/
theorem accAll (r : Reached base h c p) : AccOK p := (r.all baseC_invariant).elim fun _ hg => hg.acc

/-- cancelled spawners stay stopped, in every pool of every reachable world, whatever the history -/
theorem cancAll (r : Reached base h c p) : CancOK p := (r.all baseC_invariant).elim fun _ hg => hg.canc

end

/-- the number of workers that have begun and not finished -/
def Pool.live (p : Pool) : Nat := p.tasks.countP (fun t => t.phase == .inWorker)

theorem live_le_held (p : Pool) (hp : PhaseOK p) : p.live ≤ heldL p.tasks := by
  unfold Pool.live heldL
  apply List.countP_mono_left
  intro tk hmem hph
  obtain ⟨i, hi, rfl⟩ := List.getElem_of_mem hmem
  have := hp i p.tasks[i] (by simp [hi]) (by simp [NYR]; simp at hph; simp [hph])
  simp [this]

end Taskpool
