import Taskpool.Inv.SemLemmas
/-! The books of the map family's own semaphores (`num_concurrent`): frame lemma and the leaves that move a map slot;
the frame lemma of the request accounting, stated for a description `AccAt` of the books with one request singled out. -/
namespace Taskpool

/-- `q` is `p` up to changes that move no map slot -/
structure MapFrame (p q : Pool) : Prop where
  len : q.tasks.length = p.tasks.length
  tk : ∀ (t : Nat) (tk' : PTask), q.tasks[t]? = some tk' →
        ∃ tk : PTask, p.tasks[t]? = some tk ∧ tk'.mapHeld = tk.mapHeld ∧ tk'.req = tk.req
  reqs : Grown MSigLe FreshReq p.reqs q.reqs

theorem MapFrame.heldM_eq {p q : Pool} (h : MapFrame p q) (m : Nat) : heldM q.tasks m = heldM p.tasks m :=
  countP_pointwise _ _ _ h.len (fun t tk' ht => by
    obtain ⟨tk, a, b, c⟩ := h.tk t tk' ht
    exact ⟨tk, a, by rw [b, c]⟩)

theorem Tame.mapFrame {p q : Pool} (h : Tame p q) : MapFrame p q :=
  ⟨h.len, fun t tk' ht => by
      obtain ⟨tk, a, b⟩ := h.soft t tk' ht
      exact ⟨tk, a, congrArg SoftP.mapHeld b, congrArg SoftP.req b⟩,
   h.reqs⟩

theorem MapFrame.of_tasks (p q : Pool) (hr : q.reqs = p.reqs) (hl : q.tasks.length = p.tasks.length)
    (ht : ∀ (t : Nat) (tk' : PTask), q.tasks[t]? = some tk' →
        ∃ tk : PTask, p.tasks[t]? = some tk ∧ tk'.mapHeld = tk.mapHeld ∧ tk'.req = tk.req) : MapFrame p q :=
  ⟨hl, ht, hr ▸ Grown.refl MSigLe.refl _⟩

theorem MapFrame.modify (p q : Pool) (t : Nat) (f : PTask → PTask) (hr : q.reqs = p.reqs)
    (ht : q.tasks = p.tasks.modify t f) (hf : ∀ x, p.tasks[t]? = some x → (f x).mapHeld = x.mapHeld ∧ (f x).req = x.req) :
    MapFrame p q := by
  refine MapFrame.of_tasks p q hr (by rw [ht]; simp) ?_
  intro i tk' h
  rcases getElem?_modify_split (ht ▸ h) with ⟨rfl, x, hx, rfl⟩ | ⟨_, hx⟩
  · exact ⟨x, hx, hf x hx⟩
  · exact ⟨tk', hx, rfl, rfl⟩

end Taskpool

namespace Taskpool

/-- the books of the map semaphores with `k` slots of request `m` "in flight" (taken from its semaphore, or handed
back by a task, but not yet entered anywhere) -/
structure MapMid (p : Pool) (m : Nat) (k : Int) : Prop where
  ref : ∀ (t : Nat) (tk : PTask), p.tasks[t]? = some tk → tk.mapHeld = true → tk.req < p.reqs.length
  le : ∀ (m' : Nat) (r : Req), p.reqs[m']? = some r →
        ∃ v, r.mapSem.value = .fin v ∧
          ((v + heldM p.tasks m' + grantsL r.mapSem.waiters + r.pend : Nat) : Int) + (if m' = m then k else 0) ≤ r.nc ∧
          (r.outcome = none →
            (r.nc : Int) ≤ ((v + heldM p.tasks m' + grantsL r.mapSem.waiters + r.pend : Nat) : Int) + (if m' = m then k else 0))
  wk : ∀ (m' : Nat) (r : Req), p.reqs[m']? = some r → r.mapSem.WakeInv
  acq : ∀ (m' : Nat) (r : Req), p.reqs[m']? = some r → r.AcqOK

/-- the two inequalities of `MapMid.le` read the semaphore, the holders and the slots in flight through one sum: it is
enough to compare the parts that change -/
theorem bal_sem {v v' h g g' q q' : Nat} {k k' : Int}
    (e : ((v' + g' + q' : Nat) : Int) + k' = ((v + g + q : Nat) : Int) + k) :
    ((v' + h + g' + q' : Nat) : Int) + k' = ((v + h + g + q : Nat) : Int) + k := by omega

theorem bal_held_succ {v h g q : Nat} {k : Int} :
    ((v + (h + 1) + g + q : Nat) : Int) + k = ((v + h + g + q : Nat) : Int) + (k + 1) := by omega

theorem bal_pend_le {v h g q q' : Nat} {k n : Int} (hq : q' ≤ q) (hs : ((v + h + g + q : Nat) : Int) + k ≤ n) :
    ((v + h + g + q' : Nat) : Int) + k ≤ n := by omega

theorem bal_pend_ge {v h g q q' : Nat} {k n : Int} (hq : q ≤ q') (hs : n ≤ ((v + h + g + q : Nat) : Int) + k) :
    n ≤ ((v + h + g + q' : Nat) : Int) + k := by omega

theorem MapOK.mid {p : Pool} (h : MapOK p) (m : Nat) : MapMid p m 0 :=
  ⟨h.ref, fun m' r hr => by
    obtain ⟨v, hv, hs⟩ := h.le m' r hr
    refine ⟨v, hv, ?_⟩
    rw [ite_self, Int.add_zero, Int.ofNat_le, Int.ofNat_le]
    exact hs, h.wk, h.acq⟩

theorem MapMid.ok {p : Pool} {m : Nat} {k : Int} (h : MapMid p m k) (hk : k = 0 := by omega) : MapOK p :=
  ⟨h.ref, fun m' r hr => by
    subst hk
    obtain ⟨v, hv, hs⟩ := h.le m' r hr
    rw [ite_self, Int.add_zero, Int.ofNat_le, Int.ofNat_le] at hs
    exact ⟨v, hv, hs⟩, h.wk, h.acq⟩

theorem MapMid.of_eq {p q : Pool} {m : Nat} {k : Int} (h : MapMid p m k) (hr : q.reqs = p.reqs) (ht : q.tasks = p.tasks) :
    MapMid q m k :=
  ⟨fun t tk a b => by rw [hr]; rw [ht] at a; exact h.ref t tk a b,
   fun m' r a => by rw [hr] at a; rw [ht]; exact h.le m' r a,
   fun m' r a => by rw [hr] at a; exact h.wk m' r a,
   fun m' r a => by rw [hr] at a; exact h.acq m' r a⟩

theorem MapOK.of_eq {p q : Pool} (hm : MapOK p) (hr : q.reqs = p.reqs) (ht : q.tasks = p.tasks) : MapOK q :=
  ((hm.mid 0).of_eq hr ht).ok

/-- a change that moves no map slot keeps the slots in flight in flight (`m` is an existing request, or nothing is in
flight: a fresh request has no slot in flight) -/
theorem MapFrame.mid' {p q : Pool} (h : MapFrame p q) {m : Nat} {k : Int} (hm : MapMid p m k)
    (hlt : m < p.reqs.length ∨ k = 0) : MapMid q m k := by
  refine ⟨?_, ?_, ?_, ?_⟩
  · intro t tk' ht hh
    obtain ⟨tk, a, b, c⟩ := h.tk t tk' ht
    rw [c]
    exact Nat.lt_of_lt_of_le (hm.ref t tk a (b ▸ hh)) h.reqs.len
  · intro m' r' hr
    rcases h.reqs.get m' r' hr with ⟨r, a, b⟩ | ⟨hge, ⟨v, hv, hs, hs2, _⟩, _⟩
    · obtain ⟨v, hv, hs, hs2⟩ := hm.le m' r a
      refine ⟨v, b.value.trans hv, ?_⟩
      rw [h.heldM_eq, b.grants, b.nc]
      exact ⟨bal_pend_le b.pend hs, fun hnd => bal_pend_ge (b.pge hnd) (hs2 (b.out hnd))⟩
    · have hk0 : (if m' = m then k else 0) = 0 := by
        split
        · rcases hlt with x | x
          · omega
          · exact x
        · rfl
      refine ⟨v, hv, ?_⟩
      rw [h.heldM_eq, show heldM p.tasks m' = 0 from countP_req_fresh (·.mapHeld) hge hm.ref, hk0, Int.add_zero, Nat.add_zero, Int.ofNat_le, Int.ofNat_le]
      exact ⟨hs, hs2⟩
  · intro m' r' hr
    rcases h.reqs.get m' r' hr with ⟨r, a, b⟩ | ⟨_, ⟨_, _, _, _, hw⟩, _⟩
    · exact b.wk (hm.wk m' r a)
    · exact hw
  · intro m' r' hr
    rcases h.reqs.get m' r' hr with ⟨r, a, b⟩ | ⟨_, _, ha, _⟩
    · exact b.acq (hm.acq m' r a)
    · exact ha

theorem MapFrame.mid {p q : Pool} (h : MapFrame p q) {m : Nat} {k : Int} (hm : MapMid p m k) (hlt : m < p.reqs.length) :
    MapMid q m k := h.mid' hm (Or.inl hlt)

theorem MapFrame.map {p q : Pool} (h : MapFrame p q) (hm : MapOK p) : MapOK q := (h.mid' (hm.mid 0) (Or.inr rfl)).ok

theorem MapMid.modReq {p : Pool} {m : Nat} {k : Int} (h : MapMid p m k) (f : Req → Req) (k' : Int)
    (hf : ∀ r v, p.reqs[m]? = some r → r.mapSem.value = .fin v →
        ∃ v', (f r).mapSem.value = .fin v' ∧
          ((v' + grantsL (f r).mapSem.waiters + (f r).pend : Nat) : Int) + k' = (v + grantsL r.mapSem.waiters + r.pend : Nat) + k)
    (hout : ∀ r, p.reqs[m]? = some r → (f r).outcome = none → r.outcome = none)
    (hnc : ∀ r, (f r).nc = r.nc) (hacq : ∀ r, p.reqs[m]? = some r → r.AcqOK → (f r).AcqOK)
    (hwk : ∀ r, p.reqs[m]? = some r → r.mapSem.WakeInv → (f r).mapSem.WakeInv := by intro _ _ h; exact h) :
    MapMid (p.modReq m f) m k' := by
  refine ⟨fun t tk ht hh => (List.length_modify ..).symm ▸ h.ref t tk ht hh,
    forall_modify h.le (fun x hx ⟨v, hv, hs, hs2⟩ => ?_) (fun i x ne hx => by rw [if_neg ne] at hx ⊢; exact hx),
    forall_modify h.wk hwk fun _ _ _ w => w, forall_modify h.acq hacq fun _ _ _ w => w⟩
  obtain ⟨v', hv', hs'⟩ := hf x v hx hv
  refine ⟨v', hv', ?_⟩
  rw [if_pos rfl] at hs hs2 ⊢
  rw [hnc, Pool.modReq_tasks, bal_sem hs']
  exact ⟨hs, fun hnd => hs2 (hout x hx hnd)⟩

/-- task `t` of request `m` hands back its map slot: one more slot of `m` in flight -/
theorem MapMid.dropTask {p : Pool} {m : Nat} {k : Int} (h : MapMid p m k) (t : Nat) (f : PTask → PTask) (x : PTask)
    (hx : p.tasks[t]? = some x) (h1 : x.mapHeld = true) (h2 : x.req = m) (hf : (f x).mapHeld = false)
    (hq : (f x).req = x.req) : MapMid (p.modTask t f) m (k + 1) := by
  refine ⟨?_, ?_, h.wk, h.acq⟩
  · intro i tk' ht hh
    rcases getElem?_modify_cases hx ht with ⟨_, rfl⟩ | ⟨_, hy⟩
    · rw [hf] at hh; cases hh
    · exact h.ref i tk' hy hh
  · intro m' r hr
    obtain ⟨v, hv, hs, hs2⟩ := h.le m' r hr
    refine ⟨v, hv, ?_⟩
    rw [Pool.modTask_tasks]
    have hc := countP_modify (fun t => t.mapHeld && t.req == m') f p.tasks t x hx
    rw [hf, h1, hq, h2, Bool.false_and, Bool.true_and, if_neg Bool.false_ne_true] at hc
    by_cases e : m' = m
    · subst e
      rw [beq_self_eq_true, if_pos rfl] at hc
      have hc' : heldM p.tasks m' = heldM (p.tasks.modify t f) m' + 1 := hc.symm
      rw [if_pos rfl, hc', bal_held_succ] at hs hs2
      rw [if_pos rfl]
      exact ⟨hs, hs2⟩
    · rw [beq_false_of_ne (fun e' => e e'.symm), if_neg Bool.false_ne_true] at hc
      have hc' : heldM p.tasks m' = heldM (p.tasks.modify t f) m' := hc.symm
      rw [if_neg e, hc'] at hs hs2
      rw [if_neg e]
      exact ⟨hs, hs2⟩

/-- a task is appended; if it holds a map slot (then one of `m`), a slot in flight is entered in the books -/
theorem MapMid.addTask {p : Pool} {m : Nat} {k k' : Int} (x : PTask) (h : MapMid p m k')
    (hk : k' = k + if x.mapHeld = true then 1 else 0) (hq : x.mapHeld = true → x.req = m ∧ m < p.reqs.length)
    (q : Pool) (ht : q.tasks = p.tasks ++ [x]) (hr : q.reqs = p.reqs) : MapMid q m k := by
  subst hk
  refine ⟨?_, ?_, fun m' r h' => h.wk m' r (hr ▸ h'), fun m' r h' => h.acq m' r (hr ▸ h')⟩
  · intro i tk hi hh
    rw [ht] at hi
    rw [hr]
    rcases getElem?_append_one hi with hi | ⟨_, rfl⟩
    · exact h.ref i tk hi hh
    · rw [(hq hh).1]; exact (hq hh).2
  · intro m' r h'
    rw [hr] at h'
    obtain ⟨v, hv, hs, hs2⟩ := h.le m' r h'
    rw [ht, heldM, List.countP_append, List.countP_singleton, ← heldM]
    cases hh : x.mapHeld with
    | false =>
      rw [hh, if_neg Bool.false_ne_true, Int.add_zero] at hs hs2
      rw [Bool.false_and, if_neg Bool.false_ne_true]
      exact ⟨v, hv, hs, hs2⟩
    | true =>
      rw [hh, if_pos rfl] at hs hs2
      rw [Bool.true_and, (hq hh).1]
      by_cases e : m' = m
      · subst e
        rw [if_pos rfl] at hs hs2 ⊢
        rw [beq_self_eq_true, if_pos rfl]
        refine ⟨v, hv, ?_⟩
        rw [bal_held_succ]
        exact ⟨hs, hs2⟩
      · rw [if_neg e] at hs hs2 ⊢
        rw [beq_false_of_ne (fun e' => e e'.symm), if_neg Bool.false_ne_true]
        exact ⟨v, hv, hs, hs2⟩

end Taskpool

namespace Taskpool

theorem MapFrame.trans {p q r : Pool} (h1 : MapFrame p q) (h2 : MapFrame q r) : MapFrame p r := by
  refine ⟨h2.len.trans h1.len, fun t tk'' h => ?_, Grown.trans (fun a b => b.trans a) (fun k n => n.le k) h1.reqs h2.reqs⟩
  obtain ⟨tk', a, b, c⟩ := h2.tk t tk'' h
  obtain ⟨tk, a', b', c'⟩ := h1.tk t tk' a
  exact ⟨tk, a', b.trans b', c.trans c'⟩

namespace Pool

theorem semSched_mapFrame (p : Pool) (s : Sem) (o : Option Nat) : MapFrame p (({ p with sem := s } : Pool).schedOpt o) :=
  (MapFrame.of_tasks p ({ p with sem := s } : Pool) rfl rfl (fun _ tk' h => ⟨tk', h, rfl, rfl⟩)).trans (tame_schedOpt _ o).mapFrame

theorem mapFrame_releasePool (p : Pool) : MapFrame p p.releasePool := semSched_mapFrame p _ _

theorem mapFrame_modReq (p : Pool) (m : Nat) (f : Req → Req)
    (hf : ∀ x, MSigLe (f x) x := by intro x; exact MSigLe.of_eq) :
    MapFrame p (p.modReq m f) :=
  ⟨rfl, fun _ tk' h => ⟨tk', h, rfl, rfl⟩, Grown.modify MSigLe.refl m f hf⟩

theorem _root_.Taskpool.Sem.release_own (s : Sem) (i : Nat) (h : ownCancelled i s.waiters) : ownCancelled i s.release.1.waiters := by
  unfold Sem.release Sem.wakeNext
  exact ownCancelled_wake i _ _ h

theorem _root_.Taskpool.Sem.wakeNext_own (s : Sem) (i : Nat) (h : ownCancelled i s.waiters) : ownCancelled i s.wakeNext.1.waiters := by
  unfold Sem.wakeNext
  exact ownCancelled_wake i _ _ h

/-- `_enough_room.release()` wakes pending waiters only: a cancelled spawner stays doomed -/
theorem cancOK_releasePool {E : Nat → Prop} (p : Pool) (h : CancEx E p) : CancEx E p.releasePool := by
  unfold releasePool
  refine (tame_schedOpt _ _).cok E ?_
  exact h.frame (fun i x => Sem.release_own p.sem i x) (fun _ r' a => Or.inl ⟨r', a, CSame.refl r'⟩)

theorem cancOK_releaseMap {E : Nat → Prop} (p : Pool) (m : Nat) (h : CancEx E p) : CancEx E (p.releaseMap m) := by
  unfold releaseMap
  split
  · exact h
  · rename_i r hr
    refine (tame_schedOpt _ _).cok E ?_
    refine h.frame (fun _ x => x) ?_
    intro i r' a
    rcases getElem?_modify_split a with ⟨rfl, x, hx, rfl⟩ | ⟨_, hx⟩
    · cases hr.symm.trans hx
      exact Or.inl ⟨r, hx, rfl, rfl, rfl, Or.inl rfl, fun h => Or.inl h, fun i h => Or.inl (Sem.release_own r.mapSem i h)⟩
    · exact Or.inl ⟨r', hx, CSame.refl r'⟩

theorem tame0_releaseMap (p : Pool) (m) : Tame0 p (p.releaseMap m) := by
  unfold releaseMap
  split
  · exact Tame0.refl p
  · exact (tame0_modReq p m _).trans (tame_schedOpt _ _).toTame0

/-- `release()` of request `m`'s own semaphore enters one slot in flight in the books again -/
theorem mapMid_releaseMap {p : Pool} {m : Nat} {k : Int} (h : MapMid p m (k + 1)) (hlt : m < p.reqs.length) :
    MapMid (p.releaseMap m) m k := by
  unfold releaseMap
  split
  · rename_i hn
    rw [List.getElem?_eq_none_iff] at hn
    omega
  · rename_i r hr
    have h1 : MapMid (p.modReq m fun x => { x with mapSem := r.mapSem.release.1 }) m k := by
      refine h.modReq _ k ?_ (fun _ _ hnd => hnd) (fun _ => rfl) (fun _ _ ha => ha)
        (fun _ _ _ v _ _ hg => Sem.release_wake r.mapSem hg)
      intro r0 v hr0 hv
      rw [hr] at hr0; cases hr0
      obtain ⟨v', a, b⟩ := Sem.release_effect r.mapSem v hv
      refine ⟨v', a, ?_⟩
      show ((v' + grantsL r.mapSem.release.1.waiters + r.pend : Nat) : Int) + k = _
      omega
    exact (tame_schedOpt _ _).mapFrame.mid h1 (by simpa [modReq] using hlt)

end Pool
end Taskpool

namespace Taskpool

structure AccAt (p : Pool) (m : Nat) (P : Cnt → MFrame → Prop) : Prop where
  ref : ∀ (t : Nat) (tk : PTask), p.tasks[t]? = some tk → tk.req < p.reqs.length
  tk : ∀ (m' : Nat) (r : Req), p.reqs[m']? = some r → tasksOf p.tasks m' = r.created
  rq : ∀ (m' : Nat) (r : Req), p.reqs[m']? = some r → m' ≠ m → AccReq r.cnt r.frame 0
  here : ∀ (r : Req), p.reqs[m]? = some r → P r.cnt r.frame

theorem AccOK.atReq {p : Pool} (h : AccOK p) (m : Nat) : AccAt p m (fun c fr => AccReq c fr 0) :=
  ⟨h.ref, h.tk, fun m' r hr _ => h.rq m' r hr, fun r hr => h.rq m r hr⟩

theorem AccAt.ok {p : Pool} {m : Nat} {P : Cnt → MFrame → Prop} (h : AccAt p m P)
    (hP : ∀ c fr, P c fr → AccReq c fr 0) : AccOK p :=
  ⟨h.ref, h.tk, fun m' r hr => by
    by_cases e : m' = m
    · subst e; exact hP _ _ (h.here r hr)
    · exact h.rq m' r hr e⟩

/-- a change that moves no map slot keeps the description, if `P` does not care about a frame moved to `done` (`m` is an
existing request, or `P` holds of a fresh request) -/
theorem MapFrame.atReq' {p q : Pool} (h : MapFrame p q) {m : Nat} {P : Cnt → MFrame → Prop} (ha : AccAt p m P)
    (hlt : m < p.reqs.length ∨ ∀ c fr, c.fresh → (fr = .notStarted ∨ fr = .done ∨ fr = .running) → P c fr)
    (hP : ∀ c fr fr', P c fr → (fr' = fr ∨ fr' = .done) → P c fr') : AccAt q m P := by
  have hok : ∀ m', tasksOf q.tasks m' = tasksOf p.tasks m' := fun m' =>
    countP_pointwise _ _ _ h.len (fun t tk' ht => by
      obtain ⟨tk, a, _, b⟩ := h.tk t tk' ht
      exact ⟨tk, a, by rw [b]⟩)
  refine ⟨?_, ?_, ?_, ?_⟩
  · intro t tk' ht
    obtain ⟨tk, a, _, b⟩ := h.tk t tk' ht
    rw [b]
    exact Nat.lt_of_lt_of_le (ha.ref t tk a) h.reqs.len
  · intro m' r' hr
    rw [hok]
    rcases h.reqs.get m' r' hr with ⟨r, a, b⟩ | ⟨hge, _, _, hc, _⟩
    · rw [ha.tk m' r a]
      exact (congrArg Cnt.created b.cnt).symm
    · rw [show tasksOf p.tasks m' = 0 from countP_req_fresh (fun _ => true) hge fun t tk h _ => ha.ref t tk h]
      exact hc.1.symm
  · intro m' r' hr hne
    rcases h.reqs.get m' r' hr with ⟨r, a, b⟩ | ⟨_, _, _, hc, hf⟩
    · rw [b.cnt]
      exact (ha.rq m' r a hne).frame (b.fr.elim Or.inl fun e => Or.inr (Or.inl e))
    · exact AccReq.fresh hc hf
  · intro r' hr
    rcases h.reqs.get m r' hr with ⟨r, a, b⟩ | ⟨hge, _, _, hc, hf⟩
    · rw [b.cnt]
      exact hP _ _ _ (ha.here r a) b.fr
    · exact hlt.elim (fun x => absurd x (Nat.not_lt.mpr hge)) (fun x => x _ _ hc hf)

theorem MapFrame.atReq {p q : Pool} (h : MapFrame p q) {m : Nat} {P : Cnt → MFrame → Prop} (ha : AccAt p m P)
    (hlt : m < p.reqs.length) (hP : ∀ c fr fr', P c fr → (fr' = fr ∨ fr' = .done) → P c fr') : AccAt q m P :=
  h.atReq' ha (Or.inl hlt) hP

theorem MapFrame.acc {p q : Pool} (h : MapFrame p q) (ha : AccOK p) : AccOK q :=
  (h.atReq' (ha.atReq 0) (Or.inr fun _ _ => AccReq.fresh) (fun _ _ _ x e => x.frame (e.elim Or.inl fun e => Or.inr (Or.inl e)))).ok
    fun _ _ x => x

theorem Tame.map {p q : Pool} (h : Tame p q) : MapOK p → MapOK q := h.mapFrame.map
theorem Tame.acc {p q : Pool} (h : Tame p q) : AccOK p → AccOK q := h.mapFrame.acc

theorem Tame.good {cap : Cap} {L R : Bool} {p q : Pool} (h : Tame p q) (hg : Good cap L R p) : Good cap L R q :=
  ⟨h.toTame0.good0 hg.toGood0, h.map hg.map, h.acc hg.acc, h.cok _ hg.canc⟩

theorem AccAt.of_eq {p q : Pool} {m : Nat} {P : Cnt → MFrame → Prop} (h : AccAt p m P) (hr : q.reqs = p.reqs)
    (ht : q.tasks = p.tasks) : AccAt q m P :=
  ⟨fun t tk a => by rw [hr]; rw [ht] at a; exact h.ref t tk a,
   fun m' r a => by rw [hr] at a; rw [ht]; exact h.tk m' r a,
   fun m' r a b => by rw [hr] at a; exact h.rq m' r a b,
   fun r a => by rw [hr] at a; exact h.here r a⟩

theorem AccOK.of_eq {p q : Pool} (h : AccOK p) (hr : q.reqs = p.reqs) (ht : q.tasks = p.tasks) : AccOK q :=
  ((h.atReq 0).of_eq hr ht).ok fun _ _ x => x

theorem AccOK.modTask {p : Pool} (h : AccOK p) (t : Nat) (f : PTask → PTask) (hf : ∀ x, (f x).req = x.req) :
    AccOK (p.modTask t f) := by
  have hreq : ∀ (i : Nat) (tk' : PTask), (p.modTask t f).tasks[i]? = some tk' → ∃ tk, p.tasks[i]? = some tk ∧ tk'.req = tk.req :=
    fun i tk' hi => by
      obtain ⟨y, hy, rfl⟩ := getElem?_modify_some p.tasks t i f tk' hi
      exact ⟨y, hy, ite_keeps (P := fun z : PTask => z.req = y.req) (hf y) rfl⟩
  refine ⟨fun i tk' hi => ?_, fun m r hr => ?_, h.rq⟩
  · obtain ⟨y, hy, e⟩ := hreq i tk' hi
    exact e ▸ h.ref i y hy
  · refine (countP_pointwise _ _ _ (List.length_modify ..) fun i tk' hi => ?_).trans (h.tk m r hr)
    obtain ⟨y, hy, e⟩ := hreq i tk' hi
    exact ⟨y, hy, by rw [e]⟩

end Taskpool

namespace Taskpool

theorem MapMid.emitRef {p : Pool} {m : Nat} {k : Int} (h : MapMid p m k) (r : Ref) : MapMid (p.emitRef r) m k :=
  h.of_eq rfl rfl

theorem MapMid.modReq_same {p : Pool} {m : Nat} {k : Int} (h : MapMid p m k) (f : Req → Req)
    (hs : ∀ r, (f r).mapSem = r.mapSem ∧ (f r).nc = r.nc ∧ (f r).pend = r.pend ∧ (r.AcqOK → (f r).AcqOK) ∧
      ((f r).outcome = none → r.outcome = none)) :
    MapMid (p.modReq m f) m k := by
  refine h.modReq f k ?_ (fun r _ => (hs r).2.2.2.2) (fun r => (hs r).2.1) (fun r _ ha => (hs r).2.2.2.1 ha)
    (fun r _ hw => by rw [(hs r).1]; exact hw)
  intro r v _ hv
  exact ⟨v, by rw [(hs r).1]; exact hv, by rw [(hs r).1, (hs r).2.2.1]⟩

end Taskpool

namespace Taskpool

theorem AccAt.modReq {p : Pool} {m : Nat} {P P' : Cnt → MFrame → Prop} (h : AccAt p m P) (f : Req → Req)
    (hc : ∀ r, (f r).created = r.created)
    (hf : ∀ r, p.reqs[m]? = some r → P r.cnt r.frame → P' (f r).cnt (f r).frame) :
    AccAt (p.modReq m f) m P' :=
  ⟨fun t tk ht => (List.length_modify ..).symm ▸ h.ref t tk ht,
    forall_modify h.tk (fun x _ e => e.trans (hc x).symm) fun _ _ _ e => e,
    forall_modify h.rq (fun _ _ _ ne => absurd rfl ne) fun _ _ _ e => e,
    fun r' hr => by
      obtain ⟨x, hx, rfl⟩ := getElem?_modify_self hr
      exact hf x hx (h.here x hx)⟩

theorem AccAt.emitRef {p : Pool} {m : Nat} {P : Cnt → MFrame → Prop} (h : AccAt p m P) (r : Ref) :
    AccAt (p.emitRef r) m P := h.of_eq rfl rfl

namespace Pool

theorem _root_.Taskpool.AccAt.modReqOther {p : Pool} {m : Nat} {P : Cnt → MFrame → Prop} (h : AccAt p m P) (w : Nat)
    (hw : w ≠ m) (f : Req → Req) (hf : ∀ x, (f x).cnt = x.cnt ∧ (f x).frame = x.frame) : AccAt (p.modReq w f) m P :=
  ⟨fun t tk ht => (List.length_modify ..).symm ▸ h.ref t tk ht,
    forall_modify h.tk (fun x _ e => e.trans (congrArg Cnt.created (hf x).1).symm) fun _ _ _ e => e,
    forall_modify h.rq (fun x _ e ne => by rw [(hf x).1, (hf x).2]; exact e ne) fun _ _ _ e => e,
    fun r' hr' => (getElem?_modify_split hr').elim (fun e => absurd e.1.symm hw) fun e => h.here r' e.2⟩

theorem _root_.Taskpool.AccAt.schedOpt {p : Pool} {m : Nat} {P : Cnt → MFrame → Prop} (h : AccAt p m P) (o : Option Nat) :
    AccAt (p.schedOpt o) m P := by
  cases o with
  | none => exact h
  | some w =>
    simp only [Pool.schedOpt, schedMeta]
    refine AccAt.emitRef ?_ _
    by_cases e : w = m
    · subst e
      exact h.modReq _ (fun _ => rfl) (fun _ _ hp => hp)
    · exact h.modReqOther w e _ (fun _ => ⟨rfl, rfl⟩)

theorem accFrame_releaseMap' (p : Pool) (m : Nat) :
    p.reqs.length ≤ (p.releaseMap m).reqs.length ∧
    ∀ {P : Cnt → MFrame → Prop}, AccAt p m P → AccAt (p.releaseMap m) m P := by
  unfold releaseMap
  split
  · exact ⟨Nat.le_refl _, id⟩
  · rename_i r hr
    refine ⟨Nat.le_trans (Nat.le_of_eq (List.length_modify ..).symm)
      (tame_schedOpt (p.modReq m fun x => { x with mapSem := r.mapSem.release.1 }) _).rql, fun h => ?_⟩
    exact (h.modReq (fun x => { x with mapSem := r.mapSem.release.1 }) (fun _ => rfl) (fun _ _ hp => hp)).schedOpt _

end Pool
end Taskpool
