import Taskpool.Inv.QueueRefine
/-! C20: what the step that ends a consumer does — one that holds no item, one inside its block —, and what one
step does to a `join()` waiter. -/
namespace Taskpool.QueueM

/-- the only steps that end a consumer: the abort of one that holds no item yet, and the exit of a block -/
theorem KStep.consumer_done {k k' : K} (h : KStep k k') (c : Nat) (x x' : Core) (hx : k.cores[c]? = some x)
    (hx' : k'.cores[c]? = some x') (hnd : Q.isDone x.phase = false) (hd : Q.isDone x'.phase = true) :
    (preBlock x.phase = true ∧ k' = k.abort c) ∨ (isInBlock x.phase = true ∧ ∃ e, k' = k.exit c e) := by
  have same : k'.cores[c]? = k.cores[c]? → False := fun e => by
    rw [e, hx] at hx'; cases hx'; rw [hnd] at hd; cases hd
  -- one consumer changes: another one, or `c` into a phase that is not final
  have mod : ∀ c0 (f : Core → Core), k'.cores = k.cores.modify c0 f → (c0 = c → Q.isDone (f x).phase = false) → False := by
    intro c0 f e hf
    rw [e] at hx'
    rcases getElem?_modify_split hx' with ⟨rfl, y, hy, rfl⟩ | ⟨_, h⟩
    · rw [hx] at hy; cases hy; rw [hf rfl] at hd; cases hd
    · rw [hx] at h; cases h; rw [hnd] at hd; cases hd
  cases h with
  | refl => exact (same rfl).elim
  | put y => exact (same rfl).elim
  | spawn => exact (same (List.getElem?_append_left (List.getElem?_eq_some_iff.1 hx).1)).elim
  | join => exact (same rfl).elim
  | wait c0 x0 h0 hp0 => exact (mod c0 _ rfl fun _ => rfl).elim
  | take c0 x0 h0 hp0 =>
    rcases K.take_cases k c0 with ⟨_, e⟩ | ⟨y, rest, _, e⟩
    · exact (same (by rw [e])).elim
    · exact (mod c0 (fun z => { z with phase := .inBlock y }) (by rw [e]; rfl) fun _ => rfl).elim
  | abort c0 x0 h0 hp0 =>
    by_cases hc : c0 = c
    · subst hc; rw [hx] at h0; cases h0; exact .inl ⟨hp0, rfl⟩
    · exact (mod c0 _ rfl fun e => absurd e hc).elim
  | exit c0 x0 e h0 hp0 =>
    by_cases hc : c0 = c
    · subst hc; rw [hx] at h0; cases h0; exact .inr ⟨hp0, e, rfl⟩
    · exact (mod c0 _ (by rw [K.exit_eq]) fun e => absurd e hc).elim
  | stepJ j => exact (same (by rw [(K.view_stepJoiner k j).2])).elim
  | handTake => exact (same (by rw [K.cores_handTake])).elim
  | produce y => exact (same rfl).elim
  | pwait j0 p0 _ _ _ => exact (same rfl).elim
  | pput j0 p0 h0 _ _ => exact (same (by rw [K.pput_eq k j0 p0 h0]; rfl)).elim
  | pabort j0 p0 _ _ => exact (same rfl).elim

/-- a step that ends a consumer which was never handed an item: it ended by cancellation, made no `task_done()`
call, removed no item -/
theorem KStep.cancelled_waiter {k k' : K} (h : KStep k k') (hi : k.Inv) (c : Nat) (x x' : Core)
    (hx : k.cores[c]? = some x) (hp : preBlock x.phase = true) (hx' : k'.cores[c]? = some x') (hd : Q.isDone x'.phase = true) :
    x'.phase = .done .cancelled false ∧ x'.marks = 0 ∧ k'.items = k.items ∧ k'.unfinished = k.unfinished
      ∧ k'.tdCalls = k.tdCalls ∧ k'.exits = k.exits ∧ k'.puts = k.puts ∧ k'.takes = k.takes := by
  have hm : x.marks = 0 := by
    have := hi.core x (List.mem_of_getElem? hx)
    simpa [CoreOK, Core.tookDone, (preBlock_phase hp).2.1] using this
  rcases h.consumer_done c x x' hx hx' (preBlock_phase hp).2.2 hd with ⟨_, rfl⟩ | ⟨hib, _⟩
  · simp only [K.abort, K.setPhase, List.getElem?_modify, hx, Option.map_eq_map, Option.map_some, if_true,
      Option.some.injEq] at hx'
    subst hx'
    exact ⟨rfl, hm, rfl, rfl, rfl, rfl, rfl, rfl⟩
  · rw [(preBlock_phase hp).1] at hib; cases hib

/-- a step that ends a consumer which is inside its block: the block was left (normally, by exception or by
cancellation), and that exit made exactly one `task_done()` call — the consumer's only one — which brought the
unfinished counter down by exactly one; no item was removed, nothing was hand-marked -/
theorem KStep.block_exit {k k' : K} (h : KStep k k') (hi : k.Inv) (c : Nat) (x x' : Core)
    (hx : k.cores[c]? = some x) (hp : isInBlock x.phase = true) (hx' : k'.cores[c]? = some x') (hd : Q.isDone x'.phase = true) :
    x.marks = 0 ∧ x'.marks = 1 ∧ (∃ e, x'.phase = .done e true) ∧ k'.tdCalls = k.tdCalls + 1 ∧ k'.exits = k.exits + 1
      ∧ k'.unfinished + 1 = k.unfinished ∧ k'.takes = k.takes ∧ k'.items = k.items ∧ k'.puts = k.puts
      ∧ k'.valueErrors = k.valueErrors := by
  have hm : x.marks = 0 := by
    have := hi.core x (List.mem_of_getElem? hx)
    simpa [CoreOK, Core.tookDone, (inBlock_phase hp).2.1] using this
  have hpos := hi.pos_of_inBlock c x hx hp
  rcases h.consumer_done c x x' hx hx' (inBlock_phase hp).2.2 hd with ⟨hpre, _⟩ | ⟨_, e, rfl⟩
  · rw [(inBlock_phase hp).1] at hpre; cases hpre
  · rw [K.exit_eq, K.taskDone_eq] at hx' ⊢
    simp only [List.getElem?_modify, hx, Option.map_eq_map, Option.map_some, if_true, Option.some.injEq] at hx'
    subst hx'
    exact ⟨hm, by simp [hm], ⟨e, rfl⟩, rfl, rfl, Nat.sub_add_cancel hpos, rfl, rfl, rfl, if_neg (Nat.ne_of_gt hpos)⟩

theorem K.release_taskDone (k : K) (hpos : 0 < k.unfinished) (j : Nat) (x : Joiner) (hx : k.joiners[j]? = some x)
    (hf : x.fut = .pending) (hmem : j ∈ k.evWaiters) :
    ∃ x', k.taskDone.joiners[j]? = some x' ∧ x'.phase = x.phase ∧
      ((k.taskDone.unfinished = 0 ∧ x'.fut = .woken ∧ x'.sched = true) ∨ (0 < k.taskDone.unfinished ∧ x' = x)) := by
  obtain ⟨t1, t2⟩ := K.joiner_taskDone k j
  have hw : k.wakes j x = true := by simp [K.wakes, hf, hmem]
  rw [t1, t2, hx, Option.map_some]
  by_cases h1 : k.unfinished = 1
  · rw [if_pos ⟨h1, hw⟩]
    exact ⟨_, rfl, rfl, .inl ⟨by omega, rfl, rfl⟩⟩
  · rw [if_neg (fun h => h1 h.1)]
    exact ⟨_, rfl, rfl, .inr ⟨by omega, rfl⟩⟩

/-- a `join()` waiter whose future is pending stays exactly as it is through every step that leaves
unfinished work, and is woken (future resolved, task scheduled) by the step that brings the counter to zero -/
theorem KStep.join_release {k k' : K} (h : KStep k k') (hi : k.Inv) (j : Nat) (x : Joiner)
    (hx : k.joiners[j]? = some x) (hp : x.phase = .waiting) (hf : x.fut = .pending) :
    0 < k.unfinished ∧ ∃ x', k'.joiners[j]? = some x' ∧ x'.phase = .waiting ∧
      ((k'.unfinished = 0 ∧ x'.fut = .woken ∧ x'.sched = true) ∨ (0 < k'.unfinished ∧ x' = x)) := by
  obtain ⟨hmem, hs, hpos⟩ := hi.jn.wait j x hx hp hf
  refine ⟨hpos, ?_⟩
  have same : ∃ x', k.joiners[j]? = some x' ∧ x'.phase = .waiting ∧
      ((k.unfinished = 0 ∧ x'.fut = .woken ∧ x'.sched = true) ∨ (0 < k.unfinished ∧ x' = x)) :=
    ⟨x, hx, hp, .inr ⟨hpos, rfl⟩⟩
  cases h with
  | refl => exact same
  | put y => exact ⟨x, hx, hp, .inr ⟨Nat.succ_pos _, rfl⟩⟩
  | spawn => exact same
  | join => exact ⟨x, (List.getElem?_append_left (List.getElem?_eq_some_iff.1 hx).1).trans hx, hp, .inr ⟨hpos, rfl⟩⟩
  | wait c0 x0 h0 hp0 => exact same
  | take c0 x0 h0 hp0 => rcases K.take_cases k c0 with ⟨_, e⟩ | ⟨y, rest, _, e⟩ <;> rw [e] <;> exact same
  | abort c0 x0 h0 hp0 => exact same
  | exit c0 x0 e h0 hp0 =>
    rw [K.exit_eq]
    exact hp ▸ K.release_taskDone k hpos j x hx hf hmem
  | stepJ j0 =>
    obtain ⟨W, f, e, hf0⟩ := K.stepJoiner_eq k j0
    rw [e]
    refine ⟨x, ?_, hp, .inr ⟨hpos, rfl⟩⟩
    show (k.joiners.modify j0 f)[j]? = some x
    rw [List.getElem?_modify, hx]
    by_cases hj0 : j0 = j
    · subst hj0; simp [(hf0 x hx).2 hs]
    · simp [hj0]
  | handTake =>
    rcases K.handTake_cases k with ⟨_, e⟩ | ⟨y, rest, hit, e⟩ <;> rw [e]
    · exact same
    · exact hp ▸ K.release_taskDone ({ k with items := rest, takes := k.takes + 1 } : K) hpos j x hx hf hmem
  | produce y => exact same
  | pwait j0 p0 _ _ _ => exact same
  | pput j0 p0 h0 _ _ =>
    rw [K.pput_eq k j0 p0 h0]
    exact ⟨x, hx, hp, .inr ⟨Nat.succ_pos _, rfl⟩⟩
  | pabort j0 p0 _ _ => exact same

/-- the first step of a `join()` task returns at once iff nothing is unfinished; otherwise it
registers as a waiter of the event -/
theorem K.join_at_call (k : K) (hi : k.Inv) (j : Nat) (x : Joiner) (hx : k.joiners[j]? = some x) (hp : x.phase = .notStarted) :
    ∃ x', (k.stepJoiner j).joiners[j]? = some x' ∧
      ((k.unfinished = 0 ∧ x'.phase = .done ∧ k.joins j = true) ∨
       (0 < k.unfinished ∧ x'.phase = .waiting ∧ x'.fut = .pending ∧ x'.sched = false ∧ j ∈ (k.stepJoiner j).evWaiters
          ∧ k.joins j = false)) := by
  obtain ⟨hf, hs, hn⟩ := hi.jn.fresh j x hx hp
  have hfin := hi.jn.fin
  unfold K.stepJoiner K.joins
  simp only [hx, hs, hp, Bool.not_true, Bool.false_eq_true, if_false, Bool.true_and]
  unfold K.joinStart
  by_cases h0 : k.unfinished = 0
  · have : k.finished = true := hfin.2 h0
    simp [h0, K.modJ, hx]
  · have hpos : 0 < k.unfinished := by omega
    have : k.finished = false := by
      cases hk : k.finished with
      | false => rfl
      | true => exact absurd (hfin.1 hk) h0
    simp [hpos, this, K.modJ, hx, hf, h0]

/-- a released waiter's next step makes `join()` return -/
theorem K.join_wakeup (k : K) (hi : k.Inv) (j : Nat) (x : Joiner) (hx : k.joiners[j]? = some x) (hp : x.phase = .waiting)
    (hf : x.fut = .woken) :
    x.sched = true ∧ k.joins j = true ∧ ∃ x', (k.stepJoiner j).joiners[j]? = some x' ∧ x'.phase = .done := by
  obtain ⟨-, hs⟩ := hi.jn.woken j x hx hp (by simp [hf])
  refine ⟨hs, by simp [K.joins, hx, hs, hp], ?_⟩
  unfold K.stepJoiner
  simp [hx, hs, hp, K.joinWake, K.modJ]

end Taskpool.QueueM
