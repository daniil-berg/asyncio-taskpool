import Taskpool.Inv.Basics
/-! Lifting a pool-local invariant to every pool of every reachable world: induction over the input list — every
history, every length, every handle order.  Four entry points:
* `World.reachable`, for a `PoolInvariant`: the invariant reads the pool only, and every step of any pool keeps it;
* `World.ready_run`, for a `ReadyInvariant`: it also reads the handles the loop's ready queue holds for the pool;
* `World.all_next_local`, one input: for an invariant whose obligations need a fact about the pools of the world at
  hand that is no part of it (the caller supplies the fact and does the induction);
* `World.run_keeps`, the induction for a property of worlds whose obligation for an input needs the history so far
  (used together with `all_next_local`, as in `World.sealed2_run`). -/
namespace Taskpool

/-- which inputs of a history a theorem admits: a predicate on the operations addressed to pools -/
def WOp.admits (ok : Op → Bool) : WOp → Bool
  | .on _ _ op => ok op
  | _ => true

/-- a pool-local invariant, possibly depending on what the pool was constructed with (`Cfg`).  `op` / `run` speak of
`{ p with orders := orders }`: the cancel orders observed on the implementation are an input of the step (`WOp.on`,
`WOp.run` carry them), so every invariant needs its lemma that it reads no `orders`; `drain`: the queued handles move
to the loop -/
structure PoolInvariant (I : Cfg → Pool → Prop) (ok : Op → Bool) : Prop where
  init : ∀ (c : Cfg) (simple : Option SpawnSpec), c.isSimple = simple.isSome → I c (Pool.init c.size0 simple)
  op : ∀ (c : Cfg) (p : Pool) (orders : List (List Nat)) (o : Op), ok o = true → I c p →
        I c (({ p with orders := orders } : Pool).applyOp o).1
  run : ∀ (c : Cfg) (p : Pool) (orders : List (List Nat)) (r : Ref), I c p →
        I c (({ p with orders := orders } : Pool).runRef r)
  drain : ∀ (c : Cfg) (p : Pool), I c p → I c { p with emit := [] }

structure World.All (I : Cfg → Pool → Prop) (w : World) : Prop where
  len : w.cfgs.length = w.pools.length
  inv : ∀ (i : Nat) (c : Cfg) (p : Pool), w.cfgs[i]? = some c → w.pools[i]? = some p → I c p

theorem World.All.mono {I J : Cfg → Pool → Prop} {w : World} (hw : w.All I) (h : ∀ c p, I c p → J c p) : w.All J :=
  ⟨hw.len, fun i c p hc hp => h c p (hw.inv i c p hc hp)⟩

theorem World.All.get {I : Cfg → Pool → Prop} {w : World} (hw : w.All I) {i : Nat} {p : Pool} (hp : w.pools[i]? = some p) :
    ∃ c, w.cfgs[i]? = some c ∧ I c p :=
  have hi : i < w.cfgs.length := hw.len ▸ (lt_of_getElem?_some hp)
  ⟨_, List.getElem?_eq_getElem hi, hw.inv i _ p (List.getElem?_eq_getElem hi) hp⟩

theorem World.All.set {I : Cfg → Pool → Prop} {w : World} (hw : w.All I) (i : Nat) (q : Pool)
    (hq : ∀ c, w.cfgs[i]? = some c → I c q) (w' : World)
    (hc : w'.cfgs = w.cfgs) (hps : w'.pools = w.pools.set i q) : w'.All I := by
  refine ⟨by rw [hc, hps, List.length_set]; exact hw.len, ?_⟩
  intro j c x hjc hjx
  rw [hc] at hjc; rw [hps] at hjx
  rcases getElem?_set_some _ _ _ _ _ hjx with ⟨rfl, rfl⟩ | ⟨_, h⟩
  · exact hq c hjc
  · exact hw.inv j c x hjc h

theorem World.All.push {I : Cfg → Pool → Prop} {w : World} (hw : w.All I) (c : Cfg) (p : Pool) (h : I c p) (w' : World)
    (hc : w'.cfgs = w.cfgs ++ [c]) (hp : w'.pools = w.pools ++ [p]) : w'.All I := by
  refine ⟨by rw [hc, hp, List.length_append, List.length_append, hw.len]; rfl, fun i c' p' hic hip => ?_⟩
  rw [hc] at hic
  rw [hp] at hip
  rcases getElem?_append_one hic with a | ⟨a, rfl⟩
  · rcases getElem?_append_one hip with b | ⟨b, rfl⟩
    · exact hw.inv i c' p' a b
    · have := lt_of_getElem?_some a
      rw [hw.len] at this
      omega
  · rcases getElem?_append_one hip with b | ⟨_, rfl⟩
    · have := lt_of_getElem?_some b
      rw [hw.len] at a
      omega
    · exact h

/-- one input of a world: an invariant that is preserved by the steps *of the pools of this world* (so that the
obligations may use what is known about them) holds afterwards -/
theorem World.all_next_local {I : Cfg → Pool → Prop} (w : World) (x : WOp) (hw : w.All I)
    (hinit : ∀ size simple name, x = .mkpool size simple name → ∀ c : Cfg, c.isSimple = simple.isSome →
      I c (Pool.init c.size0 simple))
    (hop : ∀ i orders op, x = .on i orders op → ∀ (c : Cfg) (p : Pool), w.cfgs[i]? = some c → w.pools[i]? = some p → I c p →
      I c (({ p with orders := orders } : Pool).applyOp op).1)
    (hrun : ∀ k orders, x = .run k orders → ∀ (i : Nat) (r : Ref) (c : Cfg) (p : Pool), w.cfgs[i]? = some c → w.pools[i]? = some p → I c p →
      I c (({ p with orders := orders } : Pool).runRef r))
    (hdrain : ∀ c p, I c p → I c { p with emit := [] }) : (w.next x).All I := by
  have hstep : (w.step x).1.All I := by
    cases x with
    | mkpool size simple name =>
      show (w.mkpool size simple name).1.All I
      unfold World.mkpool
      exact ite_keeps (P := fun r : World × Res => r.1.All I) hw (ite_keeps (P := fun r : World × Res => r.1.All I)
        ⟨hw.len, hw.inv⟩ (hw.push _ _ (hinit size simple name rfl _ rfl) _ rfl rfl))
    | on i orders op =>
      show (match w.pools[i]? with
        | none => (w, Res.noop)
        | some p => ({ w with pools := w.pools.set i (({ p with orders := orders } : Pool).applyOp op).1 },
            (({ p with orders := orders } : Pool).applyOp op).2)).1.All I
      cases hp : w.pools[i]? with
      | none => exact hw
      | some p => exact hw.set i _ (fun c hc => hop i orders op rfl c p hc hp (hw.inv i c p hc hp)) _ rfl rfl
    | run k orders =>
      simp only [World.step]
      split
      · exact hw
      · split
        · exact ⟨hw.len, hw.inv⟩
        · rename_i i r _ p hp
          exact hw.set _ _ (fun c hc => hrun k orders rfl _ _ c p hc hp (hw.inv _ c p hc hp)) _ rfl rfl
  refine ⟨(List.length_map _).symm ▸ hstep.len, fun i c p hc hp => ?_⟩
  obtain ⟨q, hq, rfl⟩ := getElem?_map_some (l := (w.step x).1.pools) hp
  exact hdrain c q (hstep.inv i c q hc hq)

theorem World.all_next {I : Cfg → Pool → Prop} {ok : Op → Bool} (hI : PoolInvariant I ok) (w : World) (x : WOp)
    (hx : x.admits ok = true) (hw : w.All I) : (w.next x).All I :=
  World.all_next_local w x hw (fun _ simple _ _ c hs => hI.init c simple hs)
    (fun _ orders op e c p _ _ h => hI.op c p orders op (by subst e; exact hx) h)
    (fun _ orders _ _ r c p _ _ h => hI.run c p orders r h) hI.drain

theorem World.all_run {I : Cfg → Pool → Prop} {ok : Op → Bool} (hI : PoolInvariant I ok) (w : World) (h : History)
    (hh : ∀ x ∈ h, x.admits ok = true) (hw : w.All I) : (w.run h).All I :=
  foldl_keeps_mem _ h (fun w x hx hw => World.all_next hI w x (hh x hx) hw) w hw

theorem World.all_init (I : Cfg → Pool → Prop) (base : Nat) : (World.init base).All I :=
  ⟨rfl, fun i c p hc _ => by simp [World.init] at hc⟩

/-- from the empty world (any value of the class-level pool counter) -/
theorem World.reachable {I : Cfg → Pool → Prop} {ok : Op → Bool} (hI : PoolInvariant I ok) (base : Nat) (h : History)
    (hh : ∀ x ∈ h, x.admits ok = true) : ((World.init base).run h).All I :=
  World.all_run hI _ h hh (World.all_init I base)

theorem World.run_append (w : World) (h h' : History) : w.run (h ++ h') = (w.run h).run h' := by
  simp [World.run, List.foldl_append]

/-- a property of worlds that every admitted input keeps holds after every admitted history from the empty world; the
obligation for an input may use the history that led there (`World.spawnersWaited_run` needs it) -/
theorem World.run_keeps {P : World → Prop} (base : Nat) (ok : WOp → Bool) (h0 : P (World.init base))
    (step : ∀ pre x, ok x = true → P ((World.init base).run pre) → P (((World.init base).run pre).next x))
    (h : History) (hh : ∀ x ∈ h, ok x = true) : P ((World.init base).run h) := by
  have key : ∀ (suf pre : History), P ((World.init base).run pre) → (∀ x ∈ suf, ok x = true) →
      P ((World.init base).run (pre ++ suf)) := by
    intro suf
    induction suf with
    | nil => intro pre hp _; rwa [List.append_nil]
    | cons x xs ih =>
      intro pre hp hx
      rw [List.append_cons]
      refine ih (pre ++ [x]) ?_ (fun y hy => hx y (List.mem_cons_of_mem _ hy))
      rw [World.run_append]
      exact step pre x (hx x List.mem_cons_self) hp
  exact key h [] h0 hh

def allOps : Op → Bool := fun _ => true

theorem admits_all (x : WOp) : x.admits allOps = true := by cases x <;> rfl

/-- `p` is a pool, constructed with `c`, of the world that the history `h` leads to from the empty world -/
def Reached (base : Nat) (h : History) (c : Cfg) (p : Pool) : Prop :=
  ∃ i : Nat, ((World.init base).run h).cfgs[i]? = some c ∧ ((World.init base).run h).pools[i]? = some p

theorem Reached.of {I : Cfg → Pool → Prop} {ok : Op → Bool} {base : Nat} {h : History} {c : Cfg} {p : Pool}
    (r : Reached base h c p) (hI : PoolInvariant I ok) (hh : ∀ x ∈ h, x.admits ok = true) : I c p :=
  let ⟨i, hc, hp⟩ := r
  (World.reachable hI base h hh).inv i c p hc hp

theorem Reached.all {I : Cfg → Pool → Prop} {base : Nat} {h : History} {c : Cfg} {p : Pool}
    (r : Reached base h c p) (hI : PoolInvariant I allOps) : I c p := r.of hI fun x _ => admits_all x

theorem PoolInvariant.and {I J : Cfg → Pool → Prop} {ok : Op → Bool} (hI : PoolInvariant I ok) (hJ : PoolInvariant J ok) :
    PoolInvariant (fun c p => I c p ∧ J c p) ok where
  init := fun c simple hs => ⟨hI.init c simple hs, hJ.init c simple hs⟩
  op := fun c p orders o ho h => ⟨hI.op c p orders o ho h.1, hJ.op c p orders o ho h.2⟩
  run := fun c p orders r h => ⟨hI.run c p orders r h.1, hJ.run c p orders r h.2⟩
  drain := fun c p h => ⟨hI.drain c p h.1, hJ.drain c p h.2⟩

def World.waiting (w : World) (i : Nat) (r : Ref) : Nat := w.ready.count (i, r)

/-- an invariant `I R p` of a pool together with the handles `R` the loop holds for it (a count per handle): no handle
for a new pool; an operation leaves them alone; the handle that is run has left the queue; the handles the pool queued
during a step join them afterwards.  `J` is a pool-local invariant the obligations may use. -/
structure ReadyInvariant (I : (Ref → Nat) → Pool → Prop) (J : Cfg → Pool → Prop) : Prop where
  init : ∀ size simple, I (fun _ => 0) (Pool.init size simple)
  op : ∀ (c : Cfg) (p : Pool) R (orders : List (List Nat)) (o : Op), J c p → I R p →
        I R (({ p with orders := orders } : Pool).applyOp o).1
  run : ∀ (c : Cfg) (p : Pool) R (orders : List (List Nat)) (r : Ref), J c p →
        I (fun x => R x + if r = x then 1 else 0) p → I R (({ p with orders := orders } : Pool).runRef r)
  drain : ∀ (p : Pool) R, I R p → I (fun r => R r + p.emit.count r) { p with emit := [] }

structure World.Ready (I : (Ref → Nat) → Pool → Prop) (w : World) : Prop where
  idx : ∀ x ∈ w.ready, x.1 < w.pools.length
  inv : ∀ (i : Nat) (p : Pool), w.pools[i]? = some p → I (w.waiting i) p

/-- the handles the pools `l` (numbered from `k`) have queued for pool `i` are those of the `i - k`-th -/
theorem count_drain (l : List Pool) (k i : Nat) (r : Ref) :
    ((l.zipIdx k).map fun (p, j) => p.emit.map fun r' => (j, r')).flatten.count (i, r)
      = if k ≤ i then (match l[i - k]? with | some p => p.emit.count r | none => 0) else 0 := by
  have one : ∀ (j : Nat) (e : List Ref), (e.map fun r' => (j, r')).count (i, r) = if j = i then e.count r else 0 := by
    intro j e
    induction e with
    | nil => exact (ite_self 0).symm
    | cons a as ih =>
      simp only [List.map_cons, List.count_cons, ih, beq_iff_eq, Prod.mk.injEq]
      by_cases e : j = i
      · subst e; simp
      · simp [e]
  induction l generalizing k with
  | nil => exact (ite_self 0).symm
  | cons p ps ih =>
    simp only [List.zipIdx_cons, List.map_cons, List.flatten_cons, List.count_append, one, ih (k + 1)]
    rcases Nat.lt_trichotomy k i with h | h | h
    · rw [if_neg (Nat.ne_of_lt h), if_pos (show k + 1 ≤ i from h), if_pos (Nat.le_of_lt h), Nat.zero_add,
        show i - k = (i - (k + 1)) + 1 from (Nat.succ_pred_eq_of_pos (Nat.sub_pos_of_lt h)).symm, List.getElem?_cons_succ]
    · subst h
      rw [if_pos rfl, if_neg (Nat.not_succ_le_self k), if_pos (Nat.le_refl k), Nat.sub_self]
      rfl
    · rw [if_neg (Nat.ne_of_gt h), if_neg (Nat.not_le_of_gt (Nat.lt_succ_of_lt h)), if_neg (Nat.not_le_of_gt h)]

theorem World.waiting_drain (w : World) (i : Nat) (p : Pool) (hp : w.pools[i]? = some p) :
    w.drain.waiting i = fun r => w.waiting i r + p.emit.count r := by
  funext r
  have := count_drain w.pools 0 i r
  simp only [Nat.zero_le, if_true, Nat.sub_zero, hp] at this
  simp only [World.waiting, World.drain, List.count_append, this]

section
variable {I : (Ref → Nat) → Pool → Prop} {J : Cfg → Pool → Prop} (hI : ReadyInvariant I J) {w : World}
include hI

theorem World.Ready.step (h : w.Ready I) (hJ : w.All J) (x : WOp) : (w.step x).1.Ready I := by
  cases x with
  | mkpool size simple name =>
    show (w.mkpool size simple name).1.Ready I
    unfold World.mkpool
    refine ite_keeps (P := fun x : World × Res => x.1.Ready I) h
      (ite_keeps (P := fun x : World × Res => x.1.Ready I) ⟨h.idx, h.inv⟩ ⟨fun x hx => ?_, fun i p hp => ?_⟩)
    · exact Nat.lt_of_lt_of_le (h.idx x hx) (List.length_append ▸ Nat.le_add_right _ _)
    · rcases getElem?_append_one hp with hp | ⟨rfl, rfl⟩
      · exact h.inv i p hp
      · -- no handle in the ready queue is addressed to the new pool
        have : w.waiting w.pools.length = fun _ => 0 :=
          funext fun r => List.count_eq_zero.mpr fun hm => Nat.lt_irrefl _ (h.idx _ hm)
        exact this ▸ hI.init _ _
  | on i orders op =>
    simp only [World.step]
    cases hp : w.pools[i]? with
    | none => exact h
    | some p =>
      refine ⟨fun x hx => (List.length_set ..).symm ▸ h.idx x hx, fun j q hq => ?_⟩
      rcases getElem?_set_some _ _ _ _ _ hq with ⟨rfl, rfl⟩ | ⟨_, hq⟩
      · obtain ⟨c, _, hc⟩ := hJ.get hp
        exact hI.op c p _ orders op hc (h.inv j p hp)
      · exact h.inv j q hq
  | run k orders =>
    simp only [World.step]
    cases hk : w.ready[k]? with
    | none => exact h
    | some ir =>
      obtain ⟨i, r⟩ := ir
      have hi := h.idx (i, r) (List.mem_of_getElem? hk)
      obtain ⟨p, hp⟩ : ∃ p, w.pools[i]? = some p := ⟨_, List.getElem?_eq_getElem hi⟩
      simp only [hp]
      refine ⟨fun x hx => (List.length_set ..).symm ▸ h.idx x (List.mem_of_mem_eraseIdx hx), fun j q hq => ?_⟩
      have hw : ∀ y, w.waiting j y = (w.ready.eraseIdx k).count (j, y) + if (i, r) = (j, y) then 1 else 0 :=
        fun y => count_eraseIdx w.ready k (i, r) (j, y) hk
      rcases getElem?_set_some _ _ _ _ _ hq with ⟨rfl, rfl⟩ | ⟨hne, hq⟩
      · -- the pool the handle belongs to: the handle has left the queue
        obtain ⟨c, _, hc⟩ := hJ.get hp
        refine hI.run c p _ orders r hc ?_
        have e : w.waiting j = fun y => (w.ready.eraseIdx k).count (j, y) + if r = y then 1 else 0 :=
          funext fun y => (hw y).trans (by simp only [Prod.mk.injEq, true_and])
        exact e ▸ h.inv j p hp
      · have e : w.waiting j = fun y => (w.ready.eraseIdx k).count (j, y) :=
          funext fun y => (hw y).trans (by rw [if_neg fun e => hne (Prod.mk.inj e).1.symm]; rfl)
        show I (fun y => (w.ready.eraseIdx k).count (j, y)) q
        exact e ▸ h.inv j q hq

theorem World.Ready.drain (h : w.Ready I) : w.drain.Ready I := by
  refine ⟨fun x hx => ?_, fun i q hq => ?_⟩
  · simp only [World.drain, List.mem_append, List.length_map] at hx ⊢
    rcases hx with hx | hx
    · exact h.idx x hx
    · simp only [List.mem_flatten, List.mem_map] at hx
      obtain ⟨_, ⟨⟨p, j⟩, hpj, rfl⟩, hxl⟩ := hx
      obtain ⟨r, _, rfl⟩ := List.mem_map.mp hxl
      exact lt_of_getElem?_some (List.mem_zipIdx_iff_getElem?.mp hpj)
  · obtain ⟨p, hp, rfl⟩ := getElem?_map_some (l := w.pools) hq
    exact World.waiting_drain w i p hp ▸ hI.drain p _ (h.inv i p hp)

theorem World.ready_run {ok : Op → Bool} (hJ : PoolInvariant J ok) (base : Nat) (h : History)
    (hh : ∀ x ∈ h, x.admits ok = true) : ((World.init base).run h).Ready I :=
  (foldl_keeps_mem (P := fun w : World => w.Ready I ∧ w.All J) _ h
    (fun w x hx a => ⟨World.Ready.drain hI (a.1.step hI a.2 x), World.all_next hJ w x (hh x hx) a.2⟩) (World.init base)
    ⟨⟨fun _ hx => (nomatch hx), fun _ _ hp => (nomatch hp)⟩, World.all_init J base⟩).1

end

end Taskpool
