import Taskpool.Inv.Acc
import Taskpool.Inv.Elim
import Taskpool.Inv.Effects
/-! Spawners (`_apply_spawner`, `_start_num`, `_arg_consumer`) preserve `Good`. The loops are walked with `SpSt` (Acc.lean)
as the state — `k` map slots in flight, the loop's position as the predicate `P` on the counters — and `SnapNone` wherever
a counter moves; `GoodS` is what is left of `Good0` while a pool slot is between the semaphore and a task. -/
namespace Taskpool
namespace Pool

theorem tame_finishMeta (p : Pool) (m o) : Tame p (p.finishMeta m o) := by
  unfold finishMeta
  split
  · exact Tame.refl p
  · refine Tame.trans (tame_modReq p m _ ?_ ?_) (tame_emitChildren _ _)
    · intro x
      exact ⟨rfl, rfl, rfl, by simp [Req.pend], (fun _ _ h => by cases h), rfl, Or.inr rfl, (fun h => by cases h),
        (fun h => h), (fun _ => rfl), (fun h => by cases h)⟩
    · intro x
      exact ⟨rfl, rfl, rfl, Or.inr rfl, fun _ => Or.inr rfl, fun _ _ => Or.inr rfl⟩

theorem grantsL_append_notGranted (ws : List Waiter) (w : Waiter) (h : w.st ≠ .granted) :
    grantsL (ws ++ [w]) = grantsL ws := by
  simp [grantsL, List.countP_append, h]

theorem _root_.Taskpool.Sem.wakeInv_append (s : Sem) (w : Waiter) (h : s.WakeInv) (hl : s.locked = true)
    (hw : w.st ≠ .granted) : ({ s with waiters := s.waiters ++ [w] } : Sem).WakeInv := by
  intro v hv hpos hg x hx hp
  have hg' : grantsL s.waiters = 0 := (grantsL_append_notGranted s.waiters w hw).symm.trans hg
  -- a positive counter on a locked semaphore: some waiter is not cancelled; by `h` it is not pending, so it is granted
  have hz : s.value.isZero = false := by
    rw [show s.value = .fin v from hv]
    cases v with
    | zero => exact absurd hpos (Nat.lt_irrefl 0)
    | succ n => rfl
  unfold Sem.locked at hl
  rw [hz, Bool.false_or, List.any_eq_true] at hl
  obtain ⟨y, hy, hyc⟩ := hl
  have hgr : y.st = .granted := by
    cases hs : y.st with
    | pending => exact absurd hs (h v hv hpos hg' y hy)
    | granted => rfl
    | cancelled => rw [hs] at hyc; exact absurd hyc (by decide)
  have hpos' : 0 < grantsL s.waiters := List.countP_pos_iff.mpr ⟨y, hy, decide_eq_true hgr⟩
  exact absurd hg' (Nat.ne_of_gt hpos')

/-- taking a slot of a semaphore that is not locked: nobody is waiting -/
theorem _root_.Taskpool.Sem.wakeInv_dec (s : Sem) (hl : s.locked = false) :
    ({ s with value := s.value.dec } : Sem).WakeInv := by
  intro v _ _ _ x hx hp
  unfold Sem.locked at hl
  simp only [Bool.or_eq_false_iff, List.any_eq_false] at hl
  have := hl.2 x hx
  simp [hp] at this

end Pool

/-- `Good0` without the two clauses that read the pool semaphore (slot conservation, no lost wake-up): what stays true
while a slot is on its way between the semaphore and a task -/
structure GoodS (L R : Bool) (p : Pool) : Prop where
  phase : PhaseOK p
  reg : RegOK p
  grp : GroupsOK p
  life : LifeOK p
  fl : FlushOK p
  strict : Strict L R p

theorem Good0.toS {cap : Cap} {L R : Bool} {p : Pool} (hg : Good0 cap L R p) : GoodS L R p :=
  ⟨hg.phase, hg.reg, hg.grp, hg.life, hg.fl, hg.strict⟩

theorem GoodS.good0 {cap : Cap} {L R : Bool} {p : Pool} (h : GoodS L R p) (hs : SlotOK cap p) (hw : WakeOK p) : Good0 cap L R p :=
  ⟨hs, h.phase, h.reg, h.grp, h.life, h.fl, hw, h.strict.rz, h.strict.ll, h.strict.al⟩

theorem GoodS.semReqs {L R : Bool} {p : Pool} (h : GoodS L R p) (s : Sem) (rq : List Req) :
    GoodS L R { p with sem := s, reqs := rq } :=
  ⟨h.phase, h.reg.of_eq rfl rfl rfl rfl rfl, h.grp.of_eq rfl rfl, h.life.of_eq rfl rfl, h.fl.frame rfl rfl (fun _ x => x),
    h.strict.of_eq rfl rfl rfl⟩

theorem Tame0.goodS {L R : Bool} {p q : Pool} (t : Tame0 p q) (h : GoodS L R p) : GoodS L R q :=
  ⟨t.phase h.phase, t.reg h.reg, t.grp h.grp, t.life h.life, t.fok h.fl, t.strict h.strict⟩

namespace Pool

/-- the pool semaphore is replaced and a woken spawner scheduled (`release()`, `_wake_up_next`) -/
theorem _root_.Taskpool.GoodS.semSched {L R : Bool} {p : Pool} (h : GoodS L R p) (s : Sem) (o : Option Nat) :
    GoodS L R (({ p with sem := s } : Pool).schedOpt o) := (tame_schedOpt _ o).toTame0.goodS (h.semReqs s p.reqs)

theorem semSched_sem (p : Pool) (s : Sem) (o : Option Nat) : (({ p with sem := s } : Pool).schedOpt o).sem = s := by
  cases o <;> rfl

theorem semSched_tasks (p : Pool) (s : Sem) (o : Option Nat) : (({ p with sem := s } : Pool).schedOpt o).tasks = p.tasks := by
  cases o <;> rfl

def ReqAt (p : Pool) (m : Nat) (P : Req → Prop) : Prop := ∀ r, p.reqs[m]? = some r → P r

theorem ReqAt.modReq {p : Pool} {m : Nat} {P : Req → Prop} (h : ReqAt p m P) (f : Req → Req) (hf : ∀ x, P x → P (f x)) :
    ReqAt (p.modReq m f) m P := by
  intro r hr
  obtain ⟨x, hx, rfl⟩ := getElem?_modify_self hr
  exact hf x (h x hx)

theorem reqAt_modReq_new (p : Pool) (m : Nat) (P : Req → Prop) (f : Req → Req) (hf : ∀ x, P (f x)) :
    ReqAt (p.modReq m f) m P := by
  intro r hr
  obtain ⟨x, hx, rfl⟩ := getElem?_modify_self hr
  exact hf x

theorem reqAt_schedOpt {p : Pool} {m : Nat} {P : Req → Prop} (h : ReqAt p m P) (o : Option Nat)
    (hP : ∀ x, P x → P { x with sched := true }) : ReqAt (p.schedOpt o) m P := by
  cases o with
  | none => exact h
  | some w =>
    intro r hr
    obtain ⟨x, hx, rfl⟩ := getElem?_modify_some p.reqs w m _ r hr
    exact ite_keeps (hP x (h x hx)) (h x hx)

/-- the running spawner has no cancellation snapshot -/
abbrev SnapNone (p : Pool) (m : Nat) : Prop := ReqAt p m (fun r => r.cancelSnap = none)

theorem SnapNone.hcm {p : Pool} {m : Nat} (h : SnapNone p m) :
    ∀ r c u, p.reqs[m]? = some r → r.cancelSnap = some (c, u) → r.frame = .done ∨ DoomedAt p m r :=
  fun r c u hr hs => by rw [h r hr] at hs; cases hs

/-- `waitRoom` queues a waiter entry that is not granted and suspends the spawner; with `must_cancel` pending it
schedules the spawner at once -/
theorem waitRoom_elim {P : Pool → Prop} (p : Pool) (m : Nat)
    (h1 : ∀ w : Waiter, w.st ≠ .granted → P (({ p with sem := { p.sem with waiters := p.sem.waiters ++ [w] } } : Pool).modReq m
        fun x => { x with frame := MFrame.waitRoom, mustCancel := false }))
    (h2 : ∀ q, P q → P (q.schedMeta m)) : P (p.waitRoom m) := by
  have hw : ∀ c : Bool, (if c then WaitSt.cancelled else WaitSt.pending) ≠ .granted := fun c => by cases c <;> decide
  unfold waitRoom
  exact dite_keeps (fun _ => h2 _ (h1 _ (hw _))) (fun _ => h1 _ (hw _))

/-- queueing behind the pool semaphore moves no slot (it only happens when the semaphore is locked, which an
unbounded semaphore without waiters never is), and no wake-up is lost (`Sem.wakeInv_append`) -/
theorem good0_waitRoom {cap : Cap} {L R : Bool} (p : Pool) (m) (hg : Good0 cap L R p) (hl : p.sem.locked = true) :
    Good0 cap L R (p.waitRoom m) := by
  refine waitRoom_elim p m (fun w hw => ?_) (fun q h => (tame_schedMeta q m).toTame0.good0 h)
  refine (tame0_modReq _ m _).good0 ((hg.toS.semReqs _ p.reqs).good0 ?_ fun hr => Sem.wakeInv_append p.sem w (hg.wk hr) hl hw)
  cases cap with
  | fin n =>
    obtain ⟨v, hv, hs⟩ := hg.slot
    refine ⟨v, hv, ?_⟩
    show v + heldL p.tasks + grantsL (p.sem.waiters ++ [w]) = n
    rw [grantsL_append_notGranted _ _ hw]
    exact hs
  | inf =>
    obtain ⟨hv, hw0⟩ := hg.slot
    simp [Sem.locked, hv, hw0, Cap.isZero] at hl

/-- the spawner of request `m` starts waiting for room: the map slot it carries (a map request always carries one
here) is entered in the books as carried -/
theorem mapOK_waitRoom {p : Pool} {m : Nat} {k : Int} (h : MapMid p m k) (hlt : m < p.reqs.length)
    (hnw : ∀ r, p.reqs[m]? = some r → r.frame ≠ .waitRoom)
    (hpre : ∀ r, p.reqs[m]? = some r → (r.kind = .map → r.acquired = true ∧ k = 1) ∧ (r.kind ≠ .map → k = 0)) :
    MapOK (p.waitRoom m) := by
  refine (waitRoom_elim (P := fun q => MapMid q m 0 ∧ m < q.reqs.length) p m (fun w _ => ⟨?_, ?_⟩)
    (fun q a => ⟨(tame_schedMeta q m).mapFrame.mid a.1 a.2, Nat.lt_of_lt_of_le a.2 (tame_schedMeta q m).rql⟩)).1.ok
  · refine (h.of_eq (q := ({ p with sem := { p.sem with waiters := p.sem.waiters ++ [w] } } : Pool)) rfl rfl).modReq _ 0
      ?_ (fun _ _ ho => ho) (fun _ => rfl) ?_
    · intro r v hr' hv
      refine ⟨v, hv, ?_⟩
      show ((v + grantsL r.mapSem.waiters + Req.pend { r with frame := MFrame.waitRoom, mustCancel := false } : Nat) : Int) + 0 = _
      rw [Req.pend_zero (hnw r hr'), Req.pend_waitRoom rfl]
      show ((v + grantsL r.mapSem.waiters + (if (r.kind == .map && r.acquired) = true then 1 else 0) : Nat) : Int) + 0 = _
      cases hkr : r.kind with
      | map => rw [((hpre r hr').1 hkr).1, ((hpre r hr').1 hkr).2]; rfl
      | apply => rw [(hpre r hr').2 (by rw [hkr]; nofun)]; rfl
    · intro r hr' _ hk _
      exact ((hpre r hr').1 hk).1
  · exact (List.length_modify ..).symm ▸ hlt

theorem locked_false_pos (s : Sem) (v : Nat) (hv : s.value = .fin v) (h : s.locked = false) : 0 < v := by
  unfold Sem.locked at h
  simp only [Bool.or_eq_false_iff] at h
  rcases Nat.eq_zero_or_pos v with rfl | hp
  · rw [hv] at h; simp [Cap.isZero] at h
  · exact hp

/-- slot conservation just before a task is appended: one slot is already set aside for it -/
def SlotPre (cap : Cap) (p : Pool) : Prop :=
  match cap with
  | .fin n => ∃ v, p.sem.value = .fin v ∧ v + (heldL p.tasks + 1) + grantsL p.sem.waiters = n
  | .inf => p.sem.value = .inf ∧ p.sem.waiters = []

theorem flat_addToGroup_perm (gs : List (String × List Nat)) (g : String) (id : Nat) :
    (flat (addToGroup gs g id)).Perm (id :: flat gs) := by
  induction gs with
  | nil => simp [addToGroup, flat]
  | cons x xs ih =>
    obtain ⟨n, ids⟩ := x
    simp only [addToGroup]
    split
    · simp only [flat_cons, List.append_assoc, List.singleton_append]
      exact List.perm_middle
    · simp only [flat_cons]
      exact (List.Perm.append_left ids ih).trans List.perm_middle

theorem _root_.Taskpool.GroupsOK.create {p : Pool} (hr : GroupsOK p) (g : String) (q : Pool) (nt : PTask)
    (hq : q.groups = addToGroup p.groups g p.tasks.length) (ht : q.tasks = p.tasks ++ [nt]) : GroupsOK q := by
  have hp := flat_addToGroup_perm p.groups g p.tasks.length
  refine ⟨?_, ?_⟩
  · rw [hq, hp.nodup_iff, List.nodup_cons]
    exact ⟨fun h => Nat.lt_irrefl _ (hr.lt _ h), hr.nd⟩
  · intro i hi
    rw [hq] at hi
    have := hp.subset hi
    rw [ht, List.length_append, List.length_singleton]
    rcases List.mem_cons.mp this with rfl | h
    · exact Nat.lt_succ_self _
    · exact Nat.lt_succ_of_lt (hr.lt i h)

theorem createTask_tasks (p : Pool) (m : Nat) (isMap : Bool) :
    (p.createTask m isMap).tasks = p.tasks ++ [newTask m isMap
      (if isMap then ArgD.elem (p.reqs[m]?.getD default).stars ((p.reqs[m]?.getD default).pulled - 1) else ArgD.apply)
      (p.reqs[m]?.getD default).endCb (p.reqs[m]?.getD default).cancelCb] := rfl

theorem createTask_reqs (p : Pool) (m : Nat) (isMap : Bool) :
    (p.createTask m isMap).reqs = p.reqs.modify m fun x => { x with created := x.created + 1 } := rfl

theorem heldL_append_one (ts : List PTask) (x : PTask) :
    heldL (ts ++ [x]) = heldL ts + (if x.released = false then 1 else 0) := by
  cases h : x.released <;> simp [heldL, List.countP_append, h]

theorem good0_createTask_afterTake {cap : Cap} {L R : Bool} (p : Pool) (m : Nat) (isMap : Bool)
    (hph : PhaseOK p) (hreg : RegOK p) (hgrp : GroupsOK p) (hlife : LifeOK p) (hpre : SlotPre cap p) (hst : Strict L R p)
    (hfl : FlushOK p) (hwk : WakeOK p) :
    Good0 cap L R (p.createTask m isMap) := by
  have ht := createTask_tasks p m isMap
  rw [createTask_eq] at ht ⊢
  refine ⟨?_, fun i tk h _ => ?_, hreg.create _ rfl _ ht rfl rfl rfl rfl, hgrp.create _ _ _ rfl ht, fun i tk h => ?_,
    hfl.frame rfl rfl (fun t ⟨tk, a, b⟩ => ⟨tk, by
      rw [ht]; exact getElem?_append_of a _, b⟩), hwk.of_eq rfl rfl,
    hst.rz, hst.ll, hst.al⟩
  · cases cap with
    | fin n =>
      obtain ⟨v, hv, hs⟩ := hpre
      refine ⟨v, hv, ?_⟩
      rw [ht, heldL_append_one]
      exact hs
    | inf => exact hpre
  · rw [ht] at h
    rcases getElem?_append_one h with h | ⟨_, rfl⟩
    · exact hph i tk h ‹_›
    · rfl
  · rw [ht] at h
    rcases getElem?_append_one h with h | ⟨_, rfl⟩
    · exact hlife i tk h
    · exact oks_new _ _ _ _ _ _ rfl

theorem reqAt_createTask {p : Pool} {m : Nat} {P : Req → Prop} (h : ReqAt p m P) (isMap : Bool)
    (hf : ∀ x, P x → P { x with created := x.created + 1 }) : ReqAt (p.createTask m isMap) m P :=
  fun r hr => h.modReq _ hf r (createTask_reqs p m isMap ▸ hr)

theorem reqAt_takeSlotAndCreate {p : Pool} {m : Nat} {P : Req → Prop} (h : ReqAt p m P) (isMap : Bool)
    (hf : ∀ x, P x → P { x with created := x.created + 1 }) : ReqAt (p.takeSlotAndCreate m isMap) m P :=
  reqAt_createTask (p := ({ p with sem := { p.sem with value := p.sem.value.dec } } : Pool)) h isMap hf

/-- a task of request `m` is created: its `created` counter moves, which a cancelled spawner's must not -/
theorem cancEx_createTask {p : Pool} {m : Nat} (isMap : Bool) (h : CancEx (· = m) p) (hsn : SnapNone p m) :
    CancEx (· = m) (p.createTask m isMap) :=
  (h.modReqSelf (fun x => { x with created := x.created + 1 }) fun r hr => ⟨rfl, Or.inr (hsn r hr)⟩).of_eq
    (createTask_reqs p m isMap) rfl

/-- the spawner of `m` queues behind the pool semaphore: nobody else's waiter entry changes -/
theorem cancOK_waitRoom {p : Pool} {m : Nat} (h : CancEx (· = m) p) (hsn : SnapNone p m) : CancOK (p.waitRoom m) := by
  have key := waitRoom_elim (P := fun q => CancEx (· = m) q ∧ SnapNone q m) p m (fun w _ => ⟨?_, ?_⟩)
    (fun q a => ⟨(tame_schedMeta q m).cok _ a.1, reqAt_schedOpt a.2 (some m) (fun _ hx => hx)⟩)
  · exact key.1.close key.2.hcm
  · refine CancEx.modReqSelf (p := ({ p with sem := { p.sem with waiters := p.sem.waiters ++ [w] } } : Pool)) ?_ _
      (fun r _ => ⟨rfl, Or.inl ⟨rfl, rfl⟩⟩)
    exact h.frame (fun i x => ownCancelled_append i _ w x) (fun _ r' a => Or.inl ⟨r', a, CSame.refl r'⟩)
  · exact ReqAt.modReq (p := ({ p with sem := { p.sem with waiters := p.sem.waiters ++ [w] } } : Pool)) hsn _ (fun _ hx => hx)

theorem reqsLen_createTask (p : Pool) (m : Nat) (isMap : Bool) : (p.createTask m isMap).reqs.length = p.reqs.length :=
  (congrArg List.length (createTask_reqs p m isMap)).trans (List.length_modify ..)

theorem reqsLen_takeSlotAndCreate (p : Pool) (m : Nat) (isMap : Bool) :
    (p.takeSlotAndCreate m isMap).reqs.length = p.reqs.length := reqsLen_createTask _ m isMap

theorem reqsLen_waitRoom (p : Pool) (m : Nat) : (p.waitRoom m).reqs.length = p.reqs.length :=
  waitRoom_elim (P := fun q => q.reqs.length = p.reqs.length) p m (fun _ _ => List.length_modify ..)
    (fun _ h => (List.length_modify ..).trans h)

/-- the map books when a task of request `m` is appended: a map task enters the slot that was in flight -/
theorem mapOK_createTask {p : Pool} {m : Nat} (isMap : Bool) (h : MapMid p m (if isMap then 1 else 0))
    (hlt : m < p.reqs.length) : MapOK (p.createTask m isMap) := by
  unfold createTask
  simp only
  refine MapMid.ok (m := m) (k := 0) ?_
  refine MapMid.emitRef ?_ _
  refine MapMid.modReq_same ?_ _ (fun r => ⟨rfl, rfl, rfl, fun h => h, fun h => h⟩)
  exact MapMid.addTask (k := 0) _ h (Int.zero_add _).symm (fun _ => ⟨rfl, hlt⟩) _ rfl rfl

theorem frame_createTask (p : Pool) (m : Nat) (isMap : Bool) (i : Nat) (r' : Req)
    (h : (p.createTask m isMap).reqs[i]? = some r') : ∃ r, p.reqs[i]? = some r ∧ r'.frame = r.frame := by
  rw [createTask_reqs] at h
  obtain ⟨x, hx, rfl⟩ := getElem?_modify_some _ m i _ r' h
  exact ⟨x, hx, by split <;> rfl⟩

theorem accAt_createTask {p : Pool} {m : Nat} {P P' : Cnt → MFrame → Prop} (isMap : Bool) (h : AccAt p m P)
    (hlt : m < p.reqs.length)
    (hf : ∀ r, p.reqs[m]? = some r → P r.cnt r.frame →
        P' ({ r with created := r.created + 1 } : Req).cnt ({ r with created := r.created + 1 } : Req).frame) :
    AccAt (p.createTask m isMap) m P' := by
  unfold createTask
  simp only
  refine AccAt.emitRef ?_ _
  refine AccAt.addTask (p := p) h ?x ?hq hlt (fun r => { r with created := r.created + 1 }) (fun _ => rfl) hf _ ?ht ?hr
  case ht => rfl
  case hr => rfl
  case hq => rfl

/-- the spawner of `m` takes a pool slot on the fast path and creates the task: a map slot in flight goes to it -/
theorem spSt_takeSlotAndCreate {cap : Cap} {L R : Bool} {P P' : Cnt → MFrame → Prop} (p : Pool) (m : Nat) (isMap : Bool)
    (h : SpSt cap L R p m (if isMap then 1 else 0) P) (hl : p.sem.locked = false)
    (hf : ∀ r, p.reqs[m]? = some r → P r.cnt r.frame →
        P' ({ r with created := r.created + 1 } : Req).cnt ({ r with created := r.created + 1 } : Req).frame)
    (hsn : SnapNone p m) :
    SpSt cap L R (p.takeSlotAndCreate m isMap) m 0 P' := by
  have hg := h.g0
  let q : Pool := { p with sem := { p.sem with value := p.sem.value.dec } }
  have hS : GoodS L R q := hg.toS.semReqs _ p.reqs
  unfold takeSlotAndCreate
  refine ⟨good0_createTask_afterTake q m isMap hS.phase hS.reg hS.grp hS.life ?_ hS.strict hS.fl ?_,
    (mapOK_createTask (p := q) isMap (h.mp.of_eq rfl rfl) h.lt).mid m, accAt_createTask (p := q) isMap (h.ac.of_eq rfl rfl) h.lt hf,
    by rw [reqsLen_createTask]; exact h.lt,
    fun r' hr' => by
      obtain ⟨r, a, b⟩ := frame_createTask _ m isMap m r' hr'
      rw [b]; exact h.nw r a,
    cancEx_createTask (p := q) isMap (h.cn.of_eq rfl rfl) hsn⟩
  · cases cap with
    | fin n =>
      obtain ⟨v, hv, hs⟩ := hg.slot
      have hpos := locked_false_pos p.sem v hv hl
      exact ⟨v - 1, by simp [q, hv, Cap.dec], by simp only [q]; omega⟩
    | inf =>
      obtain ⟨hv, hw⟩ := hg.slot
      show q.sem.value = .inf ∧ _
      simp [q, hv, hw, Cap.dec]
  · exact fun _ => Sem.wakeInv_dec p.sem hl

/-- the spawner ends: whatever slot it still carries goes with it (the request has an outcome from here on) -/
theorem mapOK_finishMeta {p : Pool} {m : Nat} {k : Int} (o : Outcome) (h : MapMid p m k) (hlt : m < p.reqs.length)
    (hk : 0 ≤ k) : MapOK (p.finishMeta m o) := by
  have h1 := (tame_finishMeta p m o).mapFrame.mid h hlt
  refine ⟨h1.ref, fun m' r hr => ?_, h1.wk, h1.acq⟩
  obtain ⟨v, hv, hs, hs2⟩ := h1.le m' r hr
  refine ⟨v, hv, by split at hs <;> omega, fun hnd => ?_⟩
  have := hs2 hnd
  split at this
  · rename_i e; subst e
    exact absurd hnd (finishMeta_outcome p m' o r hr)
  · omega

theorem good_finishMetaSp {cap : Cap} {L R : Bool} {P : Cnt → MFrame → Prop} {k : Int} (p : Pool) (m : Nat) (o : Outcome)
    (h : SpSt cap L R p m k P) (hk : 0 ≤ k) (hP : ∀ c fr, P c fr → AccReq c .done 0) :
    Good cap L R (p.finishMeta m o) :=
  ⟨(tame_finishMeta p m o).toTame0.good0 h.g0, mapOK_finishMeta o h.mp h.lt hk,
    accOK_finishMeta o h.ac hP,
    CancEx.close ((tame_finishMeta p m o).cok _ h.cn) (fun r _ _ hr _ => Or.inl (finishMeta_frame p m o r hr))⟩

theorem good_waitRoomSp {cap : Cap} {L R : Bool} {P : Cnt → MFrame → Prop} {k : Int} (p : Pool) (m : Nat)
    (h : SpSt cap L R p m k P) (hl : p.sem.locked = true)
    (hpre : ∀ r, p.reqs[m]? = some r → (r.kind = .map → r.acquired = true ∧ k = 1) ∧ (r.kind ≠ .map → k = 0))
    (hP : ∀ c fr, P c fr → AccReq c .waitRoom 0) (hsn : SnapNone p m) : Good cap L R (p.waitRoom m) := by
  refine ⟨good0_waitRoom p m h.g0 hl, mapOK_waitRoom h.mp h.lt h.nw hpre, ?_, cancOK_waitRoom h.cn hsn⟩
  refine waitRoom_elim p m (fun w _ => AccAt.ok (m := m) ?_ (fun _ _ x => x)) (fun q a => (tame_schedMeta q m).acc a)
  exact (h.ac.of_eq (q := ({ p with sem := { p.sem with waiters := p.sem.waiters ++ [w] } } : Pool)) rfl rfl).modReq _
    (fun _ => rfl) (fun r _ hp => hP _ _ hp)

/-- the consumer starts waiting for a slot of its own semaphore, the pulled element in hand -/
theorem good_waitMapSemSp {cap : Cap} {L R : Bool} {P : Cnt → MFrame → Prop} (p : Pool) (m : Nat)
    (h : SpSt cap L R p m 0 P) (hP : ∀ c fr, P c fr → AccReq c .waitMapSem 0)
    (hl : (p.reqs[m]?.getD default).mapSem.locked = true) (hsn : SnapNone p m) : Good cap L R (p.waitMapSem m) := by
  have fin : ∀ w : Waiter, w.st ≠ .granted → Good cap L R (p.modReq m fun x => { x with frame := MFrame.waitMapSem, mustCancel := false, acquired := false, mapSem := { x.mapSem with waiters := x.mapSem.waiters ++ [w] } }) := by
    intro w hw
    refine SpSt.good (m := m) (P := fun c fr => AccReq c fr 0) ?_ rfl (fun _ _ x => x)
      (SnapNone.hcm (ReqAt.modReq hsn _ (fun _ hx => hx)))
    refine h.modReq _ 0 _ ?_ (fun _ _ ho => ho) (fun _ => rfl) (fun _ _ _ _ hf => nomatch hf) (fun _ => rfl) (fun r _ hp => hP _ _ hp)
      (fun _ _ hf => nomatch hf) (fun r hr hwk => by rw [hr] at hl; exact Sem.wakeInv_append r.mapSem w hwk hl hw)
    intro r v hr hv
    refine ⟨v, hv, ?_⟩
    show ((v + grantsL (r.mapSem.waiters ++ [w]) + Req.pend _ : Nat) : Int) + 0 = _
    rw [grantsL_append_notGranted _ _ hw, Req.pend_zero (h.nw r hr), Req.pend_zero]
    exact nofun
  have hw : ∀ c : Bool, (if c then WaitSt.cancelled else WaitSt.pending) ≠ .granted := fun c => by cases c <;> decide
  unfold waitMapSem
  exact dite_keeps (fun _ => (tame_schedMeta _ m).good (fin _ (hw _))) (fun _ => fin _ (hw _))

/-- `_apply_spawner`/`_start_num` from any position: `n` invocations still to start -/
theorem good_applyLoop {cap : Cap} {L R : Bool} (m n : Nat) (p : Pool) (h : SpSt cap L R p m 0 (PA n))
    (hsn : SnapNone p m) : Good cap L R (applyLoop m n p) := by
  induction n generalizing p with
  | zero =>
    unfold applyLoop
    refine good_finishMetaSp _ m _ (h.modReq' _ (PAf 0) (fun _ => ⟨rfl, rfl, Or.inl rfl, fun h => h⟩) (fun _ _ x => x) (fun _ => rfl) ?_)
      (Int.le_refl 0) (fun c fr x => PAf.acc x (fun e => by cases e))
    intro r _ hp
    exact ⟨hp.1, hp.2, rfl⟩
  | succ n ih =>
    have h0 : SpSt cap L R (p.modReq m fun x => { x with remaining := n + 1 }) m 0 (PAf (n + 1)) :=
      h.modReq' _ (PAf (n + 1)) (fun _ => ⟨rfl, rfl, Or.inl rfl, fun h => h⟩) (fun _ _ x => x) (fun _ => rfl)
        (fun r _ hp => ⟨hp.1, hp.2, rfl⟩)
    have hsn0 : SnapNone (p.modReq m fun x => { x with remaining := n + 1 }) m := ReqAt.modReq hsn _ (fun _ hx => hx)
    generalize hq : p.modReq m (fun x => { x with remaining := n + 1 }) = q at h0 hsn0
    have hfin : ∀ o, Good cap L R (q.finishMeta m o) := fun o =>
      good_finishMetaSp _ m o h0 (Int.le_refl 0) (fun c fr x => PAf.acc x (fun e => by cases e))
    refine applyLoop_succ_elim m n p q hq.symm (fun _ => ?_) (fun _ => hfin _) (fun _ _ => hfin _) (fun _ _ hl => ?_)
      (fun _ _ hl => ?_)
    · refine ih _ (h0.modReq' _ (PA n) (fun _ => ⟨rfl, rfl, Or.inl rfl, fun h => h⟩) (fun _ _ x => x) (fun _ => rfl)
        (fun _ _ hp => hp.next rfl rfl rfl)) (ReqAt.modReq hsn0 _ (fun _ hx => hx))
    · refine good_waitRoomSp _ m h0 hl (fun r hr => ⟨fun hk => ?_, fun _ => rfl⟩)
        (fun c fr x => PAf.acc x (fun _ => Nat.le_add_left 1 n)) hsn0
      exact nomatch (h0.ac.here r hr).1.symm.trans hk
    · exact ih _ (spSt_takeSlotAndCreate _ m false h0 hl (fun _ _ hp => hp.next rfl rfl (Nat.add_right_comm ..)) hsn0)
        (reqAt_takeSlotAndCreate hsn0 false (fun _ hx => hx))

/-- `_start_task` for a map element whose map slot is in flight; one element is in hand -/
theorem good_mapStartTask {cap : Cap} {L R : Bool} (p : Pool) (m : Nat) (l : Nat) (h : SpSt cap L R p m 1 (PM l 1))
    (hacq : ReqAt p m (fun r => r.acquired = true)) (hsn : SnapNone p m) :
    (p.mapStartTask m).2 = false → Good cap L R (p.mapStartTask m).1 := by
  unfold mapStartTask
  split
  · intro _
    exact good_finishMetaSp p m _ h (by omega) (fun c fr x => PM.acc1 x (by simp))
  · split
    · rename_i hl
      intro _
      refine good_waitRoomSp p m h hl (fun r hr => ⟨fun _ => ⟨hacq r hr, rfl⟩, fun hk => ?_⟩) (fun c fr x => PM.acc1 x (by simp)) hsn
      exact absurd (h.ac.here r hr).1 hk
    · intro hb; cases hb

theorem spSt_mapStartTask {cap : Cap} {L R : Bool} (p : Pool) (m : Nat) (l : Nat) (h : SpSt cap L R p m 1 (PM l 1))
    (hsn : SnapNone p m) :
    (p.mapStartTask m).2 = true → SpSt cap L R (p.mapStartTask m).1 m 0 (PM l 0) ∧ SnapNone (p.mapStartTask m).1 m := by
  unfold mapStartTask
  split
  · intro hb; cases hb
  · split
    · intro hb; cases hb
    · rename_i hl
      intro _
      exact ⟨spSt_takeSlotAndCreate p m true h (by simpa using hl)
        (fun _ _ hp => hp.next rfl rfl rfl rfl (Nat.add_right_comm ..)) hsn, reqAt_takeSlotAndCreate hsn true (fun _ hx => hx)⟩

theorem _root_.Taskpool.Tame.snapRunning {p q : Pool} (t : Tame p q) {m : Nat} (hlt : m < p.reqs.length)
    (h : ReqAt p m (fun r => r.cancelSnap = none ∧ (r.frame = .running ∨ r.frame = .done))) :
    ReqAt q m (fun r => r.cancelSnap = none ∧ (r.frame = .running ∨ r.frame = .done)) := by
  intro r' hr'
  rcases t.rq m r' hr' with ⟨r, a, b⟩ | ⟨hge, _⟩
  · obtain ⟨h1, h2⟩ := h r a
    refine ⟨(b.sr h2).trans h1, ?_⟩
    rcases b.fr with e | e
    · rw [e]; exact h2
    · exact Or.inr e
  · omega

/-- one pull from the argument iterator (user code included): one more element is in hand -/
theorem spSt_pullItem {cap : Cap} {L R : Bool} (p : Pool) (m : Nat) (rest : List Item)
    (h : SpSt cap L R p m 0 (PM (rest.length + 1) 0)) (hsn : SnapNone p m) :
    SpSt cap L R (p.pullItem m rest) m 0 (PM rest.length 1) ∧ SnapNone (p.pullItem m rest) m := by
  unfold pullItem
  simp only
  have h1 : SpSt cap L R (p.modReq m fun x => { x with items := rest, pulled := x.pulled + 1, acquired := false, frame := MFrame.running }) m 0
      (PM rest.length 1) :=
    h.modReq' _ _ (fun r => ⟨rfl, rfl, Or.inr rfl, fun h => h⟩) (fun _ _ _ _ hf => nomatch hf) (fun _ => rfl)
      (fun _ _ hp => hp.pull rfl rfl rfl rfl rfl rfl) (fun r hr => ⟨rfl, Or.inr (hsn r hr)⟩)
  have hs1 : ReqAt (p.modReq m fun x => { x with items := rest, pulled := x.pulled + 1, acquired := false, frame := MFrame.running }) m
      (fun r => r.cancelSnap = none ∧ (r.frame = .running ∨ r.frame = .done)) := by
    intro r hr
    obtain ⟨x, hx, rfl⟩ := getElem?_modify_self hr
    exact ⟨hsn x hx, .inl rfl⟩
  have h2 := h1.tame (tame_logEv _ (.pull m (p.reqs[m]?.getD default).pulled)) (PM.ff _ _)
  have hs2 := (tame_logEv _ (.pull m (p.reqs[m]?.getD default).pulled)).snapRunning h1.lt hs1
  exact ⟨h2.tame (tame_runHooks _ m _) (PM.ff _ _), fun r hr => ((tame_runHooks _ m _).snapRunning h2.lt hs2 r hr).1⟩

/-- taking a slot of the call's own semaphore on the fast path: one slot of `m` is in flight -/
theorem spSt_takeMapSlot {cap : Cap} {L R : Bool} {P : Cnt → MFrame → Prop} (p : Pool) (m : Nat)
    (h : SpSt cap L R p m 0 P) (hP : FrameFree P) (hl : (p.reqs[m]?.getD default).mapSem.locked = false)
    (hsn : SnapNone p m) :
    SpSt cap L R (p.takeMapSlot m) m 1 P ∧ ReqAt (p.takeMapSlot m) m (fun r => r.acquired = true) ∧
      SnapNone (p.takeMapSlot m) m := by
  unfold takeMapSlot
  refine ⟨h.modReq _ 1 P ?_ (fun _ _ ho => ho) (fun _ => rfl) (fun _ _ _ _ hf => nomatch hf) (fun _ => rfl) (fun r _ hp => hP _ _ _ hp)
      (fun _ _ hf => nomatch hf) (fun r hr _ => by rw [hr] at hl; exact Sem.wakeInv_dec r.mapSem hl),
    reqAt_modReq_new _ m _ _ (fun _ => rfl), ReqAt.modReq hsn _ (fun _ hx => hx)⟩
  intro r v hr hv
  rw [hr] at hl
  have hpos := locked_false_pos r.mapSem v hv hl
  refine ⟨v - 1, by show (r.mapSem.value.dec) = _; rw [hv]; simp [Cap.dec], ?_⟩
  have hp : Req.pend { r with acquired := true, frame := MFrame.running, mapSem := { r.mapSem with value := r.mapSem.value.dec } } = 0 :=
    Req.pend_zero nofun
  show ((v - 1 + grantsL r.mapSem.waiters + _ : Nat) : Int) + 1 = _
  rw [hp, Req.pend_zero (h.nw r hr)]
  omega

/-- `_arg_consumer` from any position, argument iterator (user code) included -/
theorem good_mapLoop {cap : Cap} {L R : Bool} (m : Nat) (items : List Item) (p : Pool)
    (h : SpSt cap L R p m 0 (PM items.length 0)) (hsn : SnapNone p m) : Good cap L R (mapLoop m items p) := by
  induction items generalizing p with
  | nil =>
    unfold mapLoop
    refine good_finishMetaSp _ m _ (h.modReq' _ (PM 0 0) (fun _ => ⟨rfl, rfl, Or.inl rfl, fun h => h⟩) (fun _ _ x => x) (fun _ => rfl) ?_)
      (Int.le_refl 0) (fun c fr x => PM.acc0 x (by simp))
    intro r _ hp
    obtain ⟨a, b, c, d⟩ := hp
    have d' : r.items.length = 0 := d
    exact ⟨a, by show r.pulled + 0 = r.n0; have : r.pulled + r.items.length = r.n0 := b; omega, c, rfl⟩
  | cons it rest ih =>
    obtain ⟨h0, hsn0⟩ := spSt_pullItem p m rest h hsn
    generalize hq : p.pullItem m rest = q at h0 hsn0
    refine mapLoop_cons_elim m it rest p q hq.symm (fun _ => ?_) (fun _ _ => ?_) (fun _ _ hl => ?_) (fun _ _ hl hb => ?_)
      (fun _ _ hl hb => ?_)
    · exact good_finishMetaSp _ m _ h0 (Int.le_refl 0) (fun c fr x => PM.acc1 x (by simp))
    · exact ih _ (h0.modReq' _ (PM rest.length 0) (fun _ => ⟨rfl, rfl, Or.inl rfl, fun h => h⟩) (fun _ _ x => x) (fun _ => rfl)
        (fun _ _ hp => hp.next rfl rfl rfl rfl rfl)) (ReqAt.modReq hsn0 _ (fun _ hx => hx))
    · exact good_waitMapSemSp _ m h0 (fun c fr x => PM.acc1 x (by simp)) hl hsn0
    · obtain ⟨h1, _, hsn1⟩ := spSt_takeMapSlot _ m h0 (PM.ff _ _) hl hsn0
      obtain ⟨h2, hsn2⟩ := spSt_mapStartTask _ m rest.length h1 hsn1 hb
      exact ih _ h2 hsn2
    · obtain ⟨h1, hacq, hsn1⟩ := spSt_takeMapSlot _ m h0 (PM.ff _ _) hl hsn0
      exact good_mapStartTask _ m rest.length h1 hacq hsn1 hb

/-- what `continueSpawner` needs after a task was created in `_start_task`: apply — one invocation less than the
(stale) `remaining` field says; map — nothing in hand -/
def PC : Cnt → MFrame → Prop := fun c fr =>
  (c.kind = .apply → c.created + c.skipped + (c.remaining - 1) = c.n0) ∧ (c.kind = .map → PM c.left 0 c fr)

theorem good_continueSpawner {cap : Cap} {L R : Bool} (p : Pool) (m : Nat) (h : SpSt cap L R p m 0 PC)
    (hsn : SnapNone p m) : Good cap L R (p.continueSpawner m) := by
  unfold continueSpawner
  simp only
  have hlt := h.lt
  obtain ⟨r, hr⟩ : ∃ r, p.reqs[m]? = some r := ⟨p.reqs[m], List.getElem?_eq_getElem hlt⟩
  rw [hr]
  simp only [Option.getD_some]
  split
  · rename_i hk
    refine good_applyLoop m _ p (h.weaken fun r' hr' hp => ?_) hsn
    cases hr.symm.trans hr'
    exact ⟨hk, hp.1 hk⟩
  · rename_i hk
    have hkm : r.kind = .map := by cases hkk : r.kind <;> simp_all
    refine good_mapLoop m _ p (h.weaken fun r' hr' hp => ?_) hsn
    cases hr.symm.trans hr'
    exact hp.2 hkm

theorem removeWaiterL_grants (m : Nat) (ws : List Waiter) :
    grantsL (removeWaiterL m ws).2 + (if (removeWaiterL m ws).1 = some .granted then 1 else 0) = grantsL ws := by
  induction ws with
  | nil => simp [removeWaiterL, grantsL]
  | cons w ws ih =>
    unfold removeWaiterL
    split
    · simp [grantsL, List.countP_cons]
    · simp only [grantsL, List.countP_cons] at ih ⊢
      omega

theorem _root_.Taskpool.Sem.wakeInv_remove (s : Sem) (m : Nat) (h : s.WakeInv)
    (hng : (removeWaiterL m s.waiters).1 ≠ some .granted) :
    ({ s with waiters := (removeWaiterL m s.waiters).2 } : Sem).WakeInv := by
  intro v hv hpos hg x hx hp
  have hrm := removeWaiterL_grants m s.waiters
  simp only [hng, if_false] at hrm
  exact h v hv hpos (by simp only at hg; omega) x (removeWaiterL_subset m _ x hx) hp

end Pool
end Taskpool
