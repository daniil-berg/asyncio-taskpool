import Taskpool.Inv.Control
/-! Assembly of the round trip: `parseCmd` on a written command line. -/
namespace Taskpool.Control

theorem canonicalPos_of_split : ∀ (singles starL : List Param), (∀ p ∈ singles, p.kind = .positional) →
    (starL = [] ∨ ∃ sp, starL = [sp] ∧ sp.kind = .varPositional) → canonicalPos (singles ++ starL) = true
  | [], starL, _, hs => by
    rcases hs with rfl | ⟨sp, rfl, hk⟩
    · rfl
    · simp [canonicalPos, hk]
  | p :: singles, starL, h, hs => by
    have hp : p.kind = .positional := h p (by simp)
    have ih := canonicalPos_of_split singles starL (fun q hq => h q (List.mem_cons_of_mem _ hq)) hs
    simp [canonicalPos, hp, ih]

theorem startsRun_render (c : Choice) (r : List Tok) : startsRun (c.render ++ r) = false := by
  unfold Choice.render Choice.tok
  split
  · split <;> rfl
  · split
    · split <;> rfl
    · split <;> rfl

theorem startsRun_renderItems : ∀ (l : List Item), startsRun (renderItems l) = false
  | [] => rfl
  | .one c :: _ => startsRun_render c _
  | .cluster .. :: _ => rfl

def Tok.plain (tbl : List OptSpec) (t : Tok) : Prop := ambiguousTok tbl t = false ∧ Tok.isOther t = false ∧ t ≠ .sep

theorem plain_of_isWord {tbl : List OptSpec} {t : Tok} (h : Tok.isWord t = true) : Tok.plain tbl t := by
  cases t with
  | word w => exact ⟨rfl, rfl, Tok.noConfusion⟩
  | _ => exact absurd h Bool.false_ne_true

theorem choice_toks_fine {ps : List Param} (hok : paramsOk ps = true) {c : Choice} (hc : c.ok ps) :
    ∀ t ∈ c.render, Tok.plain (optTable ps) t := by
  obtain ⟨hne, g, hres⟩ := resolve_choice hok hc
  have hl : Tok.plain (optTable ps) (.long c.longName) := by
    refine ⟨by simp only [ambiguousTok, hres, Resolved.isAmbiguous], ?_, Tok.noConfusion⟩
    cases hn : c.longName with
    | nil => exact absurd hn hne
    | cons a l => rfl
  have he : Tok.plain (optTable ps) (.eq c.longName c.w) :=
    ⟨by simp only [ambiguousTok, hres, Resolved.isAmbiguous], rfl, Tok.noConfusion⟩
  have hsh : ∀ f, Tok.plain (optTable ps) (.short f) := fun f => ⟨rfl, rfl, Tok.noConfusion⟩
  have hwd : Tok.plain (optTable ps) (.word c.w) := ⟨rfl, rfl, Tok.noConfusion⟩
  intro t ht
  unfold Choice.render Choice.tok at ht
  split at ht
  · split at ht
    · exact List.mem_singleton.mp ht ▸ hsh _
    · exact List.mem_singleton.mp ht ▸ hl
  · split at ht
    · split at ht
      · exact List.mem_singleton.mp ht ▸ ⟨rfl, rfl, Tok.noConfusion⟩
      · rcases List.mem_cons.mp ht with rfl | ht
        · exact hsh _
        · exact List.mem_singleton.mp ht ▸ hwd
    · split at ht
      · exact List.mem_singleton.mp ht ▸ he
      · rcases List.mem_cons.mp ht with rfl | ht
        · exact hl
        · exact List.mem_singleton.mp ht ▸ hwd

theorem item_toks_fine {ps : List Param} (hok : paramsOk ps = true) {it : Item} (hit : it.ok ps) :
    ∀ t ∈ it.render, Tok.plain (optTable ps) t := by
  cases it with
  | one c => exact choice_toks_fine hok hit
  | cluster f jf fs c =>
    intro t ht
    rcases List.mem_cons.mp ht with rfl | ht
    · exact ⟨rfl, rfl, Tok.noConfusion⟩
    · split at ht
      · cases ht
      · exact List.mem_singleton.mp ht ▸ ⟨rfl, rfl, Tok.noConfusion⟩

theorem plain_renderItems {ps : List Param} (hok : paramsOk ps = true) {l : List Item}
    (h : ∀ it ∈ l, it.ok ps) : ∀ t ∈ renderItems l, Tok.plain (optTable ps) t := by
  intro t ht
  obtain ⟨it, hit, htc⟩ := List.mem_flatMap.mp ht
  exact item_toks_fine hok (h it hit) t htc

theorem isWord_renderPos (xs : List PosArg) : ∀ t ∈ renderPos xs, Tok.isWord t = true := by
  intro t ht
  obtain ⟨x, _, rfl⟩ := List.mem_map.mp ht
  rfl

theorem isWord_of_split {pargs sargs : List PosArg} {w1 w2 : List Tok}
    (hsplit : w1 ++ w2 = renderPos pargs ++ renderPos sargs) : ∀ t ∈ w1 ++ w2, Tok.isWord t = true := by
  intro t ht
  rw [hsplit] at ht
  exact (List.mem_append.mp ht).elim (isWord_renderPos _ t) (isWord_renderPos _ t)

theorem line_toks {ps : List Param} (hok : paramsOk ps = true) {pre post : List Item} (hpre : ∀ it ∈ pre, it.ok ps)
    (hpost : ∀ it ∈ post, it.ok ps) {pargs sargs : List PosArg} {w1 s w2 : List Tok}
    (hsplit : w1 ++ w2 = renderPos pargs ++ renderPos sargs) (hs : s = [] ∨ s = [.sep]) :
    ∀ t ∈ renderItems pre ++ (w1 ++ (s ++ (w2 ++ renderItems post))),
      ambiguousTok (optTable ps) t = false ∧ Tok.isOther t = false := by
  have hw := isWord_of_split hsplit
  have hpl : ∀ {t}, Tok.plain (optTable ps) t → ambiguousTok (optTable ps) t = false ∧ Tok.isOther t = false :=
    fun h => ⟨h.1, h.2.1⟩
  intro t ht
  simp only [List.mem_append] at ht
  rcases ht with h | h | h | h | h
  · exact hpl (plain_renderItems hok hpre t h)
  · exact hpl (plain_of_isWord (hw t (List.mem_append_left _ h)))
  · rcases hs with rfl | rfl
    · cases h
    · exact List.mem_singleton.mp h ▸ ⟨rfl, rfl⟩
  · exact hpl (plain_of_isWord (hw t (List.mem_append_right _ h)))
  · exact hpl (plain_renderItems hok hpost t h)

theorem sepOk_cons_of_ne {t : Tok} (h : t ≠ .sep) (r : List Tok) : sepOk (t :: r) = sepOk r := by
  cases t with
  | sep => exact absurd rfl h
  | _ => rfl

theorem sepOk_append_noSep : ∀ (l r : List Tok), (∀ t ∈ l, t ≠ .sep) → sepOk (l ++ r) = sepOk r
  | [], _, _ => rfl
  | t :: l, r, h => by
    rw [List.cons_append, sepOk_cons_of_ne (h t List.mem_cons_self),
      sepOk_append_noSep l r fun x hx => h x (List.mem_cons_of_mem _ hx)]

theorem sepOk_of_plain {tbl : List OptSpec} {l : List Tok} (h : ∀ t ∈ l, Tok.plain tbl t) : sepOk l = true := by
  have := sepOk_append_noSep l [] (fun t ht => (h t ht).2.2)
  rwa [List.append_nil] at this

theorem sepOk_words : ∀ (l : List Tok), (∀ t ∈ l, Tok.isWord t = true) → sepOk l = true :=
  fun _ h => sepOk_of_plain (tbl := []) fun t ht => plain_of_isWord (h t ht)

theorem bindWords_skip_sep : ∀ (w1 : List Tok), (∀ t ∈ w1, Tok.isWord t = true) → ∀ (w2 : List Tok) (st : PState),
    bindWords (w1 ++ .sep :: w2) st = bindWords (w1 ++ w2) st
  | [], _, w2, st => by simp [bindWords]
  | t :: w1, h, w2, st => by
    have ih := bindWords_skip_sep w1 (fun x hx => h x (List.mem_cons_of_mem _ hx)) w2
    have ht := h t (by simp)
    cases t with
    | word w =>
      simp only [List.cons_append, bindWords]
      split
      · exact ih _
      · split
        · rfl
        · split <;> exact ih _
    | _ => simp [Tok.isWord] at ht

theorem sepLeads_eq_self {r : List Tok} {st : PState} (h : ∀ r', r = .sep :: r' → st.posLeft ≠ []) : sepLeads r st = st := by
  cases r with
  | nil => rfl
  | cons t r =>
    cases t with
    | sep =>
      have := h r rfl
      cases hp : st.posLeft with
      | nil => exact absurd hp this
      | cons p ps => simp only [sepLeads, hp, List.isEmpty_cons, Bool.false_eq_true, if_false]
    | _ => rfl

theorem sepLeads_of_not_sep {r : List Tok} (st : PState) (h : ∀ r', r ≠ .sep :: r') : sepLeads r st = st :=
  sepLeads_eq_self fun r' hr => absurd hr (h r')

theorem parseLine_command {t : Table} {w : Word} {c : Cmd} (hc : lookupCmd t w.text = some c) {toks : List Tok}
    (hno : ∀ x ∈ toks, Tok.isOther x = false) : parseLine t (.word w :: toks) = parseCmd c toks := by
  have : (Tok.word w :: toks).any Tok.isOther = false := by
    rw [List.any_cons, List.any_eq_false.mpr fun x hx => by rw [hno x hx]; exact Bool.false_ne_true]
    rfl
  simp only [parseLine, this, hc, Bool.false_eq_true, if_false]

theorem parseCmd_phases {m : Member} {toks r1 r2 r3 : List Tok} {st1 st2 st3 : PState}
    (hamb : toks.any (ambiguousTok (optTable m.params)) = false) (hsep : sepOk toks = true)
    (h1 : scanOpts m.name (optTable m.params) toks (initState m) = .cont st1 r1)
    (hcan : canonicalPos st1.posLeft = true)
    (h2 : bindWords r1 (sepLeads r1 st1) = .cont st2 r2)
    (h3 : scanOpts m.name (optTable m.params) r2 st2 = .cont st3 r3) :
    parseCmd (toCmd m) toks = afterOpts m st3 r3 := by
  simp only [parseCmd, toCmd, hamb, hsep, h1, hcan, h2, h3, Bool.not_true, Bool.and_false, Bool.false_eq_true, if_false]

theorem startsRun_of_isWord {t : Tok} (h : Tok.isWord t = true) (r : List Tok) : startsRun (t :: r) = true := by
  cases t with
  | word w => rfl
  | _ => exact absurd h Bool.false_ne_true

theorem scanOpts_stop (me : Str) (tbl : List OptSpec) {r : List Tok} (st : PState) (h : r = [] ∨ startsRun r = true) :
    scanOpts me tbl r st = .cont st r := by
  rcases h with rfl | h
  · rfl
  · cases r with
    | nil => rfl
    | cons t r => cases t <;> first | rfl | exact absurd h Bool.false_ne_true

theorem finish_function {m : Member} (hfun : m.kind = .function) {st : PState}
    (hpos : st.posLeft.any (fun p => p.kind == .positional) = false) (hex : st.extras = false) :
    finish m st = some (.act (.call m.name (m.params.map fun p => (p.name, argFor st p)))) := by
  simp only [finish, hfun, hpos, hex, Bool.false_eq_true, if_false]

theorem addOpts_finalState (singles starL : List Param) (pargs sargs : List PosArg) (cs cs' : List Choice) :
    addOpts (finalState singles starL pargs sargs cs) cs' = finalState singles starL pargs sargs (cs ++ cs') := by
  simp only [addOpts_eq, finalState, optEntries, List.map_append, List.reverse_append]

/-- `finalState [] _ [] []` is the namespace in front of the positional run -/
theorem bindWords_all {singles starL : List Param} (hsing : ∀ p ∈ singles, p.kind = .positional)
    (hstar : starL = [] ∨ ∃ sp, starL = [sp] ∧ sp.kind = .varPositional)
    {pargs sargs : List PosArg} (hp : posOk singles pargs) (hs : ∀ x ∈ sargs, ∃ sp ∈ starL, x.ok sp)
    (r : List Tok) (hr : startsRun r = false) (cs : List Choice) :
    bindWords (renderPos pargs ++ (renderPos sargs ++ r)) (finalState [] (singles ++ starL) [] [] cs)
      = .cont (finalState singles starL pargs sargs cs) r := by
  have h1 := bindWords_singles hp (fun p hp' => by rw [hsing p hp']; exact PKind.noConfusion) starL (renderPos sargs ++ r) []
    [] (optEntries cs) false
  rw [List.nil_append] at h1
  refine h1.trans ?_
  rcases hstar with rfl | ⟨sp, rfl, hk⟩
  · have : sargs = [] := by
      cases sargs with
      | nil => rfl
      | cons x xs => obtain ⟨sp, hsp, _⟩ := hs x List.mem_cons_self; cases hsp
    subst this
    exact bindWords_stop _ hr
  · have hs' : ∀ x ∈ sargs, x.ok sp := by
      intro x hx
      obtain ⟨sp', hsp', hok⟩ := hs x hx
      exact List.mem_singleton.mp hsp' ▸ hok
    exact (bindWords_star hk sargs hs' r _ [] _ _).trans (bindWords_stop _ hr)

/-- the round trip when the first scan stops behind `pre`: at a positional string, at the separator, or at the end of the
line -/
theorem parseCmd_roundtrip_run {m : Member} (hfun : m.kind = .function) (hok : paramsOk m.params = true)
    {singles starL : List Param} (hpos : m.params.filter Param.isPos = singles ++ starL)
    (hsing : ∀ p ∈ singles, p.kind = .positional)
    (hstar : starL = [] ∨ ∃ sp, starL = [sp] ∧ sp.kind = .varPositional)
    {pargs sargs : List PosArg} (hp : posOk singles pargs) (hs : ∀ x ∈ sargs, ∃ sp ∈ starL, x.ok sp)
    {pre post : List Item} (hpre : ∀ c ∈ pre, c.ok m.params) (hpost : ∀ c ∈ post, c.ok m.params)
    (w1 s w2 : List Tok) (hsplit : w1 ++ w2 = renderPos pargs ++ renderPos sargs)
    (hsep : s = [] ∨ s = [.sep] ∧ post = [] ∧ (w1 ≠ [] ∨ singles ++ starL ≠ []))
    (hne : w1 ++ (s ++ w2) ≠ [] ∨ post = []) :
    parseCmd (toCmd m) (renderItems pre ++ (w1 ++ (s ++ (w2 ++ renderItems post))))
      = some (.act (.call m.name
          (m.params.map fun p => (p.name, argFor (finalState singles starL pargs sargs (itemChoices (pre ++ post))) p)))) := by
  have hw := isWord_of_split hsplit
  have hw1 : ∀ t ∈ w1, Tok.plain (optTable m.params) t := fun t ht => plain_of_isWord (hw t (List.mem_append_left _ ht))
  have hw2 : ∀ t ∈ w2, Tok.plain (optTable m.params) t := fun t ht => plain_of_isWord (hw t (List.mem_append_right _ ht))
  have hpr := plain_renderItems hok hpre
  have hpo := plain_renderItems hok hpost
  have hamb : (renderItems pre ++ (w1 ++ (s ++ (w2 ++ renderItems post)))).any (ambiguousTok (optTable m.params)) = false := by
    rw [List.any_eq_false]
    intro t ht
    rw [(line_toks hok hpre hpost hsplit (hsep.imp_right And.left) t ht).1]
    exact Bool.false_ne_true
  have hsok : sepOk (renderItems pre ++ (w1 ++ (s ++ (w2 ++ renderItems post)))) = true := by
    rw [sepOk_append_noSep _ _ fun t ht => (hpr t ht).2.2, sepOk_append_noSep _ _ fun t ht => (hw1 t ht).2.2]
    rcases hsep with rfl | ⟨rfl, rfl, _⟩
    · rw [List.nil_append, sepOk_append_noSep _ _ fun t ht => (hw2 t ht).2.2]
      exact sepOk_of_plain hpo
    · simp only [List.cons_append, List.nil_append, sepOk, renderItems, List.flatMap_nil, List.append_nil, List.all_eq_true]
      exact fun t ht => hw t (List.mem_append_right _ ht)
  have hinit : initState m = finalState [] (singles ++ starL) [] [] [] := by rw [← hpos]; rfl
  have h1 : scanOpts m.name (optTable m.params) (renderItems pre ++ (w1 ++ (s ++ (w2 ++ renderItems post)))) (initState m)
      = .cont (finalState [] (singles ++ starL) [] [] (itemChoices pre)) (w1 ++ (s ++ (w2 ++ renderItems post))) := by
    rw [scanOpts_renderItems hok m.name pre hpre, hinit, addOpts_finalState]
    apply scanOpts_stop
    cases w1 with
    | cons t _ => exact .inr (startsRun_of_isWord (hw t List.mem_cons_self) _)
    | nil =>
      rcases hsep with rfl | ⟨rfl, _⟩
      · cases w2 with
        | cons t _ => exact .inr (startsRun_of_isWord (hw t List.mem_cons_self) _)
        | nil =>
          rcases hne with h | rfl
          · exact absurd rfl h
          · exact .inl rfl
      · exact .inr rfl
  have h2 : bindWords (w1 ++ (s ++ (w2 ++ renderItems post)))
        (sepLeads (w1 ++ (s ++ (w2 ++ renderItems post))) (finalState [] (singles ++ starL) [] [] (itemChoices pre)))
      = .cont (finalState singles starL pargs sargs (itemChoices pre)) (renderItems post) := by
    have hb : bindWords (w1 ++ (w2 ++ renderItems post)) (finalState [] (singles ++ starL) [] [] (itemChoices pre))
        = .cont (finalState singles starL pargs sargs (itemChoices pre)) (renderItems post) := by
      rw [← List.append_assoc, hsplit, List.append_assoc]
      exact bindWords_all hsing hstar hp hs _ (startsRun_renderItems post) _
    rcases hsep with rfl | ⟨rfl, rfl, htake⟩
    · rw [List.nil_append, sepLeads_eq_self, hb]
      intro r' hr
      have hm : Tok.sep ∈ w1 ++ (w2 ++ renderItems post) := hr ▸ List.mem_cons_self
      rcases List.mem_append.mp hm with h | h
      · exact absurd rfl (hw1 _ h).2.2
      · rcases List.mem_append.mp h with h | h
        · exact absurd rfl (hw2 _ h).2.2
        · exact absurd rfl (hpo _ h).2.2
    · rw [List.singleton_append, sepLeads_eq_self, bindWords_skip_sep w1 fun t ht => hw t (List.mem_append_left _ ht), hb]
      intro r' hr
      rcases htake with h | h
      · cases w1 with
        | nil => exact absurd rfl h
        | cons t _ => exact absurd (List.cons.inj hr).1 (hw1 t List.mem_cons_self).2.2
      · exact h
  have h3 := scanOpts_renderItems hok m.name post hpost [] (finalState singles starL pargs sargs (itemChoices pre))
  rw [List.append_nil, addOpts_finalState, scanOpts_stop _ _ _ (.inl rfl)] at h3
  rw [parseCmd_phases hamb hsok h1 (canonicalPos_of_split singles starL hsing hstar) h2 h3]
  have hnp : starL.any (fun p => p.kind == .positional) = false := by
    rcases hstar with rfl | ⟨sp, rfl, hk⟩
    · rfl
    · simp only [List.any_cons, List.any_nil, hk, Bool.or_false]; rfl
  simp only [itemChoices, List.flatMap_append]
  exact finish_function hfun hnp rfl

/-- the round trip in general: options (on their own in any form, or in clusters) before and behind the positional
strings, and possibly the separator `--` in front of, among or behind these — then nothing option-like follows it (the
lexer's doing), and a positional parameter or a positional string in front must be there to take it in -/
theorem parseCmd_roundtrip_general {m : Member} (hfun : m.kind = .function) (hok : paramsOk m.params = true)
    {singles starL : List Param} (hpos : m.params.filter Param.isPos = singles ++ starL)
    (hsing : ∀ p ∈ singles, p.kind = .positional)
    (hstar : starL = [] ∨ ∃ sp, starL = [sp] ∧ sp.kind = .varPositional)
    {pargs sargs : List PosArg} (hp : posOk singles pargs) (hs : ∀ x ∈ sargs, ∃ sp ∈ starL, x.ok sp)
    {pre post : List Item} (hpre : ∀ c ∈ pre, c.ok m.params) (hpost : ∀ c ∈ post, c.ok m.params)
    (w1 s w2 : List Tok) (hsplit : w1 ++ w2 = renderPos pargs ++ renderPos sargs)
    (hsep : s = [] ∨ s = [.sep] ∧ post = [] ∧ (w1 ≠ [] ∨ singles ++ starL ≠ [])) :
    parseCmd (toCmd m) (renderItems pre ++ (w1 ++ (s ++ (w2 ++ renderItems post))))
      = some (.act (.call m.name
          (m.params.map fun p => (p.name, argFor (finalState singles starL pargs sargs (itemChoices (pre ++ post))) p)))) := by
  by_cases hne : w1 ++ (s ++ w2) = []
  · -- neither a positional string nor the separator: the first scan reads the options behind with those in front
    obtain ⟨rfl, h⟩ := List.append_eq_nil_iff.mp hne
    obtain ⟨rfl, rfl⟩ := List.append_eq_nil_iff.mp h
    have := parseCmd_roundtrip_run hfun hok hpos hsing hstar hp hs (pre := pre ++ post) (post := [])
      (fun c hc => (List.mem_append.mp hc).elim (hpre c) (hpost c)) (fun _ h => nomatch h) [] [] [] hsplit (.inl rfl) (.inr rfl)
    simp only [renderItems, List.flatMap_append, List.flatMap_nil, List.nil_append, List.append_nil] at this ⊢
    exact this
  · exact parseCmd_roundtrip_run hfun hok hpos hsing hstar hp hs hpre hpost w1 s w2 hsplit hsep (.inl hne)

theorem lookupArg_unique {l : List (Str × ArgVal)} (hn : (l.map (·.1)).Nodup) {n : Str} {v : ArgVal} (h : (n, v) ∈ l) :
    lookupArg l n = some v :=
  congrArg (Option.map Prod.snd) (find?_key (f := Prod.fst) hn h)

theorem lookupArg_none {l : List (Str × ArgVal)} {n : Str} (h : ∀ a ∈ l, a.1 ≠ n) : lookupArg l n = none := by
  unfold lookupArg
  rw [List.find?_eq_none.mpr]
  · rfl
  · intro a ha
    simpa using h a ha

theorem optEntries_names (cs : List Choice) : (optEntries cs).map (·.1) = (cs.map (·.p.name)).reverse := by
  simp [optEntries, List.map_reverse, List.map_map, Function.comp_def]

theorem zip_bound_names : ∀ (singles : List Param) (pargs : List PosArg), posOk singles pargs →
    ((singles.zip pargs).map (fun x => ((x.1.name, ArgVal.one x.2.a) : Str × ArgVal))).map (·.1) = singles.map (·.name)
  | [], [], _ => rfl
  | [], _ :: _, h => by simp [posOk] at h
  | _ :: _, [], h => by simp [posOk] at h
  | p :: ps, x :: xs, h => by
    have ih := zip_bound_names ps xs h.2
    simp only [List.zip_cons_cons, List.map_cons, ih]

theorem dispatch_aligned (ps : List Param) (val : Param → ArgVal) :
    dispatch ps (ps.map fun p => (p.name, val p))
      = { pos := (ps.filter fun p => p.pass == .byPosition).map val,
          star := ((ps.filter fun p => p.pass == .byStar).map fun p => starOf (val p)).flatten,
          kw := (ps.filter fun p => p.pass == .byKeyword).map fun p => (p.name, val p) } := by
  have hz : ∀ l : List Param, l.zip (l.map fun p => (p.name, val p)) = l.map fun p => (p, (p.name, val p)) := by
    intro l
    induction l with
    | nil => rfl
    | cons a l ih => simp [ih]
  simp only [dispatch, hz, List.filter_map, List.map_map, Function.comp_def]

theorem pass_partition : ∀ (ps : List Param),
    (ps.filter fun p => p.pass == .byPosition).length + (ps.filter fun p => p.pass == .byStar).length
      + (ps.filter fun p => p.pass == .byKeyword).length = ps.length
  | [] => rfl
  | p :: ps => by
    rw [List.filter_cons, List.filter_cons, List.filter_cons, List.length_cons, ← pass_partition ps]
    cases p.pass with
    | byPosition => exact (congrArg (· + _) (Nat.add_right_comm _ 1 _)).trans (Nat.add_right_comm _ 1 _)
    | byStar => exact Nat.add_right_comm _ 1 _
    | byKeyword => rfl

end Taskpool.Control
