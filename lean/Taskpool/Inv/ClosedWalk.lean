import Taskpool.Inv.Tame
import Taskpool.Inv.ApiWantWalk
/-! **A pool is closed exactly when a `gather_and_close()` call has returned normally** — for every history.

`ClosedOK p`: only `until_closed()` calls wait for the closing event; a `gather_and_close()` that has returned normally
has closed the pool, and nothing else ever closes it; an `until_closed()` call that has returned has seen the pool closed.

The walking invariant `ClosedX` adds what makes this inductive for the total machine (`stepApi` runs for any call whose
flag is set):

* `ws` — a call suspended on the closing event is flagged only when the pool is closed (the closing step `gacAfter2`
  flags the waiters and sets `closed` at once);
* `od` — a call that has an outcome is in frame `done` (so that no later step overwrites the outcome of a
  `gather_and_close()` that has returned);
* `go` — the owner of every gather is an existing call that is not an `until_closed()` (`schedApi` is otherwise only
  used for gather owners: by `wk` they are never suspended on the closing event).

Everything that is not part of a background call satisfies the frame relation `Afr` of `ApiWantWalk.lean` (the list of
calls, `closed` and the owners of the gathers are untouched), so only the gather callback run from a handle, the stages
of `stepApi` (`CxAt`: the call owns its record; `cx_staged`, the instance of `ApiStaged`, `Inv/ApiStages.lean`) and
`addApi` are walked here.  What the clauses `wk gc uc ws od` ask of one record is `RecOK`; `ClosedX.step`
is the one transfer lemma, for lists of calls rewritten record by record or extended. -/
namespace Taskpool
namespace Pool

structure ClosedOK (p : Pool) : Prop where
  wk : ∀ (a : Nat) (A : Api), p.apis[a]? = some A → A.frame = .waitClosed → A.kind = .untilClosed
  gc : ∀ (a : Nat) (A : Api), p.apis[a]? = some A → A.kind.isGac = true → A.outcome = some .ok → p.closed = true
  cg : p.closed = true → ∃ (a : Nat) (A : Api), p.apis[a]? = some A ∧ A.kind.isGac = true ∧ A.outcome = some .ok
  uc : ∀ (a : Nat) (A : Api), p.apis[a]? = some A → A.kind = .untilClosed → A.outcome.isSome = true → p.closed = true

structure ClosedX (p : Pool) : Prop extends ClosedOK p where
  ws : ∀ (a : Nat) (A : Api), p.apis[a]? = some A → A.frame = .waitClosed → A.sched = true → p.closed = true
  od : ∀ (a : Nat) (A : Api), p.apis[a]? = some A → A.outcome.isSome = true → A.frame = .done
  go : ∀ (g : Nat) (G : Gather), p.gathers[g]? = some G → ∃ A, p.apis[G.owner]? = some A ∧ A.kind ≠ .untilClosed

structure RecOK (c : Bool) (A : Api) : Prop where
  wk : A.frame = .waitClosed → A.kind = .untilClosed
  gc : A.kind.isGac = true → A.outcome = some .ok → c = true
  uc : A.kind = .untilClosed → A.outcome.isSome = true → c = true
  ws : A.frame = .waitClosed → A.sched = true → c = true
  od : A.outcome.isSome = true → A.frame = .done

theorem RecOK.pending {c : Bool} {A : Api} (ho : A.outcome = none) (wk : A.frame = .waitClosed → A.kind = .untilClosed)
    (ws : A.frame = .waitClosed → A.sched = true → c = true) : RecOK c A :=
  ⟨wk, fun _ e => (nomatch ho ▸ e), fun _ e => (nomatch ho ▸ e), ws, fun e => nomatch ho ▸ e⟩

variable {p q : Pool} {a : Nat} {k : ApiKind}

theorem ClosedX.recOK (h : ClosedX p) {A : Api} (hA : p.apis[a]? = some A) : RecOK p.closed A :=
  ⟨h.wk a A hA, h.gc a A hA, h.uc a A hA, h.ws a A hA, h.od a A hA⟩

theorem ClosedX.step (h : ClosedX p) (hr : ∀ (b : Nat) (B : Api), q.apis[b]? = some B → RecOK q.closed B)
    (hk : ∀ (b : Nat) (A : Api), p.apis[b]? = some A →
      ∃ B, q.apis[b]? = some B ∧ B.kind = A.kind ∧ (A.outcome = some .ok → B.outcome = some .ok))
    (hc : q.closed = true →
      p.closed = true ∨ ∃ (b : Nat) (B : Api), q.apis[b]? = some B ∧ B.kind.isGac = true ∧ B.outcome = some .ok)
    (hg : ∀ (g : Nat) (G : Gather), q.gathers[g]? = some G → ∃ A, p.apis[G.owner]? = some A ∧ A.kind ≠ .untilClosed) :
    ClosedX q := by
  refine ⟨⟨fun b B hB => (hr b B hB).wk, fun b B hB => (hr b B hB).gc, fun c => ?_, fun b B hB => (hr b B hB).uc⟩,
    fun b B hB => (hr b B hB).ws, fun b B hB => (hr b B hB).od, fun g G hG => ?_⟩
  · rcases hc c with c | c
    · obtain ⟨b, A, hA, e, o⟩ := h.cg c
      obtain ⟨B, hB, e', o'⟩ := hk b A hA
      exact ⟨b, B, hB, e' ▸ e, o' o⟩
    · exact c
  · obtain ⟨A, hA, e⟩ := hg g G hG
    obtain ⟨B, hB, e', _⟩ := hk _ A hA
    exact ⟨B, hB, e' ▸ e⟩

theorem ClosedX.of_go (h : ClosedX p) (ha : q.apis = p.apis) (hc : q.closed = p.closed)
    (hg : ∀ (g : Nat) (G : Gather), q.gathers[g]? = some G → ∃ A, p.apis[G.owner]? = some A ∧ A.kind ≠ .untilClosed) :
    ClosedX q := by
  refine h.step (fun b B hB => ?_) (fun b A hA => ⟨A, ?_, rfl, id⟩) (fun c => Or.inl (hc ▸ c)) hg
  · rw [hc]
    rw [ha] at hB
    exact h.recOK hB
  · rw [ha]
    exact hA

theorem ClosedX.same (h : ClosedX p) (q : Pool) (ha : q.apis = p.apis := by rfl) (hc : q.closed = p.closed := by rfl)
    (hg : q.gathers = p.gathers := by rfl) : ClosedX q :=
  h.of_go ha hc (by rw [hg]; exact h.go)

theorem ClosedX.afr {X : Nat → Prop} (h : ClosedX p) (hr : Afr X p q) : ClosedX q :=
  h.of_go hr.apis hr.closed fun g G' hG' => by
    rcases hr.ga g with ⟨_, b⟩ | ⟨G, G1, a', b', c', _⟩
    · rw [hG'] at b; cases b
    · rw [hG'] at b'; cases b'
      rw [c']; exact h.go g G a'

theorem ClosedX.afr0 (h : ClosedX p) (hr : Afr (fun _ => False) p q) : ClosedX q := h.afr hr

theorem cx_addGather (h : ClosedX p) (G0 : Gather) (amb : Bool)
    (hG0 : ∃ A, p.apis[G0.owner]? = some A ∧ A.kind ≠ .untilClosed) :
    ClosedX { p with gathers := p.gathers ++ [G0], ambiguous := amb } :=
  h.of_go rfl rfl fun g G hG => by
    rcases getElem?_append_one (l := p.gathers) hG with hG | ⟨_, rfl⟩
    · exact h.go g G hG
    · exact hG0

theorem ClosedX.modApi (h : ClosedX p) (a : Nat) (f : Api → Api)
    (hf : ∀ x, p.apis[a]? = some x →
      RecOK p.closed (f x) ∧ (f x).kind = x.kind ∧ (x.outcome = some .ok → (f x).outcome = some .ok)) :
    ClosedX (p.modApi a f) := by
  refine h.step (fun b B hB => ?_) (fun b A hA => ⟨_, getElem?_modify_of hA a f, ?_⟩) Or.inl h.go
  · rcases getElem?_modify_split hB with ⟨rfl, x, hx, rfl⟩ | ⟨_, hx⟩
    · exact (hf x hx).1
    · exact h.recOK hx
  · split
    · next e =>
      subst e
      exact (hf A hA).2
    · exact ⟨rfl, id⟩

theorem cx_unsched (h : ClosedX p) (a : Nat) : ClosedX (p.modApi a fun x => { x with sched := false }) :=
  h.modApi a _ fun _ hx =>
    have r := h.recOK hx
    ⟨⟨r.wk, r.gc, r.uc, fun _ e => (nomatch e), r.od⟩, rfl, id⟩

theorem cx_schedApi (h : ClosedX p) (a : Nat) (hk : ∃ A, p.apis[a]? = some A ∧ A.kind ≠ .untilClosed) :
    ClosedX (p.schedApi a) := by
  obtain ⟨A, hA, hk⟩ := hk
  have r := h.recOK hA
  refine (h.modApi a (fun x => { x with sched := true }) fun x hx => ?_).same _
  rw [hA] at hx
  cases hx
  exact ⟨⟨r.wk, r.gc, r.uc, fun e => absurd (r.wk e) hk, r.od⟩, rfl, id⟩

theorem cx_gatherChildDone (h : ClosedX p) (g i : Nat) (v : Bool) : ClosedX (p.gatherChildDone g i v) := by
  refine gatherChildDone_rule _ p g i v (fun q hq => h.afr0 (hq _)) fun G q hG hq => ?_
  cases v
  · exact h.afr hq
  · exact cx_schedApi (h.afr hq) _ (hq.apis ▸ h.go g G hG)

theorem cx_gatherScan (h : ClosedX p) (own : Runs p.apis a k) (g : Nat) (cs : List Child) (i : Nat) :
    ClosedX (gatherScan g cs i p) ∧ Runs (gatherScan g cs i p).apis a k :=
  have hs := afr_gatherScan g cs i p
  ⟨h.afr hs, hs.apis ▸ own⟩

theorem cx_gatherStart (h : ClosedX p) (own : Runs p.apis a k) (hk : k ≠ .untilClosed) (children : List Child)
    (re : Bool) (n : Nat) :
    ClosedX (p.gatherStart children re a n).1 ∧ Runs (p.gatherStart children re a n).1.apis a k := by
  obtain ⟨A, hA, _, hAk⟩ := id own
  unfold gatherStart
  dsimp only
  exact cx_gatherScan (cx_addGather h _ _ ⟨A, hA, hAk ▸ hk⟩) own _ _ _

theorem cx_modOwn (h : ClosedX p) (own : Runs p.apis a k) (f : Api → Api)
    (hf : ∀ x, (f x).kind = x.kind ∧ (f x).outcome = x.outcome ∧
      ((f x).frame = .waitClosed → x.frame = .waitClosed ∧ ((f x).sched = true → x.sched = true))) :
    ClosedX (p.modApi a f) ∧ Runs (p.modApi a f).apis a k := by
  obtain ⟨A, hA, ho, hk⟩ := own
  obtain ⟨e1, e2, e3⟩ := hf A
  have r := h.recOK hA
  refine ⟨h.modApi a f fun x hx => ?_, f A, modify_get_self hA f, e2.trans ho, e1.trans hk⟩
  rw [hA] at hx
  cases hx
  exact ⟨.pending (e2.trans ho) (fun c => e1.trans (r.wk (e3 c).1)) fun c s => r.ws (e3 c).1 ((e3 c).2 s), e1,
    fun c => nomatch ho ▸ c⟩

theorem cx_setFrame (h : ClosedX p) (own : Runs p.apis a k) (fr : AFrame) (hfr : fr ≠ .waitClosed) :
    ClosedX (p.modApi a fun x => { x with frame := fr }) :=
  (cx_modOwn h own (fun x => { x with frame := fr }) fun _ => ⟨rfl, rfl, fun e => absurd e hfr⟩).1

theorem cx_finishApi (h : ClosedX p) (own : Runs p.apis a k) (o : Outcome)
    (hg : k.isGac = true → o = .ok → p.closed = true) (hu : k = .untilClosed → p.closed = true) :
    ClosedX (p.finishApi a o) := by
  obtain ⟨A, hA, ho, rfl⟩ := own
  refine h.modApi a _ fun x hx => ?_
  rw [hA] at hx
  cases hx
  exact ⟨⟨fun e => (nomatch e), fun c e => hg c (Option.some.inj e), fun c _ => hu c, fun e => (nomatch e), fun _ => rfl⟩, rfl,
    fun c => nomatch ho ▸ c⟩

theorem gac_isGac (re : Bool) : (ApiKind.gac re).isGac = true := rfl

theorem cx_finishFlush {r : Bool} {o : Outcome} (h : ClosedX p) (own : Runs p.apis a (.flush r)) :
    ClosedX (p.finishApi a o) :=
  cx_finishApi h own o (fun e => nomatch e) fun e => nomatch e

theorem foldl_schedApi_fw (ws : List Nat) (p : Pool) (b : Nat) (A : Api) (hA : p.apis[b]? = some A) :
    ∃ B, (ws.foldl (fun p w => p.schedApi w) p).apis[b]? = some B ∧ B.kind = A.kind ∧ B.outcome = A.outcome := by
  obtain ⟨as, em, e, hap⟩ := foldl_schedApi_eq ws p
  rw [e]
  exact ⟨_, (hap b).trans (congrArg _ hA), by split <;> exact ⟨rfl, rfl⟩⟩

/-- **the closing step**: the pool is closed, the waiters of the closing event are flagged, the `gather_and_close()`
returns normally.  `ClosedX.step` reads the fold that flags the waiters in both directions: every record after it comes
from one before it with the same kind, frame and outcome (`foldl_schedApi`, for `RecOK`: with `closed = true` only `wk`
and `od` are left to carry over), and every record before it is still there with its kind and outcome
(`foldl_schedApi_fw`, for `hk` and for the record of `a` itself). -/
theorem cx_close {r : Bool} {q0 : Pool} {ws : List Nat} (h : ClosedX p) (own : Runs p.apis a (.gac r))
    (h0a : q0.apis = p.apis) (h0c : q0.closed = true) (h0g : q0.gathers = p.gathers) :
    ClosedX ((ws.foldl (fun p w => p.schedApi w) q0).finishApi a .ok) := by
  obtain ⟨as, em, e, hap⟩ := foldl_schedApi ws q0
  have hfw := foldl_schedApi_fw ws q0
  rw [e] at hfw ⊢
  rw [h0a] at hap hfw
  obtain ⟨A, hA, _, hAk⟩ := own
  obtain ⟨Aq, hAq, ek, _⟩ := hfw a A hA
  unfold finishApi
  refine h.step (fun b B hB => ?_) (fun b A' hA' => ?_)
    (fun _ => Or.inr ⟨a, _, modify_get_self hAq _, (ek.trans hAk) ▸ gac_isGac r, rfl⟩) fun g G hG => h.go g G (h0g ▸ hG)
  · show RecOK q0.closed B
    rw [h0c]
    obtain ⟨x, hx, rfl⟩ := getElem?_modify_some as a b _ B hB
    split
    · exact ⟨fun e => (nomatch e), fun _ _ => rfl, fun _ _ => rfl, fun _ _ => rfl, fun _ => rfl⟩
    · obtain ⟨A', hA', k', f', o', _⟩ := hap b x hx
      have r := h.recOK hA'
      exact ⟨fun c => k' ▸ r.wk (f' ▸ c), fun _ _ => rfl, fun _ _ => rfl, fun _ _ => rfl, fun c => f' ▸ r.od (o' ▸ c)⟩
  · obtain ⟨B, hB, e', o'⟩ := hfw b A' hA'
    refine ⟨_, getElem?_modify_of hB a _, ?_⟩
    split
    · exact ⟨e', fun _ => rfl⟩
    · exact ⟨e', fun c => o'.trans c⟩

/-- `ClosedX` while call `a` of kind `k` runs: it owns its record and has not returned -/
structure CxAt (a : Nat) (k : ApiKind) (p : Pool) : Prop where
  ok : ClosedX p
  own : Runs p.apis a k
  us : k = .untilClosed → ∀ A, p.apis[a]? = some A → A.sched = false

theorem CxAt.start {a : Nat} {k : ApiKind} {p q : Pool} (h : CxAt a k p) (hk : k ≠ .untilClosed) (hq : ClosedX q)
    {cs : List Child} {re : Bool} {n : Nat} (ha : q.apis = p.apis := by rfl) : CxAt a k (q.gatherStart cs re a n).1 :=
  have H := cx_gatherStart hq (ha ▸ h.own) hk cs re n
  ⟨H.1, H.2, fun e => absurd e hk⟩

/-- `by exact`: the state the gather starts from is read off the expected type -/
theorem cx_staged (a : Nat) : ApiStaged (fun k _ => CxAt a k) (fun k _ q => CxAt a k q.1) ClosedX a where
  headF1 := fun _ p n h => by exact h.start nofun (h.ok.same _)
  headF2 := fun _ p _ _ h =>
    have H1 := cx_modOwn (h.ok.same ({ p with metaCancelled := [], reqs := p.reqs.map fun (r : Req) => { r with inCancelled := false } } : Pool))
      h.own (fun x => { x with snapE := p.ended, snapC := p.cancelledR }) fun _ => ⟨rfl, rfl, fun e => ⟨e, id⟩⟩
    CxAt.start ⟨H1.1, H1.2, nofun⟩ nofun H1.1
  headG1 := fun _ p h => by exact h.start nofun (h.ok.same _)
  headG2 := fun _ p _ _ h => by exact h.start nofun (h.ok.same _)
  go := fun _ _ _ _ h _ => h
  suspend := fun _ b q _ h _ => cx_setFrame h.ok h.own _ (by cases b <;> exact nofun)
  finish := fun k _ _ o p h hk _ hg => cx_finishApi h.ok h.own o (fun c e => by
    cases k with
    | gac re => exact absurd e (hg re rfl)
    | flush _ => cases c
    | untilClosed => cases c) fun e => absurd e hk
  raised := fun _ p _ _ _ h _ => cx_finishApi h.ok h.own _ (fun _ e => nomatch e) nofun
  forget := fun _ p _ h => cx_finishFlush (h.ok.same _) h.own
  closing := fun _ p _ h => cx_close h.ok h.own rfl rfl rfl
  seenClosed := fun p h c => cx_finishApi h.ok h.own _ nofun fun _ => c
  waitClosed := fun p h _ => by
    obtain ⟨A, hA, ho, hk⟩ := h.own
    refine (h.ok.same ({ p with closedWaiters := p.closedWaiters ++ [a] } : Pool)).modApi a _ fun x hx => ?_
    cases hA.symm.trans (show p.apis[a]? = some x from hx)
    exact ⟨.pending ho (fun _ => hk) (fun _ s => nomatch (h.us rfl _ hA).symm.trans s), rfl, fun c => nomatch ho ▸ c⟩

theorem cx_stepApi (h : ClosedX p) (a : Nat) : ClosedX (p.stepApi a) :=
  have h1 := cx_unsched h a
  -- a call that has returned is in frame `done`: in every other frame it is still pending
  have own : ∀ {A : Api}, p.apis[a]? = some A → A.frame ≠ .done → CxAt a A.kind (p.modApi a fun x => { x with sched := false }) :=
    fun hA hf => ⟨h1, ⟨_, modify_get_self hA _, Option.not_isSome_iff_eq_none.mp fun c => hf (h.od a _ hA c), rfl⟩,
      fun _ B hB => Option.some.inj ((modify_get_self hA _).symm.trans hB) ▸ rfl⟩
  (cx_staged a).stepApi _ rfl h (fun _ _ _ _ _ _ => h1) (fun A hA _ hf => own hA (hf ▸ nofun))
    (fun A b g _ hA _ hf _ _ => own hA (hf ▸ by cases b <;> exact nofun))
    fun A hA hs hf => cx_finishApi h1 (own hA (hf ▸ nofun)).own _ (fun _ _ => h.ws a A hA hf hs) fun _ => h.ws a A hA hf hs

theorem cx_runRef (h : ClosedX p) (r : Ref) : ClosedX (p.runRef r) := by
  cases r with
  | task t => exact h.afr0 (afr_stepTask p t)
  | spawner m => exact h.afr0 (afr_stepMeta p m)
  | api a => exact cx_stepApi h a
  | gchild g i => exact cx_gatherChildDone h g i true

theorem cx_addApi (h : ClosedX p) (k : ApiKind) : ClosedX (p.addApi k) := by
  unfold addApi
  refine (h.step (q := { p with apis := p.apis ++ [{ kind := k, frame := .notStarted, sched := true, outcome := none }] })
    (fun b B hB => ?_) (fun b A hA => ⟨A, getElem?_append_of hA _, rfl, id⟩) Or.inl h.go).same _
  rcases getElem?_append_one (l := p.apis) hB with hB | ⟨_, rfl⟩
  · exact h.recOK hB
  · exact .pending rfl (fun e => nomatch e) fun e => nomatch e

theorem cx_applyOp (h : ClosedX p) (op : Op) : ClosedX (p.applyOp op).1 := by
  cases hs : op.starts with
  | none => exact h.afr0 (afr_applyOp p hs)
  | some k => exact applyOp_starts p hs ▸ cx_addApi h k

theorem cx_init (size : Cap) (simple : Option SpawnSpec) : ClosedX (Pool.init size simple) :=
  ⟨⟨fun _ _ e => (nomatch e), fun _ _ e => (nomatch e), fun e => (nomatch e), fun _ _ e => (nomatch e)⟩,
    fun _ _ e => (nomatch e), fun _ _ e => (nomatch e), fun _ _ e => nomatch e⟩

theorem closedInvariant : PoolInvariant (fun _ p => ClosedX p) allOps where
  init := fun c simple _ => cx_init c.size0 simple
  op := by
    intro c p orders o _ h
    exact cx_applyOp (h.same { p with orders := orders }) o
  run := by
    intro c p orders r h
    exact cx_runRef (h.same { p with orders := orders }) r
  drain := by
    intro c p h
    exact h.same { p with emit := [] }

end Pool

theorem World.closed_run {base : Nat} {h : History} {c : Cfg} {p : Pool} (r : Reached base h c p) : p.ClosedOK :=
  (r.all Pool.closedInvariant).toClosedOK

end Taskpool
