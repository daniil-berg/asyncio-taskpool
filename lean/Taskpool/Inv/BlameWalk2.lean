import Taskpool.Inv.BlameWalk
/-! `BlameX` through the wrapper of a pool task and through a spawner's step.

A task that is stepped and has not finished has no outcome (`to`), so its record may be rewritten freely — `BL p t` —
until `completeTask` sets phase `finished` and the outcome at once; likewise a spawner that is not in frame `done`
(`BM p m`, `finishMeta`).  Non-final pieces keep `BL` / `BM`, final pieces re-establish `BlameX`. -/
namespace Taskpool
namespace Pool

theorem BL.bx {p : Pool} {t : Nat} (h : BL p t) : BlameX p := h.1
theorem BM.bx {p : Pool} {m : Nat} (h : BM p m) : BlameX p := h.1

theorem BlameX.modTask_live {p : Pool} {t : Nat} (h : BL p t) (f : PTask → PTask)
    (hf : ∀ k, p.tasks[t]? = some k → (f k).outcome.isSome = true → (f k).phase = .finished) : BlameX (p.modTask t f) := by
  obtain ⟨h, hl⟩ := h
  refine BlameL.step h ⟨fun i k o hk ho => ⟨k, ?_, ho⟩, fun _ r _ a b => ⟨r, a, b⟩⟩ (fun _ G' a => .inr ⟨G', a, rfl, rfl, rfl⟩)
    (fun _ A' a => .inr ⟨A', a, rfl, rfl⟩) (fun _ G a => ⟨G, a, rfl⟩) (fun i k' hk' ho => ?_) h.ro
  · -- a record with an outcome is not the one that is rewritten
    refine (getElem?_modify_of hk t f).trans (congrArg some (if_neg ?_))
    intro e; subst e
    rw [hl k hk] at ho; cases ho
  · rcases getElem?_modify_split hk' with ⟨rfl, x, hx, rfl⟩ | ⟨_, hx⟩
    · exact hf x hx ho
    · exact h.to i k' hx ho

theorem BlameX.modReq_live {p : Pool} {m : Nat} (h : BM p m) (f : Req → Req)
    (hf : ∀ r, p.reqs[m]? = some r → (f r).outcome.isSome = true → (f r).frame = .done) : BlameX (p.modReq m f) := by
  obtain ⟨h, hl⟩ := h
  refine BlameL.step h ⟨fun _ k _ a b => ⟨k, a, b⟩, fun i r o hk ho => ⟨r, ?_, ho⟩⟩ (fun _ G' a => .inr ⟨G', a, rfl, rfl, rfl⟩)
    (fun _ A' a => .inr ⟨A', a, rfl, rfl⟩) (fun _ G a => ⟨G, a, rfl⟩) h.to (fun i r' hr' ho => ?_)
  · refine (getElem?_modify_of hk m f).trans (congrArg some (if_neg ?_))
    intro e; subst e
    rw [hl r hk] at ho; cases ho
  · rcases getElem?_modify_split hr' with ⟨rfl, x, hx, rfl⟩ | ⟨_, hx⟩
    · exact hf x hx ho
    · exact h.ro i r' hx ho

variable {p : Pool} {t m : Nat}

theorem bl_modTask (h : BL p t) (f : PTask → PTask) (hf : ∀ k, (f k).outcome = k.outcome := by exact fun _ => rfl) :
    BL (p.modTask t f) t := by
  refine ⟨BlameX.modTask_live h f (fun k hk ho => ?_), fun k' hk' => ?_⟩
  · rw [hf k, h.2 k hk] at ho; cases ho
  · obtain ⟨x, hx, rfl⟩ := getElem?_modify_self hk'
    rw [hf x]; exact h.2 x hx

theorem bm_modReq (h : BM p m) (f : Req → Req) (hf : ∀ r, (f r).outcome = r.outcome := by exact fun _ => rfl) :
    BM (p.modReq m f) m := by
  refine ⟨BlameX.modReq_live h f (fun r hr ho => ?_), fun r' hr' => ?_⟩
  · rw [hf r, h.2 r hr] at ho; cases ho
  · obtain ⟨x, hx, rfl⟩ := getElem?_modify_self hr'
    rw [hf x]; exact h.2 x hx

theorem BL.same (h : BL p t) (q : Pool) (ht : q.tasks = p.tasks := by rfl) (hr : q.reqs = p.reqs := by rfl)
    (ha : q.apis = p.apis := by rfl) (hg : q.gathers = p.gathers := by rfl) : BL q t :=
  ⟨h.1.same q ht hr ha hg, by rw [ht]; exact h.2⟩

theorem BM.same (h : BM p m) (q : Pool) (ht : q.tasks = p.tasks := by rfl) (hr : q.reqs = p.reqs := by rfl)
    (ha : q.apis = p.apis := by rfl) (hg : q.gathers = p.gathers := by rfl) : BM q m :=
  ⟨h.1.same q ht hr ha hg, by rw [hr]; exact h.2⟩

theorem bl_logEv (h : BL p t) (e : Ev) : BL (p.logEv e) t := h
theorem bl_emitRef (p : Pool) (t : Nat) (r : Ref) (h : BL p t) : BL (p.emitRef r) t := h

theorem bm_logEv (h : BM p m) (e : Ev) : BM (p.logEv e) m := h
theorem bm_emitRef (p : Pool) (m : Nat) (r : Ref) (h : BM p m) : BM (p.emitRef r) m := h
theorem bm_schedMeta (h : BM p m) (m' : Nat) : BM (p.schedMeta m') m := h.bfr (bfr_modReq p m' _)
theorem bm_schedOpt (h : BM p m) (o : Option Nat) : BM (p.schedOpt o) m := h.bfr (bfr_schedOpt p o)

theorem bx_completeTask (h : BL p t) (o : Outcome) : BlameX (p.completeTask t o) := by
  unfold completeTask
  split
  · exact h.1
  · exact (BlameX.modTask_live h _ (fun _ _ _ => rfl)).bfr (bfr_emitChildren _ _)

theorem bl_wrap (t : Nat) : WrapKept (BL · t) BlameX (fun _ => True) t where
  weaken := fun _ h => h.bx
  modTask := fun _ f hf _ h => bl_modTask h f fun k => (hf k).outcome
  schedTask := fun _ h => bl_modTask h _ fun _ => rfl
  logEv := fun _ e h => bl_logEv h e
  runHooks := fun p ctx hs _ h => h.bfr (bfr_runHooks p ctx hs)
  adm := fun _ _ _ => ⟨trivial, trivial, trivial, trivial⟩
  lost := fun _ h => h.same _
  runToEnded := fun _ _ h => h.same _
  canToEnded := fun _ _ h => h.same _
  runToCan := fun _ _ h => h.same _
  releasePool := fun p h => h.bfr (bfr_releasePool p)
  releaseMap := fun p m h => h.bfr (bfr_releaseMap p m)
  completeTask := fun _ o h => bx_completeTask h o

theorem bx_stepTask (p : Pool) (t : Nat) (h : BlameX p) : BlameX (p.stepTask t) := by
  refine (bl_wrap t).stepTask (fun _ => h) (h.bfr (bfr_modTask p t _)) fun tk htk hne => bl_modTask ⟨h, fun k hk => ?_⟩ _
  rw [htk] at hk; cases hk
  cases ho : tk.outcome with
  | none => rfl
  | some o => exact absurd (h.to t tk htk (by rw [ho]; rfl)) hne

theorem bx_finishMeta (h : BM p m) (o : Outcome) : BlameX (p.finishMeta m o) := by
  unfold finishMeta
  split
  · exact h.1
  · exact (BlameX.modReq_live h _ (fun _ _ _ => rfl)).bfr (bfr_emitChildren _ _)

theorem bm_waitRoom (h : BM p m) : BM (p.waitRoom m) m := by
  unfold waitRoom
  exact ite_keeps (P := (BM · m)) (bm_schedMeta (bm_modReq (h.same _) _) m) (bm_modReq (h.same _) _)

theorem bm_waitMapSem (h : BM p m) : BM (p.waitMapSem m) m := by
  unfold waitMapSem
  exact ite_keeps (P := (BM · m)) (bm_schedMeta (bm_modReq h _) m) (bm_modReq h _)

theorem bm_meta (m : Nat) : MetaKept (BM · m) BlameX True m where
  remaining := fun _ _ h => bm_modReq h _
  skipped := fun _ h => bm_modReq h _
  itemsNil := fun _ h => bm_modReq h _
  acquired := fun _ h => bm_modReq h _
  pullItem := fun _ _ h => (bm_logEv (bm_modReq h _) _).bfr (bfr_runHooks _ _ _)
  takeMapSlot := fun _ h => bm_modReq h _
  takeSlotAndCreate := fun p isMap h _ => h.bfr (bfr_takeSlotAndCreate p m isMap)
  finishMeta := fun _ o h => bx_finishMeta h o
  waitRoom := fun _ h => (bm_waitRoom h).bx
  waitMapSem := fun _ h => (bm_waitMapSem h).bx
  releasePool := fun p h => h.bfr (bfr_releasePool p)
  releaseMap := fun p h => h.bfr (bfr_releaseMap p m)
  dropWaiter := fun _ _ h => bm_modReq (h.same _) _
  running := fun _ h => bm_modReq h _
  wakeNext := fun _ _ o h => bm_schedOpt (h.same _) o
  createTask := fun _ p isMap h => h.bfr (bfr_createTask p m isMap)
  mapWake := fun _ _ o h => bm_schedOpt (bm_modReq h _) o

/-- a spawner that is done is in frame `done` (`BlameX.ro`) and is not resumed: where it is, it has no outcome -/
theorem bx_stepMeta (p : Pool) (m : Nat) (h : BlameX p) : BlameX (p.stepMeta m) := by
  refine (bm_meta m).stepMeta (fun _ => h) (h.bfr (bfr_modReq p m _)) (fun r hr hne _ => bm_modReq ⟨h, fun x hx => ?_⟩ _)
    fun ng => (ng trivial).elim
  rw [hr] at hx; cases hx
  cases ho : r.outcome with
  | none => rfl
  | some o => exact absurd (h.ro m r hr (by rw [ho]; rfl)) hne

end Pool
end Taskpool
