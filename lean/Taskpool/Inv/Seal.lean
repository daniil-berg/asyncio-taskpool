import Taskpool.Inv.Tame
import Taskpool.Model.World
/-! **A pending `gather_and_close()` seals the pool** (histories without `unlock()`).

Known finding R9 (DESIGN §6) is: `unlock()` while a `gather_and_close()` is pending re-admits requests whose tasks
end after the registries were cleared.  `SealOK` is the invariant that holds when nobody ever calls `unlock()` —
neither the caller nor user code the pool runs — and that makes `gather_and_close()` safe:

* `fr` — a live spawner is filed as running (`_group_meta_tasks_running`) or **doomed**: `must_cancel` is set, or the
  future it is suspended on — its entry in the waiter queue of the pool's resp. of its own semaphore — is cancelled
  (`DoomedAt`, the notion of `CancOK`).  Being filed as *cancelled* is not required: a `flush()` forgets
  `_meta_tasks_cancelled` wholesale, also spawners cancelled while it was waiting.  A doomed spawner creates no task
  (`C07_doomed_next_step`).  The spawner whose handle is being run (`E`) is exempt.
* `lk` — while a `gather_and_close()` waits in one of its two gathers the pool is locked.
* `g1` — its first gather (which collects exceptions) has **every spawner filed as running** among its children; no
  spawner is filed as running later, because the pool is locked.
* `g2` — once it has passed the first gather, no spawner is filed as running any more — so by `fr` every live spawner
  is doomed and no task is created from then on — and its second gather has **every task filed as running or
  cancelled** among its children, for as long as it waits: `gather_and_close()` awaits everything.
* `nh` — no user code of the pool calls `unlock()`.

With `FlushOK.gth` (a gather that completed normally has seen all its child tasks finish) `g2` gives: the closing step
drops no task that still holds its slot, i.e. the ghost bit `lost` is never set by `gather_and_close()`. -/
namespace Taskpool

def HookOp.isUnlock : HookOp → Bool
  | .unlock => true
  | _ => false

def Hooks.noUnlock (h : Hooks) : Bool :=
  (h.start ++ h.endCb ++ h.cancelCb ++ h.pull ++ h.next).all fun o => !o.isUnlock

def SpawnSpec.noUnlock (sp : SpawnSpec) : Bool := sp.hooks.noUnlock

/-- the operations admitted by the theorems about sealed pools: no `unlock()` by the caller, none in the user code
handed to the pool with a request -/
def Op.noUnlock : Op → Bool
  | .unlock => false
  | .apply _ _ sp => sp.noUnlock
  | .map _ _ _ _ sp => sp.noUnlock
  | _ => true

/-- no `unlock()` in the function and callbacks a `SimpleTaskPool` is constructed with -/
def mkNoUnlock : Option SpawnSpec → Bool
  | some sp => sp.noUnlock
  | none => true

def Api.gacPending (A : Api) : Bool :=
  A.kind.isGac && (match A.frame with | .gather1 _ => true | .gather2 _ => true | _ => false)

namespace Pool

/-- every spawner child of a completed gather that collects exceptions has finished.  A premise of the pool-local walk:
it follows from the world-level counting invariant of the gathers (`Inv/GatherSpawners.lean`) -/
def SpawnersWaited (p : Pool) : Prop :=
  ∀ (g : Nat) (G : Gather), p.gathers[g]? = some G → G.retExc = true → G.outer.isSome = true →
    ∀ m, Child.spawner m ∈ G.children → ∃ r : Req, p.reqs[m]? = some r ∧ r.outcome.isSome = true

/-- `gacStage1` up to and including the start of its first gather (the state in which that gather may already be
complete) -/
def gacStage1Pre (p : Pool) (a : Nat) (re : Bool) : Pool × Nat :=
  let p : Pool := { p with locked := true }
  let runningMetas := indicesWhere p.reqs fun r => r.inRunning
  let children := p.metaCancelled.map Child.spawner ++ runningMetas.map Child.spawner
  let amb := !re && (failKindsExc p (children.take p.metaCancelled.length)).length > 1
  let p : Pool := { p with ambiguous := p.ambiguous || amb }
  p.gatherStart children true a 0

theorem gacStage1_eq (p : Pool) (a : Nat) (re : Bool) :
    p.gacStage1 a re =
      match (p.gacStage1Pre a re).1.gatherOuter (p.gacStage1Pre a re).2 with
      | some _ => (p.gacStage1Pre a re).1.gacAfter1 a re (p.gacStage1Pre a re).2
      | none => (p.gacStage1Pre a re).1.modApi a fun x => { x with frame := .gather1 (p.gacStage1Pre a re).2 } := rfl

structure SealOK (E : Nat → Prop) (p : Pool) : Prop where
  fr : ∀ (m : Nat) (r : Req), p.reqs[m]? = some r → ¬ E m → r.outcome = none → r.inRunning = true ∨ DoomedAt p m r
  lk : ∀ (a : Nat) (A : Api), p.apis[a]? = some A → A.gacPending = true → p.locked = true
  g1 : ∀ (a : Nat) (A : Api) (g : Nat), p.apis[a]? = some A → A.kind.isGac = true → A.frame = .gather1 g →
         ∃ G : Gather, p.gathers[g]? = some G ∧ G.retExc = true ∧
           ∀ (m : Nat) (r : Req), p.reqs[m]? = some r → r.inRunning = true → Child.spawner m ∈ G.children
  g2 : ∀ (a : Nat) (A : Api) (g : Nat), p.apis[a]? = some A → A.kind.isGac = true → A.frame = .gather2 g →
         (∀ (m : Nat) (r : Req), p.reqs[m]? = some r → r.inRunning = false) ∧
         ∃ G : Gather, p.gathers[g]? = some G ∧ ∀ t ∈ p.running ++ p.cancelledR, Child.task t ∈ G.children
  nh : (match p.simple with | some sp => sp.noUnlock | none => true) = true ∧
       ∀ (m : Nat) (r : Req), p.reqs[m]? = some r → r.hooks.noUnlock = true

/-- nobody exempt: the state between two steps -/
abbrev Seal (p : Pool) : Prop := SealOK (fun _ => False) p

/-! Boolean restatement, evaluated by the driver on every state (a cross-check, not a proof obligation). -/

def ownCancelledB' (m : Nat) (ws : List Waiter) : Bool := (removeWaiterL m ws).1 == some .cancelled

def doomedB (p : Pool) (m : Nat) (r : Req) : Bool :=
  r.mustCancel || (r.frame == .waitRoom && ownCancelledB' m p.sem.waiters) ||
  (r.frame == .waitMapSem && ownCancelledB' m r.mapSem.waiters)

def sealBit (p : Pool) : Bool :=
  (p.reqs.zipIdx.all fun (r, m) => r.outcome.isSome || r.inRunning || p.doomedB m r) &&
  (p.apis.all fun A => !A.gacPending || p.locked) &&
  (p.apis.all fun A => !A.kind.isGac || (match A.frame with
    | .gather1 g => (match p.gathers[g]? with
        | some G => G.retExc && p.reqs.zipIdx.all fun (r, m) => !r.inRunning || G.children.contains (.spawner m)
        | none => false)
    | .gather2 g => (p.reqs.all fun r => !r.inRunning) && (match p.gathers[g]? with
        | some G => (p.running ++ p.cancelledR).all fun t => G.children.contains (.task t)
        | none => false)
    | _ => true)) &&
  (match p.simple with | some sp => sp.noUnlock | none => true) &&
  (p.reqs.all fun r => r.hooks.noUnlock)

end Pool
end Taskpool
