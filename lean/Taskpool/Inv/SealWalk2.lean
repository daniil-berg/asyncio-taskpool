import Taskpool.Inv.SealWalk1
/-! The walking predicate of `Pool.SealOK`, a spawner's step and the stages of the background calls.

`SK M N p` is `Pool.SealOK` with

* `M = some m`: spawner `m` is the one whose handle is being run — it has no entry in the pool's waiter queue and none in
  its own (`own`; between two steps this follows from `Want`);
* `N = false`: that spawner is exempt from clause `fr` (it has just consumed its cancellation and is about to end);
  `N = true`: nobody is exempt, and no `gather_and_close()` is in its second gather (`n2`) — the only situation in which
  a task may be created.

`SK` is preserved by every `PStep` (`sk_step`).

A spawner's step.  Its loops are an instance of `LoopKept` (`sk_loop`, `Inv/Loops.lean`), from `SK (some m) true` to
`SK none false`.  What a woken spawner does before them is walked over the eliminators of `Inv/Elim.lean` (`sk_enter` on top
of `sk_own`) and is no instance of `MetaKept`: `SK (some m) N` holds only once the spawner's waiter entry has been dropped
(`own`), whereas `MetaKept.dropWaiter` / `mapWake` ask for the predicate before the drop and for an arbitrary new queue; and
the spawner that wakes up cancelled goes on under `N = false`, the one that was granted its slot under `N = true` (it is
filed as running, so no `gather_and_close()` is in its second gather, `SK.noG2_of_running`), where `MetaKept` has one
predicate for both paths.

The background calls.  `SkAt` / `SkG` say what a call knows at which stage, `sk_staged` is the instance of `ApiStaged`
(`Inv/ApiStages.lean`), `sk_boundary` what `SK` gives a call that starts or is resumed.  `FsAt` / `FsG` of `Inv/FinSWalk.lean`
have `SkAt` / `SkG` as a component, and `fs_staged` calls `sk_staged` for it. -/
namespace Taskpool
namespace Pool

/-- no `gather_and_close()` is in its second gather -/
def NoG2 (p : Pool) : Prop :=
  ∀ (a : Nat) (A : Api) (g : Nat), p.apis[a]? = some A → A.kind.isGac = true → A.frame ≠ .gather2 g

/-- `SealOK` while a handle runs.  `M`: the spawner being run, exempt from `fr` unless `N`; `N` also says that no
`gather_and_close()` is in its second gather (`n2`).  Between two steps: `SK none false` -/
structure SK (M : Option Nat) (N : Bool) (p : Pool) : Prop where
  fr : ∀ (m : Nat) (r : Req), p.reqs[m]? = some r → (M = some m → N = true) → r.outcome = none →
         r.inRunning = true ∨ DoomedAt p m r
  lk : ∀ (a : Nat) (A : Api), p.apis[a]? = some A → A.gacPending = true → p.locked = true
  g1 : ∀ (a : Nat) (A : Api) (g : Nat), p.apis[a]? = some A → A.kind.isGac = true → A.frame = .gather1 g →
         ∃ G : Gather, p.gathers[g]? = some G ∧ G.retExc = true ∧
           ∀ (m : Nat) (r : Req), p.reqs[m]? = some r → r.inRunning = true → Child.spawner m ∈ G.children
  g2 : ∀ (a : Nat) (A : Api) (g : Nat), p.apis[a]? = some A → A.kind.isGac = true → A.frame = .gather2 g →
         (∀ (m : Nat) (r : Req), p.reqs[m]? = some r → r.inRunning = false) ∧
         ∃ G : Gather, p.gathers[g]? = some G ∧ ∀ t ∈ p.running ++ p.cancelledR, Child.task t ∈ G.children
  nh : NH p
  own : ∀ m, M = some m → m ∉ owners p.sem.waiters ∧ ∃ r, p.reqs[m]? = some r ∧ r.mapSem.waiters = []
  n2 : N = true → NoG2 p

theorem sk_of_seal {p : Pool} (h : Seal p) : SK none false p where
  fr := fun m r hp _ ho => h.fr m r hp id ho
  lk := h.lk
  g1 := h.g1
  g2 := h.g2
  nh := h.nh
  own := fun _ e => nomatch e
  n2 := fun e => nomatch e

theorem SK.seal {N : Bool} {p : Pool} (h : SK none N p) : Seal p where
  fr := fun m r hp _ ho => h.fr m r hp (fun e => nomatch e) ho
  lk := h.lk
  g1 := h.g1
  g2 := h.g2
  nh := h.nh

theorem SK.change {M M' : Option Nat} {N N' : Bool} {p : Pool} (h : SK M N p)
    (hfr : ∀ m r, M = some m → N = false → p.reqs[m]? = some r → r.outcome = none → r.inRunning = true ∨ DoomedAt p m r)
    (hown : ∀ m, M' = some m → m ∉ owners p.sem.waiters ∧ ∃ r, p.reqs[m]? = some r ∧ r.mapSem.waiters = [])
    (hn2 : N' = true → NoG2 p) : SK M' N' p where
  fr := fun m r hp _ ho => by
    cases N with
    | true => exact h.fr m r hp (fun _ => rfl) ho
    | false =>
      by_cases e : M = some m
      · exact hfr m r e rfl hp ho
      · exact h.fr m r hp (fun x => absurd x e) ho
  lk := h.lk
  g1 := h.g1
  g2 := h.g2
  nh := h.nh
  own := hown
  n2 := hn2

theorem SK.drop {M : Option Nat} {p : Pool} (h : SK M true p) : SK none false p :=
  h.change (fun _ _ _ e => nomatch e) (fun _ e => nomatch e) (fun e => nomatch e)

theorem gacPending_g1 {A : Api} {g : Nat} (hk : A.kind.isGac = true) (hf : A.frame = .gather1 g) : A.gacPending = true :=
  (gacPending_iff A).mpr ⟨hk, Or.inl ⟨g, hf⟩⟩

theorem gacPending_g2 {A : Api} {g : Nat} (hk : A.kind.isGac = true) (hf : A.frame = .gather2 g) : A.gacPending = true :=
  (gacPending_iff A).mpr ⟨hk, Or.inr ⟨g, hf⟩⟩

theorem sk_step {M : Option Nat} {N : Bool} {p q : Pool} (h : SK M N p) (s : PStep p q) : SK M N q where
  fr := fun i r' hq hc ho => by
    rcases s.rq i r' hq with ⟨r, hp, rs, _, b⟩ | ⟨_, _, _, f⟩
    · rcases h.fr i r hp hc (rs.lv ho).1 with x | x
      · exact b ho x
      · exact Or.inr (doomed_step x rs ho s.sw)
    · exact f ho
  lk := fun a A' hq hpd => by
    obtain ⟨A, hp, k, f⟩ := s.ap a A' hq hpd
    exact s.lk (h.lk a A hp (gacPending_of_frame k f hpd))
  g1 := fun a A' g hq hk hf => by
    have hpd := gacPending_g1 hk hf
    obtain ⟨A, hp, k, f⟩ := s.ap a A' hq hpd
    obtain ⟨G, hG, hre, hch⟩ := h.g1 a A g hp k (f.trans hf)
    obtain ⟨G', hG', e1, e2⟩ := s.ga g G hG
    refine ⟨G', hG', e2.trans hre, fun i r' hi hin => ?_⟩
    rw [e1]
    rcases s.rq i r' hi with ⟨r, hr, _, c, _⟩ | ⟨_, l, _, _⟩
    · exact hch i r hr (c hin)
    · rw [h.lk a A hp (gacPending_of_frame k f hpd)] at l; cases l
  g2 := fun a A' g hq hk hf => by
    have hpd := gacPending_g2 hk hf
    obtain ⟨A, hp, k, f⟩ := s.ap a A' hq hpd
    obtain ⟨hall, G, hG, hch⟩ := h.g2 a A g hp k (f.trans hf)
    obtain ⟨G', hG', e1, _⟩ := s.ga g G hG
    refine ⟨fun i r' hi => ?_, G', hG', fun t ht => ?_⟩
    · rcases s.rq i r' hi with ⟨r, hr, _, c, _⟩ | ⟨_, l, _, _⟩
      · cases hin : r'.inRunning with
        | false => rfl
        | true => have := c hin; rw [hall i r hr] at this; cases this
      · rw [h.lk a A hp (gacPending_of_frame k f hpd)] at l; cases l
    · rw [e1]; exact hch t (s.ru t ht)
  nh := s.nh h.nh
  own := fun m hm => by
    obtain ⟨a, r, hr, e⟩ := h.own m hm
    refine ⟨fun x => a (s.so m x), ?_⟩
    have hlt : m < q.reqs.length := Nat.lt_of_lt_of_le (lt_of_getElem?_some hr) s.rl
    have hq : q.reqs[m]? = some q.reqs[m] := by simp [hlt]
    rcases s.rq m _ hq with ⟨r0, hr0, rs, _, _⟩ | ⟨l, _⟩
    · rw [hr] at hr0; cases hr0
      exact ⟨_, hq, rs.me e⟩
    · have := (lt_of_getElem?_some hr); omega
  n2 := fun hN a A' g hq hk hf => by
    obtain ⟨A, hp, k, f⟩ := s.ap a A' hq (gacPending_g2 hk hf)
    exact h.n2 hN a A g hp k (f.trans hf)

theorem sk_ps {M : Option Nat} {N : Bool} {p q : Pool} (h : SK M N p) (s : PS p q) : SK M N q := sk_step h (s h.nh)

/-- `sk_step` written as a walk from `p`: `sk_walk h (·.finishMeta m o)` -/
theorem sk_walk {M : Option Nat} {N : Bool} {p q : Pool} (h : SK M N p) (s : PStep p p → PStep p q) : SK M N q :=
  sk_step h (s (PStep.refl p))

theorem not_ownCancelled_of_not_mem {m : Nat} {ws : List Waiter} (h : m ∉ owners ws) : ¬ ownCancelled m ws := by
  rw [ownCancelled_ent, ent_nil_of_not_mem h]
  exact nofun

theorem doomed_own {p : Pool} {m : Nat} {r : Req} (h1 : m ∉ owners p.sem.waiters) (h2 : r.mapSem.waiters = [])
    (hd : DoomedAt p m r) : r.mustCancel = true := by
  rcases hd with d | ⟨_, d⟩ | ⟨_, d⟩
  · exact d
  · exact absurd d (not_ownCancelled_of_not_mem h1)
  · rw [h2] at d; exact absurd d (not_ownCancelled_of_not_mem List.not_mem_nil)

theorem ownCancelled_append_self (m : Nat) (ws : List Waiter) (h : m ∉ owners ws) :
    ownCancelled m (ws ++ [{ owner := m, st := .cancelled }]) := by
  rw [ownCancelled_ent, ent_push, if_pos rfl, ent_nil_of_not_mem h]
  rfl

theorem sk_own {M M' : Option Nat} {N N' : Bool} {p q : Pool} {m : Nat} (h : SK M N p) (hM : ∀ i, M = some i → i = m)
    (f : Req → Req) (hq : q.reqs = p.reqs.modify m f)
    (hsw : ∀ i, i ≠ m → ownCancelled i p.sem.waiters → ownCancelled i q.sem.waiters)
    (hk : ∀ r, (f r).hooks = r.hooks) (hi : ∀ r, (f r).inRunning = r.inRunning)
    (hfr : ∀ r, p.reqs[m]? = some r → (M' = some m → N' = true) → (f r).outcome = none →
      (f r).inRunning = true ∨ DoomedAt q m (f r))
    (hown : ∀ i, M' = some i → i ∉ owners q.sem.waiters ∧ ∃ r, q.reqs[i]? = some r ∧ r.mapSem.waiters = [])
    (hn2 : N' = true → NoG2 p)
    (ha : q.apis = p.apis := by rfl) (hg : q.gathers = p.gathers := by rfl) (e1 : q.running = p.running := by rfl)
    (e2 : q.cancelledR = p.cancelledR := by rfl) (e3 : q.locked = p.locked := by rfl)
    (e4 : q.simple = p.simple := by rfl) : SK M' N' q := by
  have hin : ∀ i r', q.reqs[i]? = some r' → ∃ r, p.reqs[i]? = some r ∧ r'.inRunning = r.inRunning ∧
      r'.hooks = r.hooks ∧ (i ≠ m → r' = r) ∧ (i = m → r' = f r) := by
    intro i r' hr'
    rw [hq] at hr'
    obtain ⟨r, hp, rfl⟩ := getElem?_modify_some _ _ _ _ _ hr'
    refine ⟨r, hp, ?_⟩
    split
    · rename_i e; exact ⟨hi r, hk r, fun x => absurd e.symm x, fun _ => rfl⟩
    · rename_i e; exact ⟨rfl, rfl, fun _ => rfl, fun x => absurd x.symm e⟩
  refine { fr := ?_, lk := ?_, g1 := ?_, g2 := ?_, nh := ?_, own := hown, n2 := ?_ }
  · intro i r' hr' hc ho
    obtain ⟨r, hp, _, _, hne, heq⟩ := hin i r' hr'
    by_cases e : i = m
    · subst e
      rw [heq rfl] at ho ⊢
      exact hfr r hp hc ho
    · rw [hne e] at ho ⊢
      rcases h.fr i r hp (fun x => absurd (hM i x) e) ho with x | x
      · exact Or.inl x
      · refine Or.inr ?_
        rcases x with d | ⟨d1, d2⟩ | d
        · exact Or.inl d
        · exact Or.inr (Or.inl ⟨d1, hsw i e d2⟩)
        · exact Or.inr (Or.inr d)
  · rw [ha, e3]; exact h.lk
  · intro a A g hA hkd hf
    rw [ha] at hA
    obtain ⟨G, hG, hre, hch⟩ := h.g1 a A g hA hkd hf
    refine ⟨G, by rw [hg]; exact hG, hre, fun i r' hr' hir => ?_⟩
    obtain ⟨r, hp, e, _⟩ := hin i r' hr'
    exact hch i r hp (e ▸ hir)
  · intro a A g hA hkd hf
    rw [ha] at hA
    obtain ⟨hall, G, hG, hch⟩ := h.g2 a A g hA hkd hf
    refine ⟨fun i r' hr' => ?_, G, by rw [hg]; exact hG, by rw [e1, e2]; exact hch⟩
    obtain ⟨r, hp, e, _⟩ := hin i r' hr'
    rw [e]; exact hall i r hp
  · refine ⟨by rw [e4]; exact h.nh.1, fun i r' hr' => ?_⟩
    obtain ⟨r, hp, _, e, _⟩ := hin i r' hr'
    rw [e]; exact h.nh.2 i r hp
  · intro hN a A g hA
    rw [ha] at hA
    exact hn2 hN a A g hA

theorem sk_ownMod {m : Nat} {N : Bool} {p : Pool} (h : SK (some m) N p) (f : Req → Req)
    (hk : ∀ r, (f r).hooks = r.hooks) (ho : ∀ r, (f r).outcome = r.outcome) (hi : ∀ r, (f r).inRunning = r.inRunning)
    (hm : ∀ r, r.mustCancel = true → (f r).mustCancel = true)
    (hw : ∀ r, (f r).mapSem.waiters = r.mapSem.waiters) : SK (some m) N (p.modReq m f) := by
  obtain ⟨a, r, hr, e⟩ := h.own m rfl
  refine sk_own h (fun i x => (Option.some.inj x).symm) f rfl (fun _ _ x => x) hk hi (fun r0 hr0 hc hout => ?_)
    (fun i x => ?_) h.n2
  · rw [hr] at hr0; cases hr0
    rcases h.fr m r hr (fun _ => hc rfl) ((ho r) ▸ hout) with x | x
    · exact Or.inl ((hi r).symm ▸ x)
    · exact Or.inr (Or.inl (hm r (doomed_own a e x)))
  · cases x
    exact ⟨a, f r, modReq_get_self p m f r hr, (hw r).trans e⟩

theorem SK.noG2_of_running {M : Option Nat} {N : Bool} {p : Pool} (h : SK M N p) {m : Nat} {r : Req}
    (hp : p.reqs[m]? = some r) (hin : r.inRunning = true) : NoG2 p := by
  intro a A g hA hk hf
  have := (h.g2 a A g hA hk hf).1 m r hp
  rw [hin] at this; cases this

/-- the spawner being run ends: its asyncio Task is done, so clause `fr` says nothing about it -/
theorem sk_finishMeta {m : Nat} {N : Bool} {p : Pool} (h : SK (some m) N p) (o : Outcome) : SK none false (p.finishMeta m o) :=
  (sk_walk h (·.finishMeta m o)).change
    (fun _ r e _ hr ho => absurd ho (finishMeta_outcome p m o r ((Option.some.inj e) ▸ hr)))
    (fun _ e => nomatch e) (fun e => nomatch e)

theorem sk_createTask {M : Option Nat} {p : Pool} (h : SK M true p) (m : Nat) (isMap : Bool) :
    SK M true (p.createTask m isMap) := by
  unfold createTask
  simp only
  refine sk_walk ?_ (·.emitRef _)
  refine sk_walk ?_ (·.modReq m _)
  exact { h with g2 := fun a A g hA hk hf => absurd hf (h.n2 rfl a A g hA hk) }

/-- the spawner suspends in `_enough_room.acquire()`; a pending `must_cancel` cancels the new waiter entry at once -/
theorem sk_waitRoom_core {m : Nat} {p : Pool} (h : SK (some m) true p) (st : WaitSt)
    (hst : (p.reqs[m]?.getD default).mustCancel = true → st = .cancelled) :
    SK none false (({ p with sem := { p.sem with waiters := p.sem.waiters ++ [{ owner := m, st := st }] } } : Pool).modReq m
        fun x => { x with frame := .waitRoom, mustCancel := false }) := by
  obtain ⟨a, r, hr, e⟩ := h.own m rfl
  refine sk_own h (fun i x => (Option.some.inj x).symm) _ rfl (fun i _ x => ownCancelled_append i _ _ x)
    (fun _ => rfl) (fun _ => rfl) (fun r0 hr0 _ hout => ?_) (fun i x => nomatch x) (fun x => nomatch x)
  rw [hr] at hr0; cases hr0
  rcases h.fr m r hr (fun _ => rfl) hout with x | x
  · exact Or.inl x
  · have hmc := doomed_own a e x
    rw [hr] at hst
    have hst' := hst hmc
    subst hst'
    exact Or.inr (Or.inr (Or.inl ⟨rfl, ownCancelled_append_self m _ a⟩))

theorem sk_waitRoom {m : Nat} {p : Pool} (h : SK (some m) true p) : SK none false (p.waitRoom m) := by
  unfold waitRoom
  simp only
  split
  · exact sk_step (sk_waitRoom_core h _ (fun _ => rfl)) ((PStep.refl _).schedMeta m)
  · rename_i c
    exact sk_waitRoom_core h _ (fun x => absurd x c)

theorem sk_waitMapSem_core {m : Nat} {p : Pool} (h : SK (some m) true p) (st : WaitSt)
    (hst : (p.reqs[m]?.getD default).mustCancel = true → st = .cancelled) :
    SK none false (p.modReq m fun x => { x with frame := .waitMapSem, mustCancel := false, acquired := false, mapSem := { x.mapSem with waiters := x.mapSem.waiters ++ [{ owner := m, st := st }] } }) := by
  obtain ⟨a, r, hr, e⟩ := h.own m rfl
  refine sk_own h (fun i x => (Option.some.inj x).symm) _ rfl (fun i _ x => x)
    (fun _ => rfl) (fun _ => rfl) (fun r0 hr0 _ hout => ?_) (fun i x => nomatch x) (fun x => nomatch x)
  rw [hr] at hr0; cases hr0
  rcases h.fr m r hr (fun _ => rfl) hout with x | x
  · exact Or.inl x
  · have hmc := doomed_own a e x
    rw [hr] at hst
    have hst' := hst hmc
    subst hst'
    exact Or.inr (Or.inr (Or.inr ⟨rfl, ownCancelled_append_self m _ (e ▸ List.not_mem_nil)⟩))

theorem sk_waitMapSem {m : Nat} {p : Pool} (h : SK (some m) true p) : SK none false (p.waitMapSem m) := by
  unfold waitMapSem
  simp only
  split
  · exact sk_step (sk_waitMapSem_core h _ (fun _ => rfl)) ((PStep.refl _).schedMeta m)
  · rename_i c
    exact sk_waitMapSem_core h _ (fun x => absurd x c)

/-- the spawner's loops: a task is created only while nobody is exempt (`N = true`); the step ends with `finishMeta` or in
one of the two queues -/
theorem sk_loop (m : Nat) : LoopKept (SK (some m) true) (SK none false) m where
  remaining := fun _ _ h => sk_walk h (·.modReq m _)
  skipped := fun _ h => sk_walk h (·.modReq m _)
  itemsNil := fun _ h => sk_walk h (·.modReq m _)
  acquired := fun _ h => sk_ownMod h _ (fun _ => rfl) (fun _ => rfl) (fun _ => rfl) (fun _ x => x) (fun _ => rfl)
  pullItem := fun _ rest h => by
    -- user code runs: it may cancel the spawner itself
    unfold pullItem
    simp only
    refine sk_ps (sk_walk ?_ (·.logEv _)) (ps_runHooks _ _ _ (noUnlock_parts (h.nh.getD m)).2.2.2)
    exact sk_ownMod h _ (fun _ => rfl) (fun _ => rfl) (fun _ => rfl) (fun _ x => x) (fun _ => rfl)
  takeMapSlot := fun _ h => sk_ownMod h _ (fun _ => rfl) (fun _ => rfl) (fun _ => rfl) (fun _ x => x) (fun _ => rfl)
  takeSlotAndCreate := fun _ isMap h _ => sk_createTask (sk_step h (pstep_of_eq _ _)) m isMap
  finishMeta := fun _ o h => sk_finishMeta h o
  waitRoom := fun _ h => sk_waitRoom h
  waitMapSem := fun _ h => sk_waitMapSem h

theorem SK.running {p : Pool} (h : SK none false p) {m : Nat} {r : Req} (hp : p.reqs[m]? = some r) (ho : r.outcome = none)
    (hd : ¬ DoomedAt p m r) : r.inRunning = true :=
  (h.fr m r hp (fun e => nomatch e) ho).resolve_right hd

theorem sk_stepMetaNotStarted {p : Pool} {m : Nat} (h : SK none false p) (r : Req)
    (hp : p.reqs[m]? = some { r with sched := false }) (ho : r.outcome = none) (hfr : r.frame = .notStarted)
    (hnw : m ∉ owners p.sem.waiters) (hmw : r.mapSem.waiters = []) : SK none false (p.stepMetaNotStarted m r) := by
  unfold stepMetaNotStarted
  refine dite_keeps (fun _ => sk_walk h (·.finishMeta m _)) fun c => ?_
  have hin : r.inRunning = true := h.running (r := { r with sched := false }) hp ho fun d =>
    d.elim c fun d => d.elim (fun x => nomatch hfr.symm.trans x.1) fun x => nomatch hfr.symm.trans x.1
  have hpin : SK (some m) true p :=
    h.change (fun _ _ e => nomatch e) (fun _ e => Option.some.inj e ▸ ⟨hnw, _, hp, hmw⟩) fun _ => h.noG2_of_running hp hin
  split
  · exact (sk_loop m).applyLoop _ p hpin
  · exact (sk_loop m).mapLoop _ p hpin

/-- `CancelledError` inside `_enough_room.acquire()`: the (exempt) spawner hands back what it holds and ends -/
theorem sk_roomWaitCancelled {p : Pool} {m : Nat} {N : Bool} (h : SK (some m) N p) (r : Req) (st : Option WaitSt) :
    SK none false (p.roomWaitCancelled m r st) := by
  unfold roomWaitCancelled
  simp only
  refine sk_finishMeta (N := N) ?_ _
  have h1 : SK (some m) N (if (st == some WaitSt.granted) = true then p.releasePool else p) :=
    ite_keeps (sk_walk h (·.releasePool)) h
  exact ite_keeps (sk_walk h1 (·.releaseMap m)) h1

theorem sk_roomGranted {p : Pool} {m : Nat} (h : SK (some m) true p) (r : Req) : SK none false (p.roomGranted m r) := by
  unfold roomGranted
  have h0 : SK (some m) true (p.modReq m fun x => { x with frame := MFrame.running }) :=
    sk_ownMod h _ (fun _ => rfl) (fun _ => rfl) (fun _ => rfl) (fun _ x => x) (fun _ => rfl)
  exact (sk_loop m).continueSpawner (sk_createTask (ite_keeps (sk_walk h0 (·.wake _ rfl)) h0) m _)

/-- a woken spawner enters its step: its record is rewritten by `f`, it has no waiter entry left; it is exempt unless it
is filed as running -/
theorem sk_enter {p q : Pool} {m : Nat} {r : Req} (h : SK none false p) (hp : p.reqs[m]? = some r) (f : Req → Req)
    (hq : q.reqs = p.reqs.modify m f)
    (hsw : ∀ i, i ≠ m → ownCancelled i p.sem.waiters → ownCancelled i q.sem.waiters)
    (hk : ∀ r, (f r).hooks = r.hooks) (hi : ∀ r, (f r).inRunning = r.inRunning)
    (hnw : m ∉ owners q.sem.waiters) (hmw : (f r).mapSem.waiters = []) (N' : Bool) (hN : N' = true → r.inRunning = true)
    (ha : q.apis = p.apis := by rfl) (hg : q.gathers = p.gathers := by rfl) (e1 : q.running = p.running := by rfl)
    (e2 : q.cancelledR = p.cancelledR := by rfl) (e3 : q.locked = p.locked := by rfl)
    (e4 : q.simple = p.simple := by rfl) : SK (some m) N' q := by
  refine sk_own h (fun i x => nomatch x) f hq hsw hk hi (fun r0 hr0 hcnd _ => ?_) (fun i x => ?_)
    (fun hN' => h.noG2_of_running hp (hN hN')) ha hg e1 e2 e3 e4
  · cases hp.symm.trans hr0
    exact Or.inl ((hi r).symm ▸ hN (hcnd rfl))
  · cases x
    exact ⟨hnw, _, hq ▸ modify_get_self hp f, hmw⟩

theorem sk_wakeWaitRoom {p : Pool} {m : Nat} (h : SK none false p) (r : Req)
    (hp : p.reqs[m]? = some { r with sched := false }) (ho : r.outcome = none) (hfr : r.frame = .waitRoom)
    (hnd : (owners p.sem.waiters).Nodup) (hmw : r.mapSem.waiters = []) : SK none false (p.wakeWaitRoom m r) := by
  have key := sk_enter (q := ({ p with sem := { p.sem with waiters := (removeWaiterL m p.sem.waiters).2 } } : Pool).modReq m
      fun x => { x with mustCancel := false }) h hp _ rfl
    (fun i hne x => ownCancelled_remove m i _ (Ne.symm hne) x) (fun _ => rfl) (fun _ => rfl)
    (removeWaiterL_not_mem m _ hnd) hmw
  refine wakeWaitRoom_elim p m r _ _ rfl rfl (fun _ _ _ => h) (fun _ => sk_roomWaitCancelled (key false (fun e => nomatch e)) r _)
    fun n1 n2 _ => sk_roomGranted (key true fun _ => ?_) r
  exact h.running (r := { r with sched := false }) hp ho fun d =>
    d.elim (fun x => nomatch n2.symm.trans x) fun d => d.elim (fun x => n1 x.2) fun x => nomatch hfr.symm.trans x.1

theorem sk_wakeWaitMapSem {p : Pool} {m : Nat} (h : SK none false p) (r : Req)
    (hp : p.reqs[m]? = some { r with sched := false }) (ho : r.outcome = none) (hfr : r.frame = .waitMapSem)
    (hnw : m ∉ owners p.sem.waiters) (hs1 : (removeWaiterL m r.mapSem.waiters).2 = []) :
    SK none false (p.wakeWaitMapSem m r) := by
  -- `s2`: the call's own semaphore after the wake-up.  The spawner's entry was the only one (`hs1`), so the queue is
  -- empty whichever branch `release` / `_wake_up_next` took and nobody is woken (`wk_s2_nil`): what `SK.own` asks
  have hs2 := wk_s2_nil { r.mapSem with waiters := (removeWaiterL m r.mapSem.waiters).2 } hs1
    ((removeWaiterL m r.mapSem.waiters).1 == some WaitSt.granted)
    ((removeWaiterL m r.mapSem.waiters).1 == some WaitSt.cancelled || r.mustCancel)
  generalize hs2e : (if ((removeWaiterL m r.mapSem.waiters).1 == some WaitSt.granted) = true then _ else _ : Sem × Option Nat) = s2 at hs2
  have key : ∀ N' : Bool, (N' = true → r.inRunning = true) →
      SK (some m) N' ((p.modReq m fun x => { x with mapSem := s2.1, mustCancel := false }).schedOpt s2.2) := fun N' hN =>
    sk_walk (sk_enter (q := p.modReq m fun x => { x with mapSem := s2.1, mustCancel := false }) h hp _ rfl (fun _ _ x => x) (fun _ => rfl) (fun _ => rfl) hnw hs2.1 N' hN) (·.schedOpt _)
  refine wakeWaitMapSem_elim p m r _ _ s2 _ rfl rfl hs2e.symm rfl (fun _ _ _ => h)
    (fun _ => sk_finishMeta (key false (fun e => nomatch e)) _) fun n1 n2 _ => (sk_loop m).mapSemGranted (key true fun _ => ?_) r
  exact h.running (r := { r with sched := false }) hp ho fun d =>
    d.elim (fun x => nomatch n2.symm.trans x) fun d => d.elim (fun x => nomatch hfr.symm.trans x.1) fun x => n1 x.2

/-- a spawner takes a step.  From `Want`: a spawner whose asyncio Task is done is never resumed; the waiter queues hold
one entry per owner, entries belong to spawners suspended in the respective `acquire()` (`hW.wk : WK0 p` is `Want` in
the form of its walk, `Inv/WantWalk.lean`; the `wk0_*` lemmas read these facts off it for the frame at hand) -/
theorem sk_stepMeta {p : Pool} (h : SK none false p) (hW : Want p) (m : Nat) : SK none false (p.stepMeta m) := by
  have h1 : SK none false (p.modReq m fun x => { x with sched := false }) := sk_walk h (·.modReq m _)
  refine stepMeta_elim p m _ rfl (fun _ => h) (fun _ _ _ => h) (fun _ _ _ _ _ => h1) (fun r hp hf => ?_) (fun r hp hf => ?_) (fun r hp hf => ?_)
  · exact sk_stepMetaNotStarted h1 r (modReq_get_self p m _ r hp) (wk0_live hW.wk hp fun e => nomatch hf.symm.trans e) hf
      (wk0_not_owner (p := p) hW.wk hp fun e => nomatch hf.symm.trans e) (wk0_mapWaiters_nil hW.wk hp fun e => nomatch hf.symm.trans e)
  · exact sk_wakeWaitRoom h1 r (modReq_get_self p m _ r hp) (wk0_live hW.wk hp fun e => nomatch hf.symm.trans e) hf hW.pn
      (wk0_mapWaiters_nil hW.wk hp fun e => nomatch hf.symm.trans e)
  · exact sk_wakeWaitMapSem h1 r (modReq_get_self p m _ r hp) (wk0_live hW.wk hp fun e => nomatch hf.symm.trans e) hf
      (wk0_not_owner (p := p) hW.wk hp fun e => nomatch hf.symm.trans e) (wk0_removeOwn_nil hW.wk hp)

theorem pstep_gacAfter2 (p : Pool) (a : Nat) (o : Outcome) : PStep p (p.gacAfter2 a o) := by
  unfold gacAfter2
  split
  · simp only
    refine PStep.finishApi (foldl_keeps (P := PStep p) _ (fun _ w hq => hq.schedApi w) _ _ ?_) a _
    exact { PStep.refl p with ru := fun t ht => nomatch ht }
  · exact (PStep.refl p).finishApi a _

theorem sk_setFrame {p : Pool} (h : SK none false p) (a : Nat) (fr : AFrame) (hl : p.locked = true)
    (h1 : ∀ g, fr = .gather1 g → ∃ G : Gather, p.gathers[g]? = some G ∧ G.retExc = true ∧
      ∀ (m : Nat) (r : Req), p.reqs[m]? = some r → r.inRunning = true → Child.spawner m ∈ G.children)
    (h2 : ∀ g, fr = .gather2 g → (∀ (m : Nat) (r : Req), p.reqs[m]? = some r → r.inRunning = false) ∧
      ∃ G : Gather, p.gathers[g]? = some G ∧ ∀ t ∈ p.running ++ p.cancelledR, Child.task t ∈ G.children) :
    SK none false (p.modApi a fun x => { x with frame := fr }) :=
  { h with
    lk := fun _ _ _ _ => hl
    g1 := fun i A' g' hA' hk hf => by
      rcases getElem?_modify_split hA' with ⟨_, x, _, rfl⟩ | ⟨_, hA⟩
      · exact h1 g' hf
      · exact h.g1 i A' g' hA hk hf
    g2 := fun i A' g' hA' hk hf => by
      rcases getElem?_modify_split hA' with ⟨_, x, _, rfl⟩ | ⟨_, hA⟩
      · exact h2 g' hf
      · exact h.g2 i A' g' hA hk hf
    n2 := fun e => nomatch e }

/-- `SK` while call `a` of kind `k` runs.  A `flush()` / `until_closed()` knows that its record is not that of a
`gather_and_close()` (its stages are steps of the frame, `pstep_flush`).  A `gather_and_close()`: before the first gather, the
world knows what holds right after it is started (`SpawnersWaited`); with the outcome of that gather in hand, the pool is
locked and every spawner that is still filed as running has ended; with that of the second, nobody is filed as running -/
structure SkAt (a : Nat) (k : ApiKind) (c : Hand) (p : Pool) : Prop where
  sk : SK none false p
  fl : k.isGac = false → NoGacAt a p
  gc : ∀ re, k = .gac re → match c with
    | .none => (p.gacStage1Pre a re).1.SpawnersWaited
    | .got false _ _ => p.locked = true ∧ ∀ (m : Nat) (r : Req), p.reqs[m]? = some r → r.inRunning = true → r.outcome.isSome = true
    | .got true _ _ => NR p

/-- right after a gather of a `gather_and_close()` was started: the pool is locked; the first gather collects exceptions and
has every spawner filed as running among its children, and what the world knows holds; when the second one is started nobody
is filed as running and it has every task filed as running or cancelled among its children -/
structure SkG (a : Nat) (k : ApiKind) (b : Bool) (q : Pool × Nat) : Prop where
  sk : SK none false q.1
  fl : k.isGac = false → NoGacAt a q.1
  lk : ∀ re, k = .gac re → q.1.locked = true
  g1 : ∀ re, k = .gac re → b = false → q.1.SpawnersWaited ∧ ∃ G : Gather, q.1.gathers[q.2]? = some G ∧ G.retExc = true ∧
    ∀ (m : Nat) (r : Req), q.1.reqs[m]? = some r → r.inRunning = true → Child.spawner m ∈ G.children
  g2 : ∀ re, k = .gac re → b = true → NR q.1 ∧
    ∃ G : Gather, q.1.gathers[q.2]? = some G ∧ ∀ t ∈ q.1.running ++ q.1.cancelledR, Child.task t ∈ G.children

/-- `gacStage1` up to the start of the first gather, for a pool that is locked already -/
theorem sk_gacPre {P : Pool} (h : SK none false P) (hl : P.locked = true) (a : Nat) (mc : List Nat) (re : Bool)
    (hsw : (P.gatherStart (mc.map Child.spawner ++ (indicesWhere P.reqs fun r => r.inRunning).map Child.spawner) true a 0).1.SpawnersWaited) :
    SkG a (.gac re) false (P.gatherStart (mc.map Child.spawner ++ (indicesWhere P.reqs fun r => r.inRunning).map Child.spawner) true a 0) := by
  have t := (PStep.refl P).gatherStart (mc.map Child.spawner ++ (indicesWhere P.reqs fun r => r.inRunning).map Child.spawner) true a 0
  obtain ⟨_, G, hG, hch, hre⟩ := gatherStart_new P (mc.map Child.spawner ++ (indicesWhere P.reqs fun r => r.inRunning).map Child.spawner) true a 0
  refine ⟨sk_step h t, nofun, fun _ _ => t.lk hl, fun _ _ _ => ⟨hsw, G, hG, hre, fun m r' hr' hin => ?_⟩, nofun⟩
  rw [hch]
  rcases t.rq m r' hr' with ⟨r, hr, _, c, _⟩ | ⟨_, l, _, _⟩
  · exact List.mem_append_right _ (List.mem_map.mpr ⟨m, mem_indicesWhere_iff.mpr ⟨_, hr, c hin⟩, rfl⟩)
  · rw [hl] at l; cases l

theorem sk_staged (a : Nat) : ApiStaged (SkAt a) (SkG a) (SK none false) a where
  headF1 := fun re p n h =>
    have t := (pstep_flush p a).headF1 re p n ⟨.refl p, h.fl rfl⟩
    ⟨sk_step h.sk t.1, fun _ => t.2, nofun, nofun, nofun⟩
  headF2 := fun re p g o h =>
    have t := (pstep_flush p a).headF2 re p g o ⟨.refl p, h.fl rfl⟩
    ⟨sk_step h.sk t.1, fun _ => t.2, nofun, nofun, nofun⟩
  forget := fun re p g h => sk_step h.sk ((pstep_flush p a).forget re p g ⟨.refl p, h.fl rfl⟩)
  seenClosed := fun p h c => sk_step h.sk ((pstep_flush p a).seenClosed p ⟨.refl p, h.fl rfl⟩ c)
  waitClosed := fun p h c => sk_step h.sk ((pstep_flush p a).waitClosed p ⟨.refl p, h.fl rfl⟩ c)
  finish := fun _ _ _ o _ h _ _ _ => sk_walk h.sk (·.finishApi a o)
  raised := fun _ _ _ _ _ h _ => sk_walk h.sk (·.finishApi a _)
  go := fun k b q o h ho => ⟨h.sk, h.fl, fun re hk => by
    cases b with
    | true => exact (h.g2 re hk rfl).1
    | false =>
      -- every spawner filed as running has been awaited (`SpawnersWaited`)
      obtain ⟨hsw, G, hG, hre, hch⟩ := h.g1 re hk rfl
      refine ⟨h.lk re hk, fun m r hr hin => ?_⟩
      obtain ⟨r0, hr0, x⟩ := hsw q.2 G hG hre (by rw [← gatherOuter_eq hG, ho]; rfl) m (hch m r hr hin)
      exact Option.some.inj (hr.symm.trans hr0) ▸ x⟩
  suspend := fun k b q hk h ho => by
    cases k with
    | untilClosed => exact absurd rfl hk
    | flush re => exact sk_step h.sk (pstep_modApi_nogac _ a _ (fun _ => rfl) (h.fl rfl))
    | gac re =>
      cases b with
      | false => exact sk_setFrame h.sk a _ (h.lk re rfl) (fun _ e => by cases e; exact (h.g1 re rfl rfl).2) nofun
      | true => exact sk_setFrame h.sk a _ (h.lk re rfl) nofun fun _ e => by cases e; exact h.g2 re rfl rfl
  headG1 := fun re p h => sk_gacPre (sk_step h.sk (pstep_of_eq_lock p _ rfl)) rfl a _ re (h.gc re rfl)
  headG2 := fun re p g o h => by
    obtain ⟨hl, hdone⟩ := h.gc re rfl
    -- the spawners un-filed have ended
    have t1 : PStep p ({ p with metaCancelled := [], reqs := p.reqs.map fun (r : Req) => { r with inCancelled := false, inRunning := false } } : Pool) :=
      pstep_mapReqs p _ _ rfl (fun _ => RStep.of_eq rfl rfl rfl rfl rfl) (fun _ x => nomatch x) fun i r hq hout hin =>
        nomatch (show r.outcome = none from hout) ▸ hdone i r hq hin
    have t := t1.gatherStart (p.ended.map Child.task ++ p.cancelledR.map Child.task ++ p.running.map Child.task) re a 0
    obtain ⟨_, G, hG, hch, _⟩ := gatherStart_new ({ p with metaCancelled := [], reqs := p.reqs.map fun (r : Req) => { r with inCancelled := false, inRunning := false } } : Pool)
      (p.ended.map Child.task ++ p.cancelledR.map Child.task ++ p.running.map Child.task) re a 0
    refine ⟨sk_step h.sk t, nofun, fun _ _ => t.lk hl, nofun, fun _ _ _ => ⟨nr_gather.gatherStart (fun m r' hr' => ?_) _ _ a 0, G, hG, fun x hx => ?_⟩⟩
    · obtain ⟨r, _, rfl⟩ := getElem?_map_some hr'
      rfl
    · rw [hch]
      have := t.ru x hx
      simp only [List.mem_append, List.mem_map, Child.task.injEq, exists_eq_right] at this ⊢
      exact this.elim Or.inr fun y => Or.inl (Or.inr y)
  closing := fun _ p _ h => sk_step h.sk (pstep_gacAfter2 p a .ok)

/-- at the handle boundary (the flag of call `a` cleared): a call that starts runs under `SkAt`; of a
`gather_and_close()` that waits in a gather, `SK` says what `SkG` said when that gather was started -/
theorem sk_boundary {p : Pool} (h : SK none false p) (a : Nat) (h0 : p.SpawnersWaited)
    (h1 : ∀ re, ((p.modApi a fun x => { x with sched := false }).gacStage1Pre a re).1.SpawnersWaited) {A : Api}
    (hA : p.apis[a]? = some A) :
    SkAt a A.kind .none (p.modApi a fun x => { x with sched := false }) ∧
      ∀ b g, A.frame = gframe b g → SkG a A.kind b (p.modApi a fun x => { x with sched := false }, g) := by
  have hp1 : SK none false (p.modApi a fun x => { x with sched := false }) := sk_walk h (·.modApi a _)
  have hA1 : (p.modApi a fun x => { x with sched := false }).apis[a]? = some { A with sched := false } :=
    modify_get_self hA _
  have fl : A.kind.isGac = false → NoGacAt a (p.modApi a fun x => { x with sched := false }) :=
    fun hg x hx => by cases hA1.symm.trans hx; exact hg
  have hkg : ∀ re, A.kind = .gac re → ({ A with sched := false } : Api).kind.isGac = true := fun _ hk => hk ▸ rfl
  refine ⟨⟨hp1, fl, fun re _ => h1 re⟩, fun b g hf => ?_⟩
  cases b with
  | false => exact ⟨hp1, fl, fun re hk => hp1.lk a _ hA1 (gacPending_g1 (hkg re hk) hf),
      fun re hk _ => ⟨h0, hp1.g1 a _ g hA1 (hkg re hk) hf⟩, fun _ _ e => nomatch e⟩
  | true => exact ⟨hp1, fl, fun re hk => hp1.lk a _ hA1 (gacPending_g2 (hkg re hk) hf), (fun _ _ e => nomatch e),
      fun re hk _ => hp1.g2 a _ g hA1 (hkg re hk) hf⟩

theorem sk_stepApi {p : Pool} (h : SK none false p) (a : Nat) (h0 : p.SpawnersWaited)
    (h1 : ∀ a re, ((p.modApi a fun x => { x with sched := false }).gacStage1Pre a re).1.SpawnersWaited) :
    SK none false (p.stepApi a) :=
  have hp1 : SK none false (p.modApi a fun x => { x with sched := false }) := sk_walk h (·.modApi a _)
  (sk_staged a).stepApi _ rfl h (fun _ _ _ _ _ _ => hp1) (fun _ hA _ _ => (sk_boundary h a h0 (h1 a) hA).1)
    (fun A b g o hA _ hf _ ho => (sk_staged a).go A.kind b (_, g) o ((sk_boundary h a h0 (h1 a) hA).2 b g hf) ho)
    fun _ _ _ _ => sk_walk hp1 (·.finishApi a _)

end Pool
end Taskpool
