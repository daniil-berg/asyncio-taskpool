import Lean.Meta.Tactic.Simp.RegisterCommand

/-- The commutation equations of the erasure `Pool.er` (`Inv/NonInt.lean`), all oriented erasure outwards: a field read
through the erasure is the field (`er_sem`, …), a record update of the erased pool is the erasure of the update
(`er_mk`), `f (er t p) = er t (f p)` for the functions a step function is written with, and the erasure comes out of a
conditional (`ite_er`).  `simp only [er_simp]` on an unfolded step function `f` moves the one `er t` on the left of
`f (er t p) = er t (f p)` to the head of the term, which is the right-hand side; no case of `f` is looked at.  A
rewriting set, not a lemma, because how often and where each equation applies is the body of `f`. -/
register_simp_attr er_simp
