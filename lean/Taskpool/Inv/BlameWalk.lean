import Taskpool.Inv.Blame
import Taskpool.Inv.Lift
import Taskpool.Inv.Wrapper
import Taskpool.Inv.Loops
import Taskpool.Inv.Write
import Taskpool.Inv.Grown
/-! The walking invariant `BlameX` of `BlameOK` (`Inv/Blame.lean`) and its frame relation `Bfr`.

`BlameX p` is `BlameOK p` plus what makes it inductive for the total machine:

* `to` — a task whose asyncio Task is done has finished (so `stepTask` is a no-op on it: its outcome is never rewritten);
* `ro` — a spawner that is done is in frame `done` (likewise for `stepMeta`);
* `g2` — the gather the second stage of a background call waits on exists and all its children are *tasks*
  (`CancelledError` reaches a call only through that gather).

`Bfr p q` ("`q` is `p` up to changes `BlameX` does not read"): background calls and gathers are the same, tasks and
requests are only appended (new ones have no outcome) and every old one keeps its outcome and its phase / frame.  Every
write of user code and of a caller is such a step (`bfr_write`, over `Inv/Write.lean`); the two list clauses are
`Grown` (`Inv/Grown.lean`). -/
namespace Taskpool
namespace Pool

/-- `childOutcome` on the lists it reads -/
def coL (ts : List PTask) (rs : List Req) : Child → Option Outcome
  | .task t => match ts[t]? with | some k => k.outcome | none => none
  | .spawner m => match rs[m]? with | some r => r.outcome | none => none

theorem childOutcome_coL (p : Pool) (c : Child) : p.childOutcome c = coL p.tasks p.reqs c := by cases c <;> rfl

/-- the walking invariant on the four lists it reads -/
structure BlameL (ts : List PTask) (rs : List Req) (as : List Api) (gs : List Gather) : Prop where
  ge : ∀ (g : Nat) (G : Gather) (e : Err), gs[g]? = some G → G.outer = some (.exc e) →
         ∃ c ∈ G.children, coL ts rs c = some (.exc e)
  gc : ∀ (g : Nat) (G : Gather), gs[g]? = some G → G.outer = some .cancelled →
         G.retExc = false ∧ ∃ c ∈ G.children, coL ts rs c = some .cancelled
  ae : ∀ (a : Nat) (A : Api) (e : Err), as[a]? = some A → A.outcome = some (.exc e) →
         (∃ (t : Nat) (k : PTask), ts[t]? = some k ∧ k.outcome = some (.exc e)) ∨
         (∃ (m : Nat) (r : Req), rs[m]? = some r ∧ r.outcome = some (.exc e))
  ac : ∀ (a : Nat) (A : Api), as[a]? = some A → A.outcome = some .cancelled →
         ∃ (t : Nat) (k : PTask), ts[t]? = some k ∧ k.outcome = some .cancelled
  to : ∀ (t : Nat) (k : PTask), ts[t]? = some k → k.outcome.isSome = true → k.phase = .finished
  ro : ∀ (m : Nat) (r : Req), rs[m]? = some r → r.outcome.isSome = true → r.frame = .done
  g2 : ∀ (a : Nat) (A : Api) (g : Nat), as[a]? = some A → A.frame = .gather2 g →
         ∃ G : Gather, gs[g]? = some G ∧ ∀ c ∈ G.children, ∃ t : Nat, c = .task t

/-- `BlameOK` plus `to`, `ro`, `g2` (header) -/
def BlameX (p : Pool) : Prop := BlameL p.tasks p.reqs p.apis p.gathers

theorem BlameX.ok {p : Pool} (h : BlameX p) : BlameOK p := by
  refine ⟨?_, ?_, h.ae, h.ac⟩
  · intro g G e hG ho
    obtain ⟨c, hc, hco⟩ := h.ge g G e hG ho
    exact ⟨c, hc, by rw [childOutcome_coL]; exact hco⟩
  · intro g G hG ho
    obtain ⟨hr, c, hc, hco⟩ := h.gc g G hG ho
    exact ⟨hr, c, hc, by rw [childOutcome_coL]; exact hco⟩

/-- the two clauses of one gather record: a failure of the outer future is a child's -/
def GOK (ts : List PTask) (rs : List Req) (G : Gather) : Prop :=
  (∀ e, G.outer = some (.exc e) → ∃ c ∈ G.children, coL ts rs c = some (.exc e)) ∧
  (G.outer = some .cancelled → G.retExc = false ∧ ∃ c ∈ G.children, coL ts rs c = some .cancelled)

/-- the three clauses of one background call -/
def AOK (ts : List PTask) (rs : List Req) (gs : List Gather) (A : Api) : Prop :=
  (∀ e, A.outcome = some (.exc e) → (∃ (t : Nat) (k : PTask), ts[t]? = some k ∧ k.outcome = some (.exc e)) ∨
    (∃ (m : Nat) (r : Req), rs[m]? = some r ∧ r.outcome = some (.exc e))) ∧
  (A.outcome = some .cancelled → ∃ (t : Nat) (k : PTask), ts[t]? = some k ∧ k.outcome = some .cancelled) ∧
  (∀ g, A.frame = .gather2 g → ∃ G : Gather, gs[g]? = some G ∧ ∀ c ∈ G.children, ∃ t : Nat, c = .task t)

/-- **witnesses stay**: a task or spawner that has ended with `o` is still there and has ended with `o` -/
structure Wit (ts : List PTask) (rs : List Req) (ts' : List PTask) (rs' : List Req) : Prop where
  tk : ∀ (t : Nat) (k : PTask) (o : Outcome), ts[t]? = some k → k.outcome = some o → ∃ k', ts'[t]? = some k' ∧ k'.outcome = some o
  rq : ∀ (m : Nat) (r : Req) (o : Outcome), rs[m]? = some r → r.outcome = some o → ∃ r', rs'[m]? = some r' ∧ r'.outcome = some o

theorem Wit.refl (ts : List PTask) (rs : List Req) : Wit ts rs ts rs := ⟨fun _ k _ a b => ⟨k, a, b⟩, fun _ r _ a b => ⟨r, a, b⟩⟩

theorem Wit.co {ts rs ts' rs'} (w : Wit ts rs ts' rs') {c : Child} {o : Outcome} (h : coL ts rs c = some o) :
    coL ts' rs' c = some o := by
  cases c with
  | task t =>
    simp only [coL] at h ⊢
    cases hk : ts[t]? with
    | none => rw [hk] at h; cases h
    | some k =>
      rw [hk] at h
      obtain ⟨k', a, b⟩ := w.tk t k o hk h
      rw [a]; exact b
  | spawner m =>
    simp only [coL] at h ⊢
    cases hr : rs[m]? with
    | none => rw [hr] at h; cases h
    | some r =>
      rw [hr] at h
      obtain ⟨r', a, b⟩ := w.rq m r o hr h
      rw [a]; exact b

/-- **the one transfer lemma of the blame walk.**  The invariant speaks of witnesses only positively, so it survives
every step that keeps them (`Wit`), provided each gather and each background call of the new state is either
justified on its own (`GOK`, `AOK`: that is where a step that writes an outer future or a call's outcome argues) or is an
old one whose verdict is unchanged -/
theorem BlameL.step {ts rs as gs ts' rs' as' gs'} (h : BlameL ts rs as gs) (w : Wit ts rs ts' rs')
    (hg : ∀ (g : Nat) (G' : Gather), gs'[g]? = some G' → GOK ts' rs' G' ∨
      ∃ G, gs[g]? = some G ∧ G'.children = G.children ∧ G'.retExc = G.retExc ∧ G'.outer = G.outer)
    (ha : ∀ (a : Nat) (A' : Api), as'[a]? = some A' → AOK ts' rs' gs' A' ∨
      ∃ A, as[a]? = some A ∧ A'.outcome = A.outcome ∧ A'.frame = A.frame)
    (hk : ∀ (g : Nat) (G : Gather), gs[g]? = some G → ∃ G', gs'[g]? = some G' ∧ G'.children = G.children)
    (hto : ∀ (t : Nat) (k : PTask), ts'[t]? = some k → k.outcome.isSome = true → k.phase = .finished)
    (hro : ∀ (m : Nat) (r : Req), rs'[m]? = some r → r.outcome.isSome = true → r.frame = .done) :
    BlameL ts' rs' as' gs' := by
  have G : ∀ g G', gs'[g]? = some G' → GOK ts' rs' G' := fun g G' hG' => (hg g G' hG').elim id fun ⟨G, hG, c, r, o⟩ =>
    ⟨fun e he => c ▸ (h.ge g G e hG (o ▸ he)).imp fun _ x => ⟨x.1, w.co x.2⟩,
      fun he => c ▸ r ▸ (h.gc g G hG (o ▸ he)).imp id fun x => x.imp fun _ y => ⟨y.1, w.co y.2⟩⟩
  have A : ∀ a A', as'[a]? = some A' → AOK ts' rs' gs' A' := fun a A' hA' => (ha a A' hA').elim id fun ⟨A, hA, o, f⟩ =>
    ⟨fun e he => (h.ae a A e hA (o ▸ he)).imp (fun ⟨t, k, a, b⟩ => let ⟨k', a', b'⟩ := w.tk t k _ a b; ⟨t, k', a', b'⟩)
        fun ⟨m, r, a, b⟩ => let ⟨r', a', b'⟩ := w.rq m r _ a b; ⟨m, r', a', b'⟩,
      fun he => let ⟨t, k, a, b⟩ := h.ac a A hA (o ▸ he); let ⟨k', a', b'⟩ := w.tk t k _ a b; ⟨t, k', a', b'⟩,
      fun g hf => let ⟨G0, a, b⟩ := h.g2 a A g hA (f ▸ hf); let ⟨G1, a', b'⟩ := hk g G0 a; ⟨G1, a', b' ▸ b⟩⟩
  exact ⟨fun g G' e hG' => (G g G' hG').1 e, fun g G' hG' => (G g G' hG').2, fun a A' e hA' => (A a A' hA').1 e,
    fun a A' hA' => (A a A' hA').2.1, hto, hro, fun a A' g hA' => (A a A' hA').2.2 g⟩

/-- `Bfr` on the lists it reads -/
structure BfrL (t0 : List PTask) (r0 : List Req) (a0 : List Api) (g0 : List Gather)
    (t1 : List PTask) (r1 : List Req) (a1 : List Api) (g1 : List Gather) : Prop where
  apis : a1 = a0
  gathers : g1 = g0
  tl : t0.length ≤ t1.length
  tk : ∀ (t : Nat) (k' : PTask), t1[t]? = some k' →
        (∃ k, t0[t]? = some k ∧ k'.outcome = k.outcome ∧ k'.phase = k.phase) ∨ (t0.length ≤ t ∧ k'.outcome = none)
  rl : r0.length ≤ r1.length
  rq : ∀ (m : Nat) (r' : Req), r1[m]? = some r' →
        (∃ r, r0[m]? = some r ∧ r'.outcome = r.outcome ∧ r'.frame = r.frame) ∨ (r0.length ≤ m ∧ r'.outcome = none)

/-- `q` is `p` up to changes `BlameX` does not read (header) -/
def Bfr (p q : Pool) : Prop := BfrL p.tasks p.reqs p.apis p.gathers q.tasks q.reqs q.apis q.gathers

/-- what `Bfr` lets an old task / request change, and what it asks of a new one -/
def KBt (k' k : PTask) : Prop := k'.outcome = k.outcome ∧ k'.phase = k.phase
def KBr (r' r : Req) : Prop := r'.outcome = r.outcome ∧ r'.frame = r.frame

theorem Bfr.tg {p q : Pool} (h : Bfr p q) : Grown KBt (·.outcome = none) p.tasks q.tasks := ⟨h.tl, h.tk⟩
theorem Bfr.rg {p q : Pool} (h : Bfr p q) : Grown KBr (·.outcome = none) p.reqs q.reqs := ⟨h.rl, h.rq⟩

theorem Bfr.of_grown {p q : Pool} (ht : Grown KBt (·.outcome = none) p.tasks q.tasks)
    (hr : Grown KBr (·.outcome = none) p.reqs q.reqs) (ha : q.apis = p.apis := by rfl)
    (hg : q.gathers = p.gathers := by rfl) : Bfr p q :=
  ⟨ha, hg, ht.len, ht.get, hr.len, hr.get⟩

theorem KBt.rfl' (k : PTask) : KBt k k := ⟨rfl, rfl⟩
theorem KBr.rfl' (r : Req) : KBr r r := ⟨rfl, rfl⟩

theorem Bfr.refl (p : Pool) : Bfr p p := .of_grown (.refl KBt.rfl' _) (.refl KBr.rfl' _)

theorem Bfr.trans {p q r : Pool} (h1 : Bfr p q) (h2 : Bfr q r) : Bfr p r :=
  .of_grown (h1.tg.trans (fun a b => ⟨a.1.trans b.1, a.2.trans b.2⟩) (fun a n => a.1.trans n) h2.tg)
    (h1.rg.trans (fun a b => ⟨a.1.trans b.1, a.2.trans b.2⟩) (fun a n => a.1.trans n) h2.rg)
    (h2.apis.trans h1.apis) (h2.gathers.trans h1.gathers)

theorem Bfr.wit {p q : Pool} (h : Bfr p q) : Wit p.tasks p.reqs q.tasks q.reqs :=
  ⟨fun _ _ _ a b => let ⟨k', a', b', _⟩ := h.tg.fwd a; ⟨k', a', b'.trans b⟩,
    fun _ _ _ a b => let ⟨r', a', b', _⟩ := h.rg.fwd a; ⟨r', a', b'.trans b⟩⟩

theorem BlameX.bfr {p q : Pool} (h : BlameX p) (hr : Bfr p q) : BlameX q := by
  refine BlameL.step h hr.wit (fun _ G' a => .inr ⟨G', hr.gathers ▸ a, rfl, rfl, rfl⟩)
    (fun _ A' a => .inr ⟨A', hr.apis ▸ a, rfl, rfl⟩) (fun _ G a => ⟨G, hr.gathers.symm ▸ a, rfl⟩) ?_ ?_
  · intro t k' hk' ho
    rcases hr.tk t k' hk' with ⟨k, hk, a, b⟩ | ⟨_, d⟩
    · rw [b]; exact h.to t k hk (a ▸ ho)
    · rw [d] at ho; cases ho
  · intro m r' hr' ho
    rcases hr.rq m r' hr' with ⟨r, hm, a, b⟩ | ⟨_, d⟩
    · rw [b]; exact h.ro m r hm (a ▸ ho)
    · rw [d] at ho; cases ho

/-- the invariant holds and the asyncio Task of task `t` is not done (so its record may be rewritten) -/
def BL (p : Pool) (t : Nat) : Prop := BlameX p ∧ ∀ k, p.tasks[t]? = some k → k.outcome = none

/-- `BL` for spawner `m` -/
def BM (p : Pool) (m : Nat) : Prop := BlameX p ∧ ∀ r, p.reqs[m]? = some r → r.outcome = none

theorem BL.bfr {p q : Pool} {t : Nat} (h : BL p t) (hr : Bfr p q) : BL q t := by
  refine ⟨h.1.bfr hr, fun k' hk' => ?_⟩
  rcases hr.tk t k' hk' with ⟨k, hk, a, _⟩ | ⟨_, d⟩
  · rw [a]; exact h.2 k hk
  · exact d

theorem BM.bfr {p q : Pool} {m : Nat} (h : BM p m) (hr : Bfr p q) : BM q m := by
  refine ⟨h.1.bfr hr, fun r' hr' => ?_⟩
  rcases hr.rq m r' hr' with ⟨r, hm, a, _⟩ | ⟨_, d⟩
  · rw [a]; exact h.2 r hm
  · exact d

variable {p : Pool}

theorem BlameX.same (h : BlameX p) (q : Pool) (ht : q.tasks = p.tasks := by rfl) (hr : q.reqs = p.reqs := by rfl)
    (ha : q.apis = p.apis := by rfl) (hg : q.gathers = p.gathers := by rfl) : BlameX q := by
  unfold BlameX at h ⊢
  rw [ht, hr, ha, hg]; exact h

theorem bfr_modTask (p : Pool) (t : Nat) (f : PTask → PTask)
    (hf : ∀ k, KBt (f k) k := by exact fun _ => ⟨rfl, rfl⟩) : Bfr p (p.modTask t f) :=
  .of_grown (.modify KBt.rfl' t f hf) (.refl KBr.rfl' _)

theorem bfr_modReq (p : Pool) (m : Nat) (f : Req → Req)
    (hf : ∀ r, KBr (f r) r := by exact fun _ => ⟨rfl, rfl⟩) : Bfr p (p.modReq m f) :=
  .of_grown (.refl KBt.rfl' _) (.modify KBr.rfl' m f hf)

theorem bfr_emitChildren (p : Pool) (cbs : List (Nat × Nat)) : Bfr p (p.emitChildren cbs) :=
  foldl_keeps (P := Bfr p) (fun q (gi : Nat × Nat) => q.emitRef (.gchild gi.1 gi.2)) (fun _ _ h => h) cbs p (.refl p)

/-- a new task has no outcome -/
theorem bfr_createTask (p : Pool) (m : Nat) (isMap : Bool) : Bfr p (p.createTask m isMap) :=
  .of_grown (.append KBt.rfl' _ rfl) (.modify KBr.rfl' m _ fun _ => ⟨rfl, rfl⟩)

theorem bfr_takeSlotAndCreate (p : Pool) (m : Nat) (isMap : Bool) : Bfr p (p.takeSlotAndCreate m isMap) :=
  bfr_createTask _ m isMap

theorem bfr_registerChild (p : Pool) (c : Child) (g i : Nat) : Bfr p (p.registerChild c g i) := by
  cases c with
  | task t => exact bfr_modTask p t _
  | spawner m => exact bfr_modReq p m _

/-- every write of user code and of a caller (`Inv/Write.lean`), and a write of a background call that leaves `apis`
as it is; a new request has no outcome -/
theorem bfr_write {w : Who} {p q : Pool} (h : Write w p q) (hw : w = .user ∨ w = .caller ∨ (w = .api ∧ q.apis = p.apis)) :
    Bfr p q := by
  cases h with
  | rest | emit => exact .refl p
  | req _ m f hf =>
    refine bfr_modReq p m f fun x => ?_
    cases hf x with
    | soft h => obtain ⟨_, _, _, e, _⟩ := h; rw [e]; exact ⟨rfl, rfl⟩
    | own | reg => exact hw.elim nofun (·.elim nofun (nomatch ·.1))
  | flagReq _ m => exact bfr_modReq p m _
  | flagTask _ t => exact bfr_modTask p t _
  | task _ t f hf =>
    refine bfr_modTask p t f fun x => ?_
    cases hf x with
    | soft h => obtain ⟨_, _, _, e⟩ := h; rw [e]; exact ⟨rfl, rfl⟩
    | own | reg => exact hw.elim nofun (·.elim nofun (nomatch ·.1))
  | fileCancelled _ f ms hf hm | unfiled _ f ms hf hm =>
    refine .of_grown (.refl KBt.rfl' _) (.map f fun x => ?_)
    obtain ⟨_, _, _, e, _⟩ := hf x
    rw [e]
    exact ⟨rfl, rfl⟩
  | newReq => exact .of_grown (.refl KBt.rfl' _) (.append KBr.rfl' _ rfl)
  | newApi | modApi | forget | waitClosed =>
    exact .of_grown (.refl KBt.rfl' _) (.refl KBr.rfl' _) (hw.elim nofun (·.elim nofun (·.2)))
  | lost | runToEnded | canToEnded | runToCan | completeTask | finishMeta | modGather | flagApi | newGather | close =>
    exact hw.elim nofun (·.elim nofun (nomatch ·.1))
  | newTask _ m _ _ _ _ _ hw' => rcases hw' with ⟨rfl, _⟩ | rfl <;> exact hw.elim nofun (·.elim nofun (nomatch ·.1))

theorem bfr_steps {p q : Pool} (h : Steps (fun w => w = .user ∨ w = .caller) p q) : Bfr p q :=
  h.frame Bfr.refl Bfr.trans fun _ _ _ hs x => bfr_write x (hs.imp_right .inl)

theorem bfr_user {p q : Pool} (h : Steps (· = .user) p q) : Bfr p q := bfr_steps (h.mono fun _ => .inl)

theorem bfr_runHooks (p : Pool) (ctx : Nat) (hs : List HookOp) : Bfr p (p.runHooks ctx hs) :=
  bfr_user (st_runHooks (S := (· = .user)) (.refl p) rfl ctx hs)

theorem bfr_schedOpt (p : Pool) (o : Option Nat) : Bfr p (p.schedOpt o) :=
  bfr_user (st_schedOpt (S := (· = .user)) (.refl p) rfl o)

theorem bfr_releasePool (p : Pool) : Bfr p p.releasePool := bfr_user (st_releasePool (S := (· = .user)) (.refl p) rfl)

theorem bfr_releaseMap (p : Pool) (m : Nat) : Bfr p (p.releaseMap m) :=
  bfr_user (st_releaseMap (S := (· = .user)) (.refl p) rfl m)

end Pool
end Taskpool
