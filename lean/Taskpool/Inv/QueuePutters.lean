import Taskpool.Inv.QueueShell
/-! C20, bounded queues: no lost putter wake-up — an invariant of the asyncio shell.

`PInvF q free`: every producer waiting in `put()` whose putter future is pending is registered in `_putters` and not
scheduled; every other waiting producer (future resolved by `get_nowait()`, or cancelled) is scheduled and its handle
is in the ready queue; and — the counting clause — if some putter future is pending, then there are at least `free`
producers whose wake-up is on its way.  `PInv q` = `PInvF q (maxsize − qsize)`.  Preserved by every step
(`Q.pinv_step`, in `QueuePutSteps`). -/
namespace Taskpool.QueueM

def isWaitingP : PPhase → Bool
  | .waiting => true
  | _ => false

/-- how many (producer, task bookkeeping) pairs satisfy `f` -/
def cnt2 (f : Prod → Aux → Bool) : List Prod → List Aux → Nat
  | p :: ps, a :: as => (f p a).toNat + cnt2 f ps as
  | _, _ => 0

/-- waiting in `put()`, putter future pending -/
def pendW (p : Prod) (a : Aux) : Bool := isWaitingP p.phase && a.gate == .pending
/-- waiting in `put()`, putter future resolved: the wake-up is on its way -/
def wokenW (p : Prod) (a : Aux) : Bool := isWaitingP p.phase && a.gate == .woken

theorem cnt2_set (f : Prod → Aux → Bool) (ps : List Prod) (as : List Aux) (j : Nat) (p : Prod) (a : Aux) (p' : Prod)
    (a' : Aux) (hp : ps[j]? = some p) (ha : as[j]? = some a) :
    cnt2 f (ps.set j p') (as.set j a') + (f p a).toNat = cnt2 f ps as + (f p' a').toNat := by
  induction ps generalizing as j with
  | nil => cases hp
  | cons b bs ih =>
    cases as with
    | nil => cases ha
    | cons c cs =>
      cases j with
      | zero =>
        cases hp; cases ha
        simp only [List.set_cons_zero, cnt2]; omega
      | succ n =>
        have := ih cs n hp ha
        simp only [List.set_cons_succ, cnt2]; omega

theorem eq_set_of_pointwise {α} (l l' : List α) (j : Nat) (x x' : α) (h : l[j]? = some x)
    (hP : ∀ i, l'[i]? = if i = j then some x' else l[i]?) : l' = l.set j x' := by
  apply List.ext_getElem?
  intro i
  rw [hP i]
  by_cases hij : i = j
  · subst hij
    rw [if_pos rfl, List.getElem?_set_self (List.getElem?_eq_some_iff.1 h).1]
  · rw [if_neg hij, List.getElem?_set_ne fun e => hij e.symm]

theorem cnt2_eq_countP (f : Prod → Aux → Bool) (ps : List Prod) (as : List Aux) :
    cnt2 f ps as = (ps.zip as).countP fun x => f x.1 x.2 := by
  induction ps generalizing as with
  | nil => rfl
  | cons b bs ih =>
    cases as with
    | nil => rfl
    | cons c cs => cases hf : f b c <;> simp [cnt2, ih, hf, Nat.add_comm]

theorem cnt2_append (f : Prod → Aux → Bool) (ps : List Prod) (as : List Aux) (p : Prod) (a : Aux)
    (h : ps.length = as.length) : cnt2 f (ps ++ [p]) (as ++ [a]) = cnt2 f ps as + (f p a).toNat := by
  rw [cnt2_eq_countP, cnt2_eq_countP, List.zip_append h, List.countP_append]
  cases hf : f p a <;> simp [hf]

theorem cnt2_pos_iff (f : Prod → Aux → Bool) (ps : List Prod) (as : List Aux) :
    0 < cnt2 f ps as ↔ ∃ (j : Nat) (p : Prod) (a : Aux), ps[j]? = some p ∧ as[j]? = some a ∧ f p a = true := by
  simp only [cnt2_eq_countP, List.countP_pos_iff, List.mem_iff_getElem?, List.getElem?_zip_eq_some, Prod.exists]
  exact ⟨fun ⟨p, a, ⟨j, h1, h2⟩, h⟩ => ⟨j, p, a, h1, h2, h⟩, fun ⟨j, p, a, h1, h2, h⟩ => ⟨p, a, ⟨j, h1, h2⟩, h⟩⟩

theorem wakeupNextBy_spec (g : Nat → FSt) (l : List Nat) :
    (∀ c, (Q.wakeupNextBy g l).2 = some c → g c = .pending ∧ c ∈ l)
    ∧ ((Q.wakeupNextBy g l).2 = none → ∀ i ∈ l, g i ≠ .pending)
    ∧ (∀ i ∈ l, g i = .pending → (Q.wakeupNextBy g l).2 = some i ∨ i ∈ (Q.wakeupNextBy g l).1)
    ∧ (∀ i ∈ (Q.wakeupNextBy g l).1, i ∈ l) := by
  induction l with
  | nil => simp [Q.wakeupNextBy]
  | cons c rest ih =>
    obtain ⟨i1, i2, i3, i4⟩ := ih
    unfold Q.wakeupNextBy
    by_cases hc : g c = .pending
    · simp only [hc, if_true]
      refine ⟨?_, ?_, ?_, ?_⟩
      · intro c' h; cases h; exact ⟨hc, by simp⟩
      · intro h; cases h
      · intro i hi _
        rcases List.mem_cons.1 hi with rfl | h
        · exact .inl rfl
        · exact .inr h
      · intro i hi; exact List.mem_cons_of_mem _ hi
    · simp only [hc, if_false]
      refine ⟨?_, ?_, ?_, ?_⟩
      · intro c' h; obtain ⟨a, b⟩ := i1 c' h; exact ⟨a, List.mem_cons_of_mem _ b⟩
      · intro h i hi
        rcases List.mem_cons.1 hi with rfl | h'
        · exact hc
        · exact i2 h i h'
      · intro i hi hp
        rcases List.mem_cons.1 hi with rfl | h'
        · exact absurd hp hc
        · exact i3 i h' hp
      · intro i hi; exact List.mem_cons_of_mem _ (i4 i hi)

/-- the putters' invariant with the number of free slots a parameter: between the writes of one step it holds for a
`free` other than `q.free` (`pinvF_wakePutter`) -/
structure PInvF (q : Q) (free : Nat) : Prop where
  len  : q.k.prods.length = q.paux.length
  pend : ∀ (j : Nat) (p : Prod) (a : Aux), q.k.prods[j]? = some p → q.paux[j]? = some a → p.phase = .waiting →
           a.gate = .pending → a.sched = false ∧ j ∈ q.putters
  fly  : ∀ (j : Nat) (p : Prod) (a : Aux), q.k.prods[j]? = some p → q.paux[j]? = some a → p.phase = .waiting →
           a.gate ≠ .pending → a.sched = true ∧ Ref.producer j ∈ q.ready
  mem  : ∀ j ∈ q.putters, ∃ p a, q.k.prods[j]? = some p ∧ q.paux[j]? = some a ∧ p.phase ≠ .notStarted ∧
           (a.gate = .pending → p.phase = .waiting)
  cnt  : 0 < cnt2 pendW q.k.prods q.paux → free ≤ cnt2 wokenW q.k.prods q.paux

def PInv (q : Q) : Prop := PInvF q q.free

theorem pinv_initN (n : Nat) : PInv (Q.initN n) :=
  ⟨rfl, fun _ _ _ h => (by cases h), fun _ _ _ h => (by cases h), fun _ h => (by cases h), fun h => absurd h (Nat.lt_irrefl 0)⟩

theorem pendW_iff {p : Prod} {a : Aux} : pendW p a = true ↔ p.phase = .waiting ∧ a.gate = .pending := by
  cases hph : p.phase <;> simp [pendW, isWaitingP, hph]

theorem wokenW_iff {p : Prod} {a : Aux} : wokenW p a = true ↔ p.phase = .waiting ∧ a.gate = .woken := by
  cases hph : p.phase <;> simp [wokenW, isWaitingP, hph]

theorem wokenW_eq_false {p : Prod} {a : Aux} (h : ¬(p.phase = .waiting ∧ a.gate = .woken)) : wokenW p a = false :=
  Bool.eq_false_iff.2 fun e => h (wokenW_iff.1 e)

/-- nothing about the producers changes (putters that are done may be dropped from `_putters`) -/
theorem PInvF.frame {q q' : Q} {f f' : Nat} (hI : PInvF q f) (h1 : q'.k.prods = q.k.prods) (h2 : q'.paux = q.paux)
    (hput : ∀ (i : Nat) (p : Prod) (a : Aux), q.k.prods[i]? = some p → q.paux[i]? = some a → p.phase = .waiting →
              a.gate = .pending → i ∈ q.putters → i ∈ q'.putters)
    (hput' : ∀ i ∈ q'.putters, i ∈ q.putters)
    (hR : ∀ (i : Nat) (p : Prod) (a : Aux), q.k.prods[i]? = some p → q.paux[i]? = some a → p.phase = .waiting →
            a.gate ≠ .pending → Ref.producer i ∈ q.ready → Ref.producer i ∈ q'.ready)
    (hf : 0 < cnt2 pendW q.k.prods q.paux → f' ≤ f) : PInvF q' f' := by
  constructor
  · rw [h1, h2]; exact hI.len
  · intro j p a hp ha hw hg
    rw [h1] at hp; rw [h2] at ha
    exact ⟨(hI.pend j p a hp ha hw hg).1, hput j p a hp ha hw hg (hI.pend j p a hp ha hw hg).2⟩
  · intro j p a hp ha hw hg
    rw [h1] at hp; rw [h2] at ha
    exact ⟨(hI.fly j p a hp ha hw hg).1, hR j p a hp ha hw hg (hI.fly j p a hp ha hw hg).2⟩
  · intro j hj
    rw [h1, h2]
    exact hI.mem j (hput' j hj)
  · rw [h1, h2]
    exact fun h => Nat.le_trans (hf h) (hI.cnt h)

theorem PSame.pinvF {q q' : Q} {f : Nat} (h : PSame q q') (hI : PInvF q f) : PInvF q' f :=
  hI.frame h.prods h.paux (fun _ _ _ _ _ _ _ hi => h.putters ▸ hi) (fun _ hi => h.putters ▸ hi)
    (fun i _ _ _ _ _ _ hi => h.ready i hi) (fun _ => Nat.le_refl _)

theorem PInvF.mono {q : Q} {f f' : Nat} (hI : PInvF q f) (h : f' ≤ f) : PInvF q f' :=
  hI.frame rfl rfl (fun _ _ _ _ _ _ _ hi => hi) (fun _ hi => hi) (fun _ _ _ _ _ _ _ hi => hi) (fun _ => h)

theorem PSame.pinv {q q' : Q} (h : PSame q q') (hI : PInv q) : PInv q' := (h.pinvF hI).mono h.free

/-! `l'` is `l` with entry `j` replaced by `x'`, said look-up by look-up, so that it follows a chain of `modify j`. -/

theorem pointwise_id {α} (l : List α) (j : Nat) (x : α) (h : l[j]? = some x) :
    ∀ i, l[i]? = if i = j then some x else l[i]? := by
  intro i
  by_cases hij : i = j
  · rw [if_pos hij, hij, h]
  · rw [if_neg hij]

theorem pointwise_modify {α} (l l0 : List α) (j : Nat) (x : α) (f : α → α)
    (h0 : ∀ i, l[i]? = if i = j then some x else l0[i]?) :
    ∀ i, (l.modify j f)[i]? = if i = j then some (f x) else l0[i]? := by
  intro i
  by_cases hij : i = j
  · subst hij
    rw [List.getElem?_modify_eq, h0 i, if_pos rfl, if_pos rfl]; rfl
  · rw [List.getElem?_modify_ne _ _ fun e => hij e.symm, h0 i, if_neg hij, if_neg hij]

/-- The counting clause when one producer changes.  `P`, `W`: the numbers of pending and of woken putters before,
primed: after; `b`, `b'`: is the changed producer pending before / after; `w`, `w'`: its share of the woken ones.
The clause is kept if the free slots shrink with the wake-up that leaves (grow with the one that comes), and a producer
that becomes pending does so on a full queue. -/
theorem cnt_move {f f' P W P' W' w w' : Nat} {b b' : Bool} (e1 : P' + b.toNat = P + b'.toNat) (e2 : W' + w = W + w')
    (hf : f' ≤ f + w' - w) (h0 : b = false → b' = true → f' = 0) (h : 0 < P → f ≤ W) (hpos : 0 < P') : f' ≤ W' := by
  cases b' with
  | false =>
    rw [Bool.toNat_false, Nat.add_zero] at e1
    omega
  | true =>
    cases b with
    | true => omega
    | false => rw [h0 rfl rfl]; exact Nat.zero_le _

theorem PInvF.update {q q' : Q} {f f' : Nat} (hI : PInvF q f) (j : Nat) (p : Prod) (a : Aux) (p' : Prod) (a' : Aux)
    (hp : q.k.prods[j]? = some p) (ha : q.paux[j]? = some a)
    (hP : ∀ i, q'.k.prods[i]? = if i = j then some p' else q.k.prods[i]?)
    (hA : ∀ i, q'.paux[i]? = if i = j then some a' else q.paux[i]?)
    (hput : ∀ (i : Nat) (pi : Prod) (ai : Aux), i ≠ j → q.k.prods[i]? = some pi → q.paux[i]? = some ai →
              pi.phase = .waiting → ai.gate = .pending → i ∈ q.putters → i ∈ q'.putters)
    (hput' : ∀ i ∈ q'.putters, i = j ∨ i ∈ q.putters)
    (hR : ∀ i, i ≠ j → Ref.producer i ∈ q.ready → Ref.producer i ∈ q'.ready)
    (hj1 : p'.phase = .waiting → a'.gate = .pending → a'.sched = false ∧ j ∈ q'.putters)
    (hj2 : p'.phase = .waiting → a'.gate ≠ .pending → a'.sched = true ∧ Ref.producer j ∈ q'.ready)
    (hj3 : j ∈ q'.putters → p'.phase ≠ .notStarted ∧ (a'.gate = .pending → p'.phase = .waiting))
    (hf : f' ≤ f + (wokenW p' a').toNat - (wokenW p a).toNat)
    (h0 : pendW p a = false → pendW p' a' = true → f' = 0) : PInvF q' f' := by
  have eP := eq_set_of_pointwise _ _ j p p' hp hP
  have eA := eq_set_of_pointwise _ _ j a a' ha hA
  constructor
  · rw [eP, eA, List.length_set, List.length_set]; exact hI.len
  · intro i pi ai hpi hai hw hg
    rw [hP i] at hpi; rw [hA i] at hai
    by_cases hij : i = j
    · rw [if_pos hij] at hpi hai
      cases hpi; cases hai
      exact hij ▸ hj1 hw hg
    · rw [if_neg hij] at hpi hai
      exact ⟨(hI.pend i pi ai hpi hai hw hg).1, hput i pi ai hij hpi hai hw hg (hI.pend i pi ai hpi hai hw hg).2⟩
  · intro i pi ai hpi hai hw hg
    rw [hP i] at hpi; rw [hA i] at hai
    by_cases hij : i = j
    · rw [if_pos hij] at hpi hai
      cases hpi; cases hai
      exact hij ▸ hj2 hw hg
    · rw [if_neg hij] at hpi hai
      exact ⟨(hI.fly i pi ai hpi hai hw hg).1, hR i hij (hI.fly i pi ai hpi hai hw hg).2⟩
  · intro i hi
    by_cases hij : i = j
    · subst hij
      exact ⟨p', a', by rw [hP i, if_pos rfl], by rw [hA i, if_pos rfl], hj3 hi⟩
    · rcases hput' i hi with h | h
      · exact absurd h hij
      · rw [hP i, hA i, if_neg hij, if_neg hij]
        exact hI.mem i h
  · rw [eP, eA]
    exact cnt_move (cnt2_set pendW _ _ j p a p' a' hp ha) (cnt2_set wokenW _ _ j p a p' a' hp ha) hf h0 hI.cnt

theorem pgateOf_eq (q : Q) (j : Nat) (a : Aux) (h : q.paux[j]? = some a) : q.pgateOf j = a.gate := by
  rw [Q.pgateOf, h]; rfl

/-- `_wakeup_next(self._putters)` pays for one more free slot -/
theorem pinvF_wakePutter (q : Q) (f : Nat) (hI : PInvF q f) : PInvF q.wakePutter (f + 1) := by
  obtain ⟨s1, s2, s3, s4⟩ := wakeupNextBy_spec q.pgateOf q.putters
  unfold Q.wakePutter
  simp only
  split
  · rename_i hr
    -- no future in `_putters` is pending, so no putter is pending at all
    refine hI.frame rfl rfl ?_ (fun i hi => s4 i hi) (fun _ _ _ _ _ _ _ h => h) ?_
    · intro i p a hp ha _ hg hi
      exact absurd ((pgateOf_eq q i a ha).trans hg) (s2 hr i hi)
    · intro hpos
      obtain ⟨i, p, a, hp, ha, hf⟩ := (cnt2_pos_iff _ _ _).1 hpos
      obtain ⟨hw, hg⟩ := pendW_iff.1 hf
      exact absurd ((pgateOf_eq q i a ha).trans hg) (s2 hr i (hI.pend i p a hp ha hw hg).2)
  · rename_i c hr
    obtain ⟨hg, hc⟩ := s1 c hr
    obtain ⟨p, a, hp, ha, _, hpw⟩ := hI.mem c hc
    have hga : a.gate = .pending := (pgateOf_eq q c a ha).symm.trans hg
    have hw : p.phase = .waiting := hpw hga
    refine hI.update c p a p { a with gate := .woken, suspended := false, sched := true } hp ha (pointwise_id _ c p hp)
      ?_ ?_ (fun i hi => .inr (s4 i hi)) (fun _ _ h => List.mem_append_left _ h) (fun _ h => (by cases h))
      (fun _ _ => ⟨rfl, List.mem_append_right _ (List.mem_singleton_self _)⟩)
      (fun _ => ⟨fun h => (by rw [hw] at h; cases h), fun h => (by cases h)⟩) ?_ ?_
    · exact pointwise_modify _ q.paux c _ (fun x => { x with sched := true })
        (pointwise_modify q.paux q.paux c a (fun x => { x with gate := .woken, suspended := false }) (pointwise_id _ c a ha))
    · intro i pi ai hic _ hai _ hgi hi
      rcases s3 i hi ((pgateOf_eq q i ai hai).trans hgi) with h | h
      · rw [hr] at h; cases h; exact absurd rfl hic
      · exact h
    · rw [wokenW_eq_false fun e => FSt.noConfusion (hga.symm.trans e.2), wokenW_iff.2 ⟨hw, rfl⟩]
      exact Nat.le_refl _
    · exact fun _ h => FSt.noConfusion (pendW_iff.1 h).2

end Taskpool.QueueM
