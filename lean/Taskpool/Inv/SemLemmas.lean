import Taskpool.Inv.Sync
import Taskpool.Inv.Reg
import Taskpool.Inv.Effects
/-! What `Semaphore.release()` (with `_wake_up_next()`) does to the books: `value + grants` goes up by one and `WakeOK` holds
outright afterwards; and what `moveToEnded` leaves alone. -/
namespace Taskpool
namespace Pool

theorem wakeNextL_sum (n : Nat) (ws : List Waiter) (hn : 0 < n) (c : Cap) (ws' : List Waiter) (o : Option Nat)
    (h : wakeNextL (.fin n) ws = (c, ws', o)) :
    ∃ v', c = .fin v' ∧ v' + grantsL ws' = n + grantsL ws := by
  induction ws generalizing c ws' o with
  | nil => cases h; exact ⟨n, rfl, rfl⟩
  | cons w ws ih =>
    by_cases hp : w.st = .pending
    · rw [wakeNextL_cons_pending _ w ws hp] at h
      cases h
      refine ⟨n - 1, rfl, ?_⟩
      rw [grantsL, grantsL, List.countP_cons_of_pos (by rfl), List.countP_cons_of_neg (by rw [hp]; decide)]
      omega
    · rw [wakeNextL_cons_skip _ w ws hp] at h
      cases h
      obtain ⟨v', h1, h2⟩ := ih _ _ _ rfl
      refine ⟨v', h1, ?_⟩
      rw [grantsL, grantsL, List.countP_cons, List.countP_cons, ← Nat.add_assoc, ← Nat.add_assoc]
      exact congrArg (· + _) h2

/-- `_wake_up_next`: afterwards either some waiter holds a granted slot or nobody is pending -/
theorem wakeNextL_wake (c0 : Cap) (ws : List Waiter) (hg : grantsL (wakeNextL c0 ws).2.1 = 0) :
    ∀ w ∈ (wakeNextL c0 ws).2.1, w.st ≠ .pending := by
  induction ws with
  | nil => intro w hw; cases hw
  | cons w0 ws ih =>
    by_cases hp : w0.st = .pending
    · rw [wakeNextL_cons_pending c0 w0 ws hp, grantsL, List.countP_cons_of_pos (by rfl)] at hg
      cases hg
    · rw [wakeNextL_cons_skip c0 w0 ws hp] at hg ⊢
      rw [grantsL, List.countP_cons] at hg
      intro w hw
      rcases List.mem_cons.mp hw with rfl | hw'
      · exact hp
      · exact ih (Nat.eq_zero_of_add_eq_zero_right hg) w hw'

theorem Sem.wakeNext_wake (s : Sem) (hg : grantsL s.wakeNext.1.waiters = 0) : ∀ w ∈ s.wakeNext.1.waiters, w.st ≠ .pending :=
  wakeNextL_wake s.value s.waiters hg

theorem Sem.release_wake (s : Sem) (hg : grantsL s.release.1.waiters = 0) : ∀ w ∈ s.release.1.waiters, w.st ≠ .pending :=
  wakeNextL_wake s.value.inc s.waiters hg

theorem wakeNextL_inf (ws : List Waiter) : (wakeNextL .inf ws).1 = .inf := by
  induction ws with
  | nil => rfl
  | cons w ws ih =>
    by_cases hp : w.st = .pending
    · rw [wakeNextL_cons_pending _ w ws hp]; rfl
    · rw [wakeNextL_cons_skip _ w ws hp]; exact ih

@[simp] theorem schedOpt_resized (p : Pool) (o) : (p.schedOpt o).resized = p.resized := by cases o <;> rfl
@[simp] theorem schedOpt_running (p : Pool) (o) : (p.schedOpt o).running = p.running := by cases o <;> rfl
@[simp] theorem schedOpt_cancelledR (p : Pool) (o) : (p.schedOpt o).cancelledR = p.cancelledR := by cases o <;> rfl
@[simp] theorem schedOpt_ended (p : Pool) (o) : (p.schedOpt o).ended = p.ended := by cases o <;> rfl
@[simp] theorem schedOpt_lost (p : Pool) (o) : (p.schedOpt o).lost = p.lost := by cases o <;> rfl
@[simp] theorem schedOpt_groups (p : Pool) (o) : (p.schedOpt o).groups = p.groups := by cases o <;> rfl
@[simp] theorem schedOpt_gathers (p : Pool) (o) : (p.schedOpt o).gathers = p.gathers := by cases o <;> rfl
@[simp] theorem schedOpt_apis (p : Pool) (o) : (p.schedOpt o).apis = p.apis := by cases o <;> rfl

theorem releasePool_sem (p : Pool) : p.releasePool.sem = p.sem.release.1 := schedOpt_sem _ _
theorem releasePool_resized (p : Pool) : p.releasePool.resized = p.resized := schedOpt_resized _ _
theorem releasePool_groups (p : Pool) : p.releasePool.groups = p.groups := schedOpt_groups _ _
theorem releasePool_gathers (p : Pool) : p.releasePool.gathers = p.gathers := schedOpt_gathers _ _
theorem releasePool_apis (p : Pool) : p.releasePool.apis = p.apis := schedOpt_apis _ _

theorem releasePool_regs (p : Pool) : p.releasePool.running = p.running ∧ p.releasePool.cancelledR = p.cancelledR ∧
    p.releasePool.ended = p.ended ∧ p.releasePool.lost = p.lost :=
  ⟨schedOpt_running _ _, schedOpt_cancelledR _ _, schedOpt_ended _ _, schedOpt_lost _ _⟩

theorem wakeOK_releasePool (p : Pool) : WakeOK p.releasePool := by
  intro _ v _ _ hg
  rw [releasePool_sem] at hg ⊢
  exact Sem.release_wake p.sem hg

theorem _root_.Taskpool.Sem.wakeNext_inf (s : Sem) (hv : s.value = .inf) (hw : s.waiters = []) :
    s.wakeNext.1.value = .inf ∧ s.wakeNext.1.waiters = [] := by
  unfold Sem.wakeNext
  rw [hv, hw]
  exact ⟨rfl, rfl⟩

theorem Sem.release_inf (s : Sem) (hv : s.value = .inf) (hw : s.waiters = []) :
    s.release.1.value = .inf ∧ s.release.1.waiters = [] :=
  Sem.wakeNext_inf { s with value := s.value.inc } (congrArg Cap.inc hv) hw

theorem releasePool_inf (p : Pool) (hv : p.sem.value = .inf) (hw : p.sem.waiters = []) :
    p.releasePool.sem.value = .inf ∧ p.releasePool.sem.waiters = [] := by
  rw [releasePool_sem]; exact Sem.release_inf p.sem hv hw

theorem _root_.Taskpool.Sem.wakeNext_effect (s : Sem) (v : Nat) (hv : s.value = .fin v) (hpos : 0 < v) :
    ∃ v', s.wakeNext.1.value = .fin v' ∧ v' + grantsL s.wakeNext.1.waiters = v + grantsL s.waiters := by
  unfold Sem.wakeNext
  simp only [hv]
  generalize hr : wakeNextL (Cap.fin v) s.waiters = r
  obtain ⟨c, ws', o⟩ := r
  exact wakeNextL_sum v s.waiters hpos c ws' o hr

theorem _root_.Taskpool.Sem.release_effect (s : Sem) (v : Nat) (hv : s.value = .fin v) :
    ∃ v', s.release.1.value = .fin v' ∧ v' + grantsL s.release.1.waiters = v + 1 + grantsL s.waiters :=
  Sem.wakeNext_effect { s with value := s.value.inc } (v + 1) (congrArg Cap.inc hv) (Nat.succ_pos v)

theorem moveToEnded_eq (p p1 : Pool) (t : Nat) (h : p.moveToEnded t = some p1) :
    ∃ run can, p1 = { p with running := run, cancelledR := can, ended := p.ended ++ [t] } := by
  rcases moveToEnded_cases h with ⟨_, rfl⟩ | ⟨_, rfl⟩
  · exact ⟨_, _, rfl⟩
  · exact ⟨_, _, rfl⟩

theorem moveToEnded_frame (p p1 : Pool) (t : Nat) (h : p.moveToEnded t = some p1) :
    p1.sem = p.sem ∧ p1.tasks = p.tasks := by
  obtain ⟨_, _, rfl⟩ := moveToEnded_eq p p1 t h
  exact ⟨rfl, rfl⟩

theorem moveToEnded_lost (p p1 : Pool) (t : Nat) (h : p.moveToEnded t = some p1) : p1.lost = p.lost := by
  obtain ⟨_, _, rfl⟩ := moveToEnded_eq p p1 t h
  rfl

theorem moveToEnded_reqs (p p1 : Pool) (t : Nat) (h : p.moveToEnded t = some p1) : p1.reqs = p.reqs := by
  obtain ⟨_, _, rfl⟩ := moveToEnded_eq p p1 t h
  rfl

end Pool
end Taskpool
