import Taskpool.Inv.QueuePutters
/-! C20, bounded queues: every step of the shell preserves the no-lost-putter-wake-up invariant `PInv`. -/
namespace Taskpool.QueueM
namespace Q

theorem psame_exitBlock (q : Q) (c : Nat) (e : Exit) : PSame q (q.exitBlock c e) := by
  obtain ⟨_, _, c', d, e'⟩ := K.pframe_exit q.k c e
  exact ⟨c', rfl, rfl, fun _ h => List.mem_append_left _ h, by rw [Q.free, Q.free, k_exitBlock, d, e']; exact Nat.le_refl _⟩

theorem psame_join (q : Q) : PSame q q.join :=
  ⟨rfl, rfl, rfl, fun _ h => List.mem_append_left _ h, Nat.le_refl _⟩

theorem psame_stepJoiner (q : Q) (j : Nat) : PSame q (q.stepJoiner j) := by
  obtain ⟨_, _, c', d, e'⟩ := K.pframe_stepJoiner q.k j
  exact ⟨c', rfl, rfl, fun _ h => h, by rw [Q.free, Q.free, k_stepJoiner, d, e']; exact Nat.le_refl _⟩

theorem psame_pop (q : Q) (n : Nat) (r : Ref) (hr : q.ready[n]? = some r) (hn : ∀ j, r ≠ .producer j) :
    PSame q { q with ready := q.ready.eraseIdx n } :=
  ⟨rfl, rfl, rfl, fun i h => mem_eraseIdx_of_ne hr (fun e => hn i e.symm) h, Nat.le_refl _⟩

theorem free_le_succ (q q' : Q) (hm : q'.k.maxsize = q.k.maxsize) (hl : q.k.items.length ≤ q'.k.items.length + 1) :
    q'.free ≤ q.free + 1 := by
  rw [Q.free, Q.free, hm]; omega

/-- a consumer is handed the head item: `get_nowait()` frees a slot and pays for it by waking the next putter -/
theorem CStep.pinv {q q' : Q} {c : Nat} (h : CStep q c q') (hI : PInv q) : PInv q' := by
  cases h with
  | quiet hq _ => exact hq.same.pinv hI
  | exit e hq _ _ => exact (hq.same.trans (psame_exitBlock _ _ _)).pinv hI
  | @take q0 _ it _ hq _ _ _ =>
    have hI0 := hq.same.pinv hI
    have h1 : PInvF (q0.setK (q0.k.take c)) q0.free :=
      hI0.frame (K.pframe_take q0.k c).2.2.1 rfl (fun _ _ _ _ _ _ _ h => h) (fun _ h => h) (fun _ _ _ _ _ _ _ h => h)
        (fun _ => Nat.le_refl _)
    refine (((quiet_logEv _ (.got c it) (by simp)).trans (still_armGate _ c).toQuiet).same.pinvF (pinvF_wakePutter _ _ h1)).mono ?_
    refine free_le_succ q0 _ ?_ ?_
    · rw [k_armGate, k_logEv, k_wakePutter, k_setK]; exact (K.pframe_take q0.k c).2.2.2.1
    · rw [k_armGate, k_logEv, k_wakePutter, k_setK]; exact K.length_take q0.k c

theorem pinv_handTake (q : Q) (hI : PInv q) : PInv q.handTake := by
  have hk := k_handTake q
  unfold handTake at hk ⊢
  split at hk
  · exact hI
  · refine (pinvF_wakePutter _ _ hI).frame
      (((congrArg K.prods hk).trans (K.pframe_handTake q.k).2.2.1).trans (congrArg K.prods (k_wakePutter q)).symm) rfl
      (fun _ _ _ _ _ _ _ h => h) (fun _ h => h) (fun _ _ _ _ _ _ _ h => List.mem_append_left _ h) fun _ => ?_
    refine free_le_succ q _ ?_ ?_
    · rw [hk]; exact (K.pframe_handTake q.k).2.2.2.1
    · rw [hk]; exact K.length_handTake q.k

/-- `q1` is `q` in the middle of the step of producer `j`: its handle (at index `n`) is off the ready queue, and of its
task bookkeeping `a` only `sched` (false in `a1`), `mustCancel` and `suspended` may have changed -/
structure PAt (q q1 : Q) (n j : Nat) (p : Prod) (a a1 : Aux) : Prop where
  hr      : q.ready[n]? = some (.producer j)
  hp      : q.k.prods[j]? = some p
  ha      : q.paux[j]? = some a
  k       : q1.k = q.k
  paux    : ∀ i, q1.paux[i]? = if i = j then some a1 else q.paux[i]?
  putters : q1.putters = q.putters
  ready   : q1.ready = q.ready.eraseIdx n
  gate    : a1.gate = a.gate
  sched   : a1.sched = false

variable {q q1 : Q} {n j : Nat} {p : Prod} {a a1 : Aux}

theorem PAt.prods (h : PAt q q1 n j p a a1) : ∀ i, q1.k.prods[i]? = if i = j then some p else q.k.prods[i]? := by
  rw [h.k]; exact pointwise_id _ j p h.hp

theorem PAt.modP (h : PAt q q1 n j p a a1) (g : Aux → Aux) (hg : (g a1).gate = a1.gate) (hs : (g a1).sched = a1.sched) :
    PAt q (q1.modP j g) n j p a (g a1) :=
  ⟨h.hr, h.hp, h.ha, h.k, pointwise_modify _ _ j a1 g h.paux, h.putters, h.ready, hg.trans h.gate, hs.trans h.sched⟩

/-- `PInvF.update` during the step of producer `j`: from `q1` its phase and bookkeeping change, it is appended to or
erased from `_putters`, and no handle leaves the ready queue -/
theorem PAt.update {q' : Q} {f f' : Nat} (h : PAt q q1 n j p a a1) (hI : PInvF q f) (p' : Prod) (a' : Aux)
    (hP : ∀ i, q'.k.prods[i]? = if i = j then some p' else q.k.prods[i]?)
    (hA : ∀ i, q'.paux[i]? = if i = j then some a' else q.paux[i]?)
    (hready : ∀ r ∈ q1.ready, r ∈ q'.ready)
    (hputters : q'.putters = q1.putters ∨ q'.putters = q1.putters ++ [j] ∨ q'.putters = q1.putters.erase j)
    (hj1 : p'.phase = .waiting → a'.gate = .pending → a'.sched = false ∧ j ∈ q'.putters)
    (hj2 : p'.phase = .waiting → a'.gate ≠ .pending → a'.sched = true ∧ Ref.producer j ∈ q'.ready)
    (hj3 : j ∈ q'.putters → p'.phase ≠ .notStarted ∧ (a'.gate = .pending → p'.phase = .waiting))
    (hf : f' ≤ f + (wokenW p' a').toNat - (wokenW p a).toNat)
    (h0 : pendW p a = false → pendW p' a' = true → f' = 0) : PInvF q' f' := by
  rw [h.putters] at hputters
  refine hI.update j p a p' a' h.hp h.ha hP hA ?_ ?_ ?_ hj1 hj2 hj3 hf h0
  · intro i _ _ hij _ _ _ _ hi
    rcases hputters with e | e | e <;> rw [e]
    · exact hi
    · exact List.mem_append_left _ hi
    · exact (List.mem_erase_of_ne hij).2 hi
  · intro i hi
    rcases hputters with e | e | e <;> rw [e] at hi
    · exact .inr hi
    · exact (List.mem_append.1 hi).elim .inr fun h' => .inl (List.mem_singleton.1 h')
    · exact .inr (List.mem_of_mem_erase hi)
  · intro i hij hi
    exact hready _ (h.ready ▸ mem_eraseIdx_of_ne h.hr (fun e => hij (Ref.producer.inj e)) hi)

theorem free_zero_of_full (q : Q) (h : q.k.full = true) : q.free = 0 :=
  Nat.sub_eq_zero_of_le (q.k.pos_of_full h).2

theorem K.full_pabort (k : K) (j : Nat) : (k.pabort j).full = k.full := rfl

/-- `put()` of producer `j`, at its first step or after its putter future was resolved -/
theorem pinv_tryPut (x : Nat) (hI : PInv q) (h : PAt q q1 n j p a a1)
    (hcase : p.phase = .notStarted ∨ (p.phase = .waiting ∧ a.gate = .woken)) : PInv (q1.tryPut j x) := by
  unfold tryPut
  split
  · rename_i hfull
    -- full: the producer waits (again), and no slot is free
    have hfree : ((q1.setK (q1.k.pwait j)).waitPutter j).free = 0 := free_zero_of_full q1 hfull
    rw [PInv, hfree]
    exact h.update hI { p with phase := .waiting } { a1 with gate := .pending, suspended := true }
      (pointwise_modify _ _ j p _ h.prods) (pointwise_modify _ _ j a1 _ h.paux) (fun _ hr => hr) (.inr (.inl rfl))
      (fun _ _ => ⟨h.sched, List.mem_append_right _ (List.mem_singleton_self j)⟩) (fun _ hg => absurd rfl hg)
      (fun _ => ⟨fun e => PPhase.noConfusion e, fun _ => rfl⟩) (Nat.zero_le _) (fun _ _ => rfl)
  · have hp1 : q1.k.prods[j]? = some p := by rw [h.k]; exact h.hp
    -- not full: the item enters the queue; a wake-up that brought the producer here is used up
    have hmid : PInv (q1.setK (q1.k.pput j)) := by
      have hfree : (q1.setK (q1.k.pput j)).free = q.free - 1 := by
        rw [Q.free, k_setK, K.pput_eq q1.k j p hp1, h.k]
        exact congrArg (q.k.maxsize - ·) (List.length_append)
      rw [PInv, hfree]
      refine h.update hI { p with phase := .done true } a1 ?_ h.paux (fun _ hr => hr) (.inl rfl)
        (fun e => PPhase.noConfusion e) (fun e => PPhase.noConfusion e) ?_
        (Nat.sub_le_sub_left (Bool.toNat_le _) _) (fun _ e => PPhase.noConfusion (pendW_iff.1 e).1)
      · rw [K.pput_eq q1.k j p hp1]; exact pointwise_modify _ _ j p _ h.prods
      · intro hj
        refine ⟨fun e => PPhase.noConfusion e, fun hg => ?_⟩
        rcases hcase with hns | ⟨_, hgw⟩
        · obtain ⟨p2, a2, e1, _, e3, _⟩ := hI.mem j (h.putters ▸ hj)
          rw [h.hp] at e1; cases e1
          exact absurd hns e3
        · rw [h.gate, hgw] at hg; cases hg
    exact ((still_wakeGetter _).toQuiet.trans (quiet_logEv _ _ (by simp))).same.pinv hmid

/-- `CancelledError` inside `put()`: the putter future of producer `j` was cancelled, or it had been resolved and the
task was cancelled before it ran — then the wake-up is handed to the next putter -/
theorem pinv_abortPut (hI : PInv q) (h : PAt q q1 n j p a a1) (hw : p.phase = .waiting) (hg : a.gate ≠ .pending) :
    PInv (q1.abortPut j (a.gate == .woken)) := by
  unfold abortPut
  simp only
  have hwa : wokenW p a = (a.gate == .woken) := by rw [wokenW, hw]; rfl
  have hm : PInvF (({ q1 with putters := q1.putters.erase j } : Q).setK (q1.k.pabort j)) (q.free - (a.gate == .woken).toNat) :=
    h.update hI { p with phase := .done false } a1 (pointwise_modify _ _ j p _ h.prods) h.paux (fun _ hr => hr)
      (.inr (.inr rfl)) (fun e => PPhase.noConfusion e) (fun e => PPhase.noConfusion e)
      (fun _ => ⟨fun e => PPhase.noConfusion e, fun e => absurd (h.gate ▸ e) hg⟩) (hwa ▸ Nat.le_refl _)
      (fun _ e => PPhase.noConfusion (pendW_iff.1 e).1)
  have hfree : ∀ q2 : Q, q2.k = q1.k.pabort j → q2.free = q.free := fun q2 h2 => by rw [Q.free, h2, Q.free, ← h.k]; rfl
  have hle := Bool.toNat_le (a.gate == .woken)
  split
  · refine ((quiet_logEv _ (.pCancel j) (by simp)).same.pinvF (pinvF_wakePutter _ _ hm)).mono ?_
    rw [hfree _ (by rw [k_logEv, k_wakePutter, k_setK])]
    omega
  · rename_i hc
    refine ((quiet_logEv _ (.pCancel j) (by simp)).same.pinvF hm).mono ?_
    rw [hfree _ rfl]
    -- a resolved future is not handed on only if the queue is full again
    cases hwt : (a.gate == .woken) with
    | false => exact Nat.le_refl _
    | true =>
      cases hf : q1.k.full with
      | false => exact absurd (show (!q1.k.full && (a.gate == .woken)) = true by rw [hf, hwt]; rfl) hc
      | true =>
        have : q.free = 0 := by rw [Q.free, ← h.k]; exact free_zero_of_full q1 hf
        rw [this]; exact Nat.zero_le _

theorem pinv_stepProducer (q : Q) (n j : Nat) (hr : q.ready[n]? = some (.producer j)) (hI : PInv q) :
    PInv (({ q with ready := q.ready.eraseIdx n } : Q).stepProducer j) := by
  unfold stepProducer
  split
  · rename_i p a hp ha
    have hp : q.k.prods[j]? = some p := hp
    have ha : q.paux[j]? = some a := ha
    have h1 : PAt q (({ q with ready := q.ready.eraseIdx n } : Q).modP j fun x => { x with sched := false }) n j p a
        { a with sched := false } :=
      ⟨hr, hp, ha, rfl, pointwise_modify _ _ j a _ (pointwise_id _ j a ha), rfl, rfl, rfl, rfl⟩
    split
    · rename_i hs
      have hs : a.sched = false := by simpa using hs
      refine hI.frame rfl rfl (fun _ _ _ _ _ _ _ h => h) (fun _ h => h) ?_ (fun _ => Nat.le_refl _)
      intro i pi ai hpi hai hw hg hi
      by_cases hij : i = j
      · subst hij
        rw [hp] at hpi; rw [ha] at hai; cases hpi; cases hai
        have := (hI.fly i p a hp ha hw hg).1
        rw [hs] at this; cases this
      · exact mem_eraseIdx_of_ne hr (fun e => hij (Ref.producer.inj e)) hi
    · rename_i hs
      have hs : a.sched = true := by simpa using hs
      simp only
      split
      · rename_i hph
        unfold startProducer
        split
        · -- cancelled before its first step
          refine h1.update hI { p with phase := .done false } { a with sched := false, mustCancel := false }
            (pointwise_modify _ _ j p _ h1.prods) (pointwise_modify _ _ j _ _ h1.paux) (fun _ h => h) (.inl rfl)
            (fun e => PPhase.noConfusion e) (fun e => PPhase.noConfusion e) ?_ ?_
            (fun _ e => PPhase.noConfusion (pendW_iff.1 e).1)
          · intro hj
            obtain ⟨p2, a2, e1, _, e3, _⟩ := hI.mem j hj
            rw [hp] at e1; cases e1
            exact absurd hph e3
          · rw [wokenW_eq_false fun e => PPhase.noConfusion (hph.symm.trans e.1)]
            exact Nat.le_refl _
        · exact pinv_tryPut p.item hI h1 (.inl hph)
      · rename_i hph
        have hgp : a.gate ≠ .pending := fun hg => by
          have := (hI.pend j p a hp ha hph hg).1
          rw [hs] at this; cases this
        have h2 := h1.modP (fun y => { y with mustCancel := false, suspended := false }) rfl rfl
        unfold wakeProducer
        simp only
        split
        · exact pinv_abortPut hI h2 hph hgp
        · rename_i hc
          have hgw : a.gate = .woken := by
            cases hga : a.gate with
            | woken => rfl
            | pending => exact absurd hga hgp
            | cancelled => rw [hga] at hc; exact absurd rfl hc
          exact pinv_tryPut p.item hI h2 (.inr ⟨hph, hgw⟩)
      · rename_i b hph
        refine h1.update hI p { a with sched := false } h1.prods h1.paux (fun _ h => h) (.inl rfl)
          (fun e => PPhase.noConfusion (hph.symm.trans e)) (fun e => PPhase.noConfusion (hph.symm.trans e)) ?_
          (Nat.le_of_eq (Nat.add_sub_cancel _ _).symm) (fun e e' => Bool.noConfusion (e.symm.trans e'))
        intro hj
        obtain ⟨p2, a2, e1, e2, e3, e4⟩ := hI.mem j hj
        rw [hp] at e1; rw [ha] at e2; cases e1; cases e2
        exact ⟨e3, e4⟩
  · rename_i hnone
    refine hI.frame rfl rfl (fun _ _ _ _ _ _ _ h => h) (fun _ h => h) ?_ (fun _ => Nat.le_refl _)
    intro i pi ai hpi hai _ _ hi
    by_cases hij : i = j
    · subst hij
      exact absurd hai (hnone pi ai hpi)
    · exact mem_eraseIdx_of_ne hr (fun e => hij (Ref.producer.inj e)) hi

theorem pinv_cancelProducer (q : Q) (j : Nat) (hI : PInv q) : PInv (q.cancelProducer j) := by
  unfold cancelProducer
  split
  · rename_i p a hp ha
    -- `_putters` keeps a producer that was in it
    have hj3 : ∀ g : FSt, (g = .pending → a.gate = .pending) →
        j ∈ q.putters → p.phase ≠ .notStarted ∧ (g = .pending → p.phase = .waiting) := by
      intro g hg hj
      obtain ⟨p2, a2, e1, e2, e3, e4⟩ := hI.mem j hj
      rw [hp] at e1; rw [ha] at e2; cases e1; cases e2
      exact ⟨e3, fun e => e4 (hg e)⟩
    split
    · exact hI
    · split
      · rename_i hc
        simp only [Bool.and_eq_true, beq_iff_eq] at hc
        -- a pending putter future is cancelled: one pending putter less, the task is scheduled
        refine hI.update j p a p { a with gate := .cancelled, suspended := false, sched := true } hp ha (pointwise_id _ j p hp)
          (pointwise_modify _ q.paux j _ (fun x => { x with sched := true })
            (pointwise_modify q.paux q.paux j a (fun x => { x with gate := .cancelled, suspended := false })
              (pointwise_id _ j a ha)))
          (fun _ _ _ _ _ _ _ _ h => h) (fun _ h => .inr h) (fun _ _ h => List.mem_append_left _ h)
          (fun _ e => FSt.noConfusion e) (fun _ _ => ⟨rfl, List.mem_append_right _ (List.mem_singleton_self _)⟩)
          (hj3 .cancelled fun e => FSt.noConfusion e) ?_ (fun _ e => FSt.noConfusion (pendW_iff.1 e).2)
        rw [wokenW_eq_false fun e => FSt.noConfusion (hc.2.symm.trans e.2)]
        exact Nat.le_add_right _ _
      · refine hI.update j p a p { a with mustCancel := true } hp ha (pointwise_id _ j p hp)
          (pointwise_modify q.paux q.paux j a _ (pointwise_id _ j a ha))
          (fun _ _ _ _ _ _ _ _ h => h) (fun _ h => .inr h) (fun _ _ h => h)
          (hI.pend j p a hp ha) (hI.fly j p a hp ha) (hj3 a.gate id)
          (Nat.le_of_eq (Nat.add_sub_cancel _ _).symm) (fun e e' => Bool.noConfusion (e.symm.trans e'))
  · exact hI

theorem pinv_produce (q : Q) (x : Nat) (hI : PInv q) : PInv (q.produce x) := by
  have hl := hI.len
  -- an old producer keeps its bookkeeping; the new one is not waiting
  have old : ∀ (i : Nat) (p : Prod) (a : Aux), (q.produce x).k.prods[i]? = some p → (q.produce x).paux[i]? = some a →
      p.phase = .waiting → q.k.prods[i]? = some p ∧ q.paux[i]? = some a := by
    intro i p a hp ha hw
    rcases getElem?_append_one hp with h | ⟨_, rfl⟩
    · have hlt : i < q.paux.length := hl ▸ (List.getElem?_eq_some_iff.1 h).1
      exact ⟨h, (List.getElem?_append_left hlt).symm.trans ha⟩
    · cases hw
  constructor
  · show (q.k.prods ++ [_]).length = (q.paux ++ [_]).length
    rw [List.length_append, List.length_append, hl]; rfl
  · intro i p a hp ha hw hg
    exact hI.pend i p a (old i p a hp ha hw).1 (old i p a hp ha hw).2 hw hg
  · intro i p a hp ha hw hg
    obtain ⟨h1, h2⟩ := hI.fly i p a (old i p a hp ha hw).1 (old i p a hp ha hw).2 hw hg
    exact ⟨h1, List.mem_append_left _ h2⟩
  · intro i hi
    obtain ⟨p, a, h1, h2, h3, h4⟩ := hI.mem i hi
    have hlt : i < q.k.prods.length := (List.getElem?_eq_some_iff.1 h1).1
    exact ⟨p, a, (List.getElem?_append_left hlt).trans h1, (List.getElem?_append_left (hl ▸ hlt)).trans h2, h3, h4⟩
  · show 0 < cnt2 pendW (q.k.prods ++ [_]) (q.paux ++ [_]) → q.free ≤ cnt2 wokenW (q.k.prods ++ [_]) (q.paux ++ [_])
    rw [cnt2_append pendW _ _ _ _ hl, cnt2_append wokenW _ _ _ _ hl]
    exact hI.cnt

theorem pinv_step (q : Q) (i : Input) (hI : PInv q) : PInv (q.step i) := by
  cases i with
  | put x => exact (quiet_put q x).same.pinv hI
  | spawn => exact (quiet_spawn q).same.pinv hI
  | join => exact (psame_join q).pinv hI
  | cancel c => exact (still_cancelConsumer q c).same.pinv hI
  | gate c e => exact (still_gate q c e).same.pinv hI
  | take => exact pinv_handTake q hI
  | produce x => exact pinv_produce q x hI
  | cancelp j => exact pinv_cancelProducer q j hI
  | run n =>
    simp only [step]
    split
    · exact hI
    · rename_i r hr
      cases r with
      | consumer c => exact (cstep_stepConsumer _ c).pinv ((psame_pop q n _ hr (fun _ e => Ref.noConfusion e)).pinv hI)
      | joiner j0 =>
        exact ((psame_pop q n _ hr (fun _ e => Ref.noConfusion e)).trans (psame_stepJoiner _ j0)).pinv hI
      | producer j0 => exact pinv_stepProducer q n j0 hr hI

/-- what every state of `Queue(maxsize=m)` satisfies, whatever the history: the four invariants of C20 -/
structure Good (m : Nat) (q : Q) : Prop where
  inv     : q.k.Inv
  pok     : q.k.POK
  shell   : q.Shell
  pinv    : PInv q
  maxsize : q.k.maxsize = m

theorem Good.step {m : Nat} {q : Q} (h : Good m q) (i : Input) : Good m (q.step i) :=
  ⟨(kstep_step q i).inv h.inv, (kstep_step q i).pok h.pok, shell_step q i h.inv h.shell, pinv_step q i h.pinv,
   (kstep_step q i).maxsize_eq.trans h.maxsize⟩

theorem good_reach (m : Nat) (ins : List Input) : Good m ((Q.initN m).run ins) :=
  foldl_keeps step (fun _ i h => h.step i) ins _ ⟨K.inv_initN m, K.pok_initN m, shell_initN m, pinv_initN m, rfl⟩

end Q
end Taskpool.QueueM
