/-! List facts that mention no model, mostly `l[i]? = some x` under `modify` / `map` / `set` / `l ++ [a]`.  Shared by
the pool machine (`Basics` adds what is about `Req` lists), the queue machine and the control interface. -/
namespace Taskpool

theorem lt_of_getElem?_some {α} {l : List α} {i : Nat} {x : α} (h : l[i]? = some x) : i < l.length :=
  (List.getElem?_eq_some_iff.mp h).1

/-- two lists of equal length whose entries correspond backwards (`b` to `a`) also correspond forwards -/
theorem getElem?_fwd {α} {T : Nat → α → α → Prop} {a b : List α} (hl : b.length = a.length)
    (hs : ∀ (t : Nat) (x' : α), b[t]? = some x' → ∃ x, a[t]? = some x ∧ T t x' x) {t : Nat} {x : α} (ht : a[t]? = some x) :
    ∃ x', b[t]? = some x' ∧ T t x' x := by
  have hlt : t < b.length := by rw [hl]; exact lt_of_getElem?_some ht
  obtain ⟨x0, a0, e⟩ := hs t b[t] (List.getElem?_eq_getElem hlt)
  rw [ht] at a0; cases a0
  exact ⟨b[t], List.getElem?_eq_getElem hlt, e⟩

theorem getElem?_modify_some {α} (l : List α) (t i : Nat) (f : α → α) (y : α) (h : (l.modify t f)[i]? = some y) :
    ∃ x, l[i]? = some x ∧ y = (if t = i then f x else x) := by
  rw [List.getElem?_modify] at h
  cases hx : l[i]? with
  | none => simp [hx] at h
  | some x =>
    simp [hx] at h
    exact ⟨x, rfl, by split <;> simp_all⟩

theorem getElem?_modify_none {α} {l : List α} {t i : Nat} {f : α → α} (h : (l.modify t f)[i]? = none) : l[i]? = none := by
  rw [List.getElem?_eq_none_iff] at h ⊢
  rwa [List.length_modify] at h

theorem getElem?_modify_of {α} {l : List α} {i : Nat} {x : α} (h : l[i]? = some x) (m : Nat) (f : α → α) :
    (l.modify m f)[i]? = some (if m = i then f x else x) := by
  rw [List.getElem?_modify, h]
  rfl

theorem modify_get_self {α} {l : List α} {i : Nat} {x : α} (h : l[i]? = some x) (f : α → α) :
    (l.modify i f)[i]? = some (f x) :=
  (getElem?_modify_of h i f).trans (congrArg some (if_pos rfl))

theorem getElem?_modify_self {α} {l : List α} {i : Nat} {f : α → α} {y : α} (h : (l.modify i f)[i]? = some y) :
    ∃ x, l[i]? = some x ∧ y = f x :=
  let ⟨x, hx, e⟩ := getElem?_modify_some l i i f y h
  ⟨x, hx, e.trans (if_pos rfl)⟩

theorem getElem?_modify_split {α} {l : List α} {t i : Nat} {f : α → α} {y : α} (h : (l.modify t f)[i]? = some y) :
    (i = t ∧ ∃ x, l[t]? = some x ∧ y = f x) ∨ (i ≠ t ∧ l[i]? = some y) := by
  obtain ⟨x, hx, e⟩ := getElem?_modify_some l t i f y h
  by_cases hm : t = i
  · subst hm
    exact Or.inl ⟨rfl, x, hx, e.trans (if_pos rfl)⟩
  · exact Or.inr ⟨fun e' => hm e'.symm, hx.trans (congrArg some (e.trans (if_neg hm)).symm)⟩

/-- a fact about every entry (which may mention its index) under `modify`: the entry at `m` is rewritten, the others stay -/
theorem forall_modify {α} {l : List α} {m : Nat} {f : α → α} {Φ Ψ : Nat → α → Prop}
    (h : ∀ i x, l[i]? = some x → Φ i x) (hm : ∀ x, l[m]? = some x → Φ m x → Ψ m (f x))
    (ho : ∀ i x, i ≠ m → Φ i x → Ψ i x) (i : Nat) (y : α) (hy : (l.modify m f)[i]? = some y) : Ψ i y := by
  rcases getElem?_modify_split hy with ⟨rfl, x, hx, rfl⟩ | ⟨ne, hx⟩
  · exact hm x hx (h _ x hx)
  · exact ho i y ne (h i y hx)

theorem getElem?_modify_cases {α} {l : List α} {t i : Nat} {f : α → α} {x y : α} (hx : l[t]? = some x)
    (h : (l.modify t f)[i]? = some y) : (i = t ∧ y = f x) ∨ (i ≠ t ∧ l[i]? = some y) :=
  (getElem?_modify_split h).imp_left fun ⟨e, z, hz, ey⟩ => ⟨e, by cases hx.symm.trans hz; exact ey⟩

theorem countP_modify {α} (f : α → Bool) (g : α → α) (l : List α) (t : Nat) (x : α) (hx : l[t]? = some x) :
    (l.modify t g).countP f + (if f x then 1 else 0) = l.countP f + (if f (g x) then 1 else 0) := by
  induction l generalizing t with
  | nil => cases hx
  | cons a as ih =>
    cases t with
    | zero =>
      cases Option.some.inj hx
      simp only [List.modify_zero_cons, List.countP_cons]
      exact Nat.add_right_comm _ _ _
    | succ n =>
      simp only [List.modify_succ_cons, List.countP_cons]
      rw [Nat.add_right_comm, ih n hx, Nat.add_right_comm]

theorem countP_pointwise {α} (f : α → Bool) (a b : List α) (hl : b.length = a.length)
    (h : ∀ (t : Nat) (x' : α), b[t]? = some x' → ∃ x, a[t]? = some x ∧ f x' = f x) :
    b.countP f = a.countP f := by
  have hm : b.map f = a.map f := by
    apply List.ext_getElem?
    intro i
    rw [List.getElem?_map, List.getElem?_map]
    cases hb : b[i]? with
    | none => rw [List.getElem?_eq_none (by rw [← hl]; exact List.getElem?_eq_none_iff.mp hb)]
    | some tk' =>
      obtain ⟨tk, e1, e2⟩ := h i tk' hb
      rw [e1]; exact congrArg some e2
  rw [← Function.id_comp f, ← List.countP_map, ← List.countP_map, hm]

theorem getElem?_map_some {α β} {l : List α} {f : α → β} {i : Nat} {y : β} (h : (l.map f)[i]? = some y) :
    ∃ x, l[i]? = some x ∧ f x = y := by
  rwa [List.getElem?_map, Option.map_eq_some_iff] at h

theorem getElem?_map_of {α β} {l : List α} {f : α → β} {i : Nat} {x : α} (h : l[i]? = some x) :
    (l.map f)[i]? = some (f x) := by
  rw [List.getElem?_map, h]; rfl

theorem getElem?_set_some {α} (l : List α) (i j : Nat) (q x : α) (h : (l.set i q)[j]? = some x) :
    (j = i ∧ x = q) ∨ (j ≠ i ∧ l[j]? = some x) := by
  rw [List.getElem?_set] at h
  split at h
  · rename_i e
    split at h
    · simp at h; exact Or.inl ⟨e.symm, h.symm⟩
    · simp at h
  · rename_i ne; exact Or.inr ⟨fun e => ne e.symm, h⟩

theorem getElem?_append_of {α} {l : List α} {i : Nat} {x : α} (h : l[i]? = some x) (l' : List α) :
    (l ++ l')[i]? = some x :=
  (List.getElem?_append_left (lt_of_getElem?_some h)).trans h

theorem getElem?_append_one {α} {l : List α} {a x : α} {i : Nat} (h : (l ++ [a])[i]? = some x) :
    l[i]? = some x ∨ (i = l.length ∧ x = a) := by
  rw [List.getElem?_append] at h
  split at h
  · exact Or.inl h
  · rename_i hge
    cases hj : i - l.length with
    | zero => rw [hj] at h; exact Or.inr ⟨by omega, by simpa using h.symm⟩
    | succ j => rw [hj] at h; simp at h

/-- used as a term instead of the `split` tactic, which rewrites the whole goal and is slow to check on a large one -/
theorem ite_keeps {α} {P : α → Prop} {c : Prop} [Decidable c] {a b : α} (ha : P a) (hb : P b) :
    P (if c then a else b) := by
  split
  · exact ha
  · exact hb

theorem dite_keeps {α} {P : α → Prop} {c : Prop} [Decidable c] {a b : α} (ha : c → P a) (hb : ¬ c → P b) :
    P (if c then a else b) := by
  split
  · exact ha ‹_›
  · exact hb ‹_›

theorem foldl_rel {σ α} {R : σ → σ → Prop} (hr : ∀ s, R s s) (ht : ∀ {a b c}, R a b → R b c → R a c) (f : σ → α → σ)
    (l : List α) (h : ∀ s, ∀ a ∈ l, R s (f s a)) (s : σ) : R s (l.foldl f s) := by
  induction l generalizing s with
  | nil => exact hr s
  | cons a as ih =>
    exact ht (h s a List.mem_cons_self) (ih (fun t b hb => h t b (List.mem_cons_of_mem _ hb)) _)

theorem foldl_keeps_mem {σ α} {P : σ → Prop} (f : σ → α → σ) (l : List α) (hf : ∀ s, ∀ a ∈ l, P s → P (f s a)) (s : σ)
    (h : P s) : P (l.foldl f s) :=
  foldl_rel (R := fun s t => P s → P t) (fun _ h => h) (fun h1 h2 h => h2 (h1 h)) f l hf s h

theorem foldl_keeps {σ α} {P : σ → Prop} (f : σ → α → σ) (hf : ∀ s a, P s → P (f s a)) (l : List α) (s : σ) (h : P s) :
    P (l.foldl f s) :=
  foldl_keeps_mem f l (fun s a _ => hf s a) s h

theorem modify_congr_at {α} (l : List α) (i : Nat) (f g : α → α) (h : ∀ a, l[i]? = some a → f a = g a) :
    l.modify i f = l.modify i g := by
  apply List.ext_getElem?
  intro j
  simp only [List.getElem?_modify]
  split
  · rename_i hij
    subst hij
    cases hl : l[i]? with
    | none => rfl
    | some a => simp [h a hl]
  · rfl

theorem mem_modify {α} {l : List α} {t : Nat} {f : α → α} {y : α} (h : y ∈ l.modify t f) :
    y ∈ l ∨ ∃ x, l[t]? = some x ∧ y = f x := by
  obtain ⟨i, hi⟩ := List.mem_iff_getElem?.1 h
  rcases getElem?_modify_split hi with ⟨_, x, hx, e⟩ | ⟨_, h'⟩
  · exact .inr ⟨x, hx, e⟩
  · exact .inl (List.mem_of_getElem? h')

theorem mem_eraseIdx_of_ne {α} {l : List α} {n : Nat} {a b : α} (hn : l[n]? = some b) (hab : a ≠ b) (ha : a ∈ l) :
    a ∈ l.eraseIdx n := by
  obtain ⟨i, hi⟩ := List.mem_iff_getElem?.1 ha
  exact List.mem_eraseIdx_iff_getElem?.2 ⟨i, fun e => hab (Option.some.inj ((e ▸ hi).symm.trans hn)), hi⟩

theorem find?_unique {α} {l : List α} {q : α → Bool} {o : α} (ho : o ∈ l) (hq : q o = true)
    (hu : ∀ x ∈ l, q x = true → x = o) : l.find? q = some o := by
  cases hf : l.find? q with
  | none => exact absurd hq (by simpa using List.find?_eq_none.mp hf o ho)
  | some x => exact congrArg some (hu x (List.mem_of_find?_eq_some hf) (List.find?_some hf))

theorem pairwise_eq_of {α} {R : α → α → Prop} {l : List α} (h : l.Pairwise R) {x y : α} (hx : x ∈ l) (hy : y ∈ l)
    (hxy : ¬R x y) (hyx : ¬R y x) : x = y := by
  induction l with
  | nil => nomatch hx
  | cons a l ih =>
    rw [List.pairwise_cons] at h
    rcases List.mem_cons.mp hx with rfl | hx'
    · rcases List.mem_cons.mp hy with rfl | hy'
      · rfl
      · exact absurd (h.1 y hy') hxy
    · rcases List.mem_cons.mp hy with rfl | hy'
      · exact absurd (h.1 x hx') hyx
      · exact ih h.2 hx' hy'

theorem nodup_map_inj {α β} {f : α → β} {l : List α} (hn : (l.map f).Nodup) (x : α) (hx : x ∈ l) (y : α) (hy : y ∈ l)
    (hxy : f x = f y) : x = y :=
  pairwise_eq_of (List.pairwise_map.mp hn) hx hy (fun h => h hxy) fun h => h hxy.symm

theorem nodup_filterMap_inj {α β} {f : α → Option β} {l : List α} (hn : (l.filterMap f).Nodup) (x : α) (hx : x ∈ l)
    (y : α) (hy : y ∈ l) (b : β) (hxb : f x = some b) (hyb : f y = some b) : x = y :=
  pairwise_eq_of (List.pairwise_filterMap.mp hn) hx hy (fun h => h b hxb b hyb rfl) fun h => h b hyb b hxb rfl

theorem modify_comm {α} (l : List α) (i j : Nat) (f g : α → α) (h : i = j → ∀ a, g (f a) = f (g a)) :
    (l.modify i f).modify j g = (l.modify j g).modify i f := by
  by_cases e : i = j
  · subst e; rw [List.modify_modify_eq, List.modify_modify_eq]; exact congrArg _ (funext (h rfl))
  · exact List.modify_modify_ne f g l e

theorem modify_append_one {α} (l : List α) (a : α) (i : Nat) (f : α → α) (h : f a = a) :
    (l ++ [a]).modify i f = l.modify i f ++ [a] := by
  induction l generalizing i with
  | nil => cases i <;> simp only [List.nil_append, List.modify_zero_cons, List.modify_succ_cons, List.modify_nil, h]
  | cons x l ih => cases i <;> simp only [List.cons_append, List.modify_zero_cons, List.modify_succ_cons, ih]

theorem modify_idle {α} {l : List α} {i : Nat} (s : α → Bool) {f : α → α} (hf : ∀ x, s x = false → f x = x)
    (h : ∀ x, l[i]? = some x → s x = false) : l.modify i f = l :=
  (modify_congr_at l i f id fun x hx => hf x (h x hx)).trans (List.modify_id i l)

theorem mem_le_sum (l : List Nat) (x : Nat) (h : x ∈ l) : x ≤ l.sum := by
  induction l with
  | nil => cases h
  | cons a as ih =>
    rw [List.sum_cons]
    rcases List.mem_cons.mp h with rfl | h'
    · omega
    · have := ih h'; omega

theorem count_eraseIdx {α} [BEq α] [LawfulBEq α] [DecidableEq α] (l : List α) (k : Nat) (x y : α) (hx : l[k]? = some x) :
    l.count y = (l.eraseIdx k).count y + if x = y then 1 else 0 := by
  induction l generalizing k with
  | nil => cases hx
  | cons a as ih =>
    cases k with
    | zero =>
      cases hx
      simp only [List.eraseIdx_zero, List.tail_cons, List.count_cons, beq_iff_eq]
    | succ n =>
      simp only [List.eraseIdx_cons_succ, List.count_cons, ih n hx]
      omega

end Taskpool
