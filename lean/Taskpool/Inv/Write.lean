import Taskpool.Inv.Loops
import Taskpool.Inv.Wrapper
import Taskpool.Inv.ApiStages
/-! **What a step of the pool machine can write.**  `Write w p q`: `q` is `p` after one primitive state change made by
the actor `w`.  Each constructor gives the change as ONE record update `{ p with … }`: its `with`-list is what it
touches, so a relation that reads other fields is kept by `rfl`.  Writes to the same fields are one constructor.  What
differs between them is a fact about one record (`TaskW`, `ReqW`: what which actor writes into a task / request record;
`Filed`), and only a relation that reads that record opens it.

A constructor carries those facts about the change that the relations of this development use.  A fact none of them
reads (that `cancel_group` drops a sublist of the groups, that a call keeps its kind) is not carried; when a new
relation needs it, add the argument here and in the one field of the interface structure it comes from.  The fields
none of them reads (semaphores, groups, the log, …) are written with arbitrary values, by any actor, through `rest`: a
predicate that reads a waiter queue is no client.

The same writes as the model spells them (`Write.sem`, `Write.schedMeta`, `Write.createTask`, …) are lemmas below the
inductive: a chain of `Steps` is stated in the model's terms, a `cases` sees the record update.  `Steps S` is the
reflexive-transitive closure over the actors in `S`.  Every function of the machine is a sequence of such changes,
proved here once through the interface structures (`SyncKept`, `WrapKept`, `MetaKept`, `ApiKept`).  A lemma `st_f` is
threaded, `Steps S p₀ p → Steps S p₀ (f p)`: the shape the fields of those structures have.  A lemma `steps_f` is closed,
`Steps S p (f p)` with `S` the actors of `f`: the shape a client uses (`steps_runRef`, `steps_applyOp`, …).

A reflexive-transitive relation `R` then needs one lemma `Write w p q → R p q` by cases — for a relation that covers
only part of the machine under a condition on the actor — and gets every handle and every operation from `Steps.frame`;
a predicate kept by every write uses `Steps.keeps`.  That asks for the predicate after EVERY single write: one that is
broken and restored inside a step (between a registry move and the rewrite of the task record that follows it, say)
is walked through the wrapper structure of `Inv/Wrapper.lean` for the actor that breaks it and through `Steps.keeps`
for the others (`mhok_write` / `mh_wrap` in `Inv/MapHeldWalk.lean` is the model). -/
namespace Taskpool
namespace Pool

/-- who writes.  `user`: user code the pool runs, the synchronous calls open to it, and the environment completing a
future that a task awaits (`Op.gate`); `caller`: `pool_size = …`, which only a caller outside can do; `wrap t`: the
wrapper of task `t` on its own record and the registries; `spawn m`: spawner `m` on its own record, creating tasks after
a look at `closed`; `grant m`: the one creation without that look — `m` wakes up in `_enough_room.acquire()` with a slot
in hand; `gather`: `asyncio.gather` and a child's `_done_callback`; `api`: a background call from its start on; `closer`:
the closing step of `gather_and_close()` -/
inductive Who | user | caller | wrap (t : Nat) | spawn (m : Nat) | grant (m : Nat) | gather | api | closer

/-- a spawner's rewrite of its own request record: what is written in one place only stays -/
structure SameReq (r' r : Req) : Prop where
  kind : r'.kind = r.kind
  nc : r'.nc = r.nc
  outcome : r'.outcome = r.outcome
  doneCbs : r'.doneCbs = r.doneCbs
  inRunning : r'.inRunning = r.inRunning
  sched : r'.sched = true → r.sched = true
  created : r.created ≤ r'.created
  pulled : r.pulled ≤ r'.pulled
  snap : r'.cancelSnap = r.cancelSnap

/-- what is written into a request record from outside its spawner: `Task.cancel()` on the spawner (its entry in the
call's own semaphore, `must_cancel`, the ghost snapshot, which stays once taken) and `release()` of that semaphore
(`releaseMap`, by the wrapper of one of its tasks or by the spawner) -/
def SoftReq (r' r : Req) : Prop :=
  ∃ s mc cs, r' = { r with mapSem := s, mustCancel := mc, cancelSnap := cs } ∧ ∀ z, r.cancelSnap = some z → cs = some z

/-- `Task.cancel()` / `_cancel_task` / the environment on a task: the awaited future, `must_cancel`, the early mark -/
def SoftTask (k' k : PTask) : Prop :=
  ∃ ce fu mc, k' = { k with cancelledEarly := ce, fut := fu, mustCancel := mc }

/-- what actor `w` writes into the record of task `t` before the task completes (no handle queued).  `soft` is for
`.user` only: nothing but user code (`Task.cancel()`, `_cancel_task`) and the environment cancels or completes what a
task awaits -/
inductive TaskW : Who → Nat → PTask → PTask → Prop
  | soft {t k' k} (h : SoftTask k' k) : TaskW .user t k' k
  | own {t k' k} (h : SameTask k' k) (hs : k'.sched = true → k.sched = true) : TaskW (.wrap t) t k' k
  | reg {t k' k} (gi : Nat × Nat) (h : k' = { k with doneCbs := k.doneCbs ++ [gi] }) : TaskW .gather t k' k

/-- what actor `w` writes into the record of request `m` before its spawner is done (no handle queued).  `soft` is open
to any actor: besides user code, every wrapper and spawner of the call writes `mapSem` when it releases a map slot -/
inductive ReqW : Who → Nat → Req → Req → Prop
  | soft {w m r' r} (h : SoftReq r' r) : ReqW w m r' r
  | own {m r' r} (h : SameReq r' r) : ReqW (.spawn m) m r' r
  | reg {m r' r} (gi : Nat × Nat) (h : r' = { r with doneCbs := r.doneCbs ++ [gi] }) : ReqW .gather m r' r

/-- the three registry flags of a request; `inRunning` is not set -/
def Filed (r' r : Req) : Prop :=
  ∃ a b c, r' = { r with inRunning := a, inCancelled := b, everCancelled := c } ∧ (a = true → r.inRunning = true)

/-- the handles of the done-callbacks of a future that completes -/
def cbRefs (done : Bool) (cbs : List (Nat × Nat)) : List Ref := (if done then [] else cbs).map fun gi => Ref.gchild gi.1 gi.2

inductive Write : Who → Pool → Pool → Prop
  /-- the fields no frame relation reads.  Open to any actor on purpose: as nothing reads them, nothing is gained by
  recording who writes `sem` (wrappers, spawners, `Task.cancel()` on a waiting spawner, `pool_size = …`), `resized`
  (`pool_size = …`) or `locked` (user code, `gather_and_close()`) -/
  | rest {w} (p : Pool) {s gs o b n rz lg amb} : Write w p
      { p with sem := s, groups := gs, orders := o, locked := b, startCalls := n, resized := rz, log := lg, ambiguous := amb }
  | emit {w} (p : Pool) (r : Ref) (hr : ∀ g i, r ≠ .gchild g i) : Write w p { p with emit := p.emit ++ [r] }
  | task {w} (p : Pool) (t : Nat) (f : PTask → PTask) (hf : ∀ x, TaskW w t (f x) x) : Write w p { p with tasks := p.tasks.modify t f }
  | flagTask {w} (p : Pool) (t : Nat) : Write w p
      { p with tasks := p.tasks.modify t fun x => { x with sched := true }, emit := p.emit ++ [.task t] }
  /-- the done-callbacks are queued once, when the future completes -/
  | completeTask (p : Pool) (t : Nat) (tk : PTask) (h : p.tasks[t]? = some tk) (o : Outcome) : Write (.wrap t) p
      { p with tasks := p.tasks.modify t fun x => { x with phase := .finished, outcome := some o, sched := false, mustCancel := false },
               emit := p.emit ++ cbRefs tk.outcome.isSome tk.doneCbs }
  | req {w} (p : Pool) (m : Nat) (f : Req → Req) (hf : ∀ x, ReqW w m (f x) x) : Write w p { p with reqs := p.reqs.modify m f }
  | flagReq {w} (p : Pool) (m : Nat) : Write w p
      { p with reqs := p.reqs.modify m fun x => { x with sched := true }, emit := p.emit ++ [.spawner m] }
  | finishMeta (p : Pool) (m : Nat) (r : Req) (h : p.reqs[m]? = some r) (o : Outcome) : Write (.spawn m) p
      { p with reqs := p.reqs.modify m fun x => { x with frame := .done, outcome := some o, sched := false, mustCancel := false },
               emit := p.emit ++ cbRefs r.outcome.isSome r.doneCbs }
  | fileCancelled (p : Pool) (f : Req → Req) (ms : List Nat) (hf : ∀ x, Filed (f x) x) (hm : ∀ m ∈ ms, m < p.reqs.length) :
      Write .user p { p with reqs := p.reqs.map f, metaCancelled := p.metaCancelled ++ ms }
  | unfiled (p : Pool) (f : Req → Req) (mc : List Nat) (hf : ∀ x, Filed (f x) x) (hm : ∀ m ∈ mc, m ∈ p.metaCancelled) :
      Write .api p { p with reqs := p.reqs.map f, metaCancelled := mc }
  | newReq (p : Pool) (kind stars g) (sp : SpawnSpec) (n items nc gs ns) (hc : p.checkStart sp.isCoro = none)
      (hm : kind = .map → n = 0 ∧ 1 ≤ nc) : Write .user p
      { p with reqs := p.reqs ++ [Pool.newReq kind stars g sp n items nc], groups := gs, names := ns,
               emit := p.emit ++ [.spawner p.reqs.length] }
  /-- `.grant m`: the spawner woke up in `_enough_room.acquire()` with a slot in hand — no look at `closed` -/
  | newTask {w} (p : Pool) (m : Nat) (isMap arg ecb ccb gs) (hw : (w = .spawn m ∧ p.closed = false) ∨ w = .grant m) : Write w p
      { p with tasks := p.tasks ++ [Pool.newTask m isMap arg ecb ccb], groups := gs, running := p.running ++ [p.tasks.length],
               reqs := p.reqs.modify m fun x => { x with created := x.created + 1 },
               emit := p.emit ++ [.task p.tasks.length] }
  | lost (p : Pool) (t : Nat) : Write (.wrap t) p { p with lost := true }
  | runToEnded (p : Pool) (t : Nat) (h : p.running.contains t = true) :
      Write (.wrap t) p { p with running := p.running.erase t, ended := p.ended ++ [t] }
  | canToEnded (p : Pool) (t : Nat) (h : p.cancelledR.contains t = true) :
      Write (.wrap t) p { p with cancelledR := p.cancelledR.erase t, ended := p.ended ++ [t] }
  | runToCan (p : Pool) (t : Nat) (h : p.running.contains t = true) :
      Write (.wrap t) p { p with running := p.running.erase t, cancelledR := p.cancelledR ++ [t] }
  | forget (p : Pool) (fe fc : Nat → Bool) (l : Bool) : Write .api p
      { p with ended := p.ended.filter fe, cancelledR := p.cancelledR.filter fc, lost := p.lost || l }
  | close (p : Pool) (l : Bool) : Write .closer p
      { p with ended := [], cancelledR := [], running := [], closed := true, closedWaiters := [], lost := p.lost || l }
  | modGather (p : Pool) (g : Nat) (f : Gather → Gather) (hf : ∀ G, (f G).children = G.children ∧ (f G).retExc = G.retExc) :
      Write .gather p { p with gathers := p.gathers.modify g f }
  | newGather (p : Pool) (G : Gather) (amb : Bool) : Write .gather p { p with gathers := p.gathers ++ [G], ambiguous := amb }
  | flagApi (p : Pool) (a : Nat) : Write .gather p
      { p with apis := p.apis.modify a fun x => { x with sched := true }, emit := p.emit ++ [.api a] }
  | newApi (p : Pool) (x : Api) : Write .api p
      { p with apis := p.apis ++ [x], emit := p.emit ++ [.api p.apis.length] }
  | modApi (p : Pool) (a : Nat) (f : Api → Api) (hf : ∀ x, (f x).sched = true → x.sched = true) :
      Write .api p { p with apis := p.apis.modify a f }
  | waitClosed (p : Pool) (a : Nat) : Write .api p { p with closedWaiters := p.closedWaiters ++ [a] }

namespace Write
variable {w : Who} (p : Pool)

theorem logEv (e : Ev) : Write w p (p.logEv e) := .rest p
theorem sem (s : Sem) : Write w p { p with sem := s } := .rest p
theorem lockAmb (amb : Bool) : Write .api p { p with locked := true, ambiguous := amb } := .rest p
theorem schedTask (t : Nat) : Write w p (p.schedTask t) := .flagTask p t
theorem schedMeta (m : Nat) : Write w p (p.schedMeta m) := .flagReq p m
theorem schedApi (a : Nat) : Write .gather p (p.schedApi a) := .flagApi p a
theorem createTask (m : Nat) (isMap : Bool) (hw : (w = .spawn m ∧ p.closed = false) ∨ w = .grant m) :
    Write w p (p.createTask m isMap) := .newTask p m isMap _ _ _ _ hw
theorem unfile : Write .api p { p with reqs := p.reqs.map fun (r : Req) =>
    if r.inRunning && r.outcome.isSome then { r with inRunning := false } else r } :=
  .unfiled p _ p.metaCancelled (fun x => by
    split
    · exact ⟨_, _, _, rfl, Bool.noConfusion⟩
    · exact ⟨x.inRunning, x.inCancelled, x.everCancelled, rfl, id⟩) fun _ a => a
theorem uncancel : Write .api p
    { p with metaCancelled := [], reqs := p.reqs.map fun (r : Req) => { r with inCancelled := false } } :=
  .unfiled p _ [] (fun x => ⟨x.inRunning, _, x.everCancelled, rfl, id⟩) nofun
theorem clearMetas : Write .api p
    { p with metaCancelled := [], reqs := p.reqs.map fun (r : Req) => { r with inCancelled := false, inRunning := false } } :=
  .unfiled p _ [] (fun x => ⟨_, _, x.everCancelled, rfl, Bool.noConfusion⟩) nofun

end Write

inductive Steps (S : Who → Prop) : Pool → Pool → Prop
  | refl (p : Pool) : Steps S p p
  | tail {p q r : Pool} {w : Who} : Steps S p q → S w → Write w q r → Steps S p r

theorem Steps.mono {S S' : Who → Prop} (hS : ∀ w, S w → S' w) {p q : Pool} (h : Steps S p q) : Steps S' p q := by
  induction h with
  | refl => exact .refl _
  | tail _ hs hw ih => exact ih.tail (hS _ hs) hw

theorem Steps.frame {S : Who → Prop} {R : Pool → Pool → Prop} (rfl' : ∀ p, R p p) (tr : ∀ {p q r}, R p q → R q r → R p r)
    (hw : ∀ w p q, S w → Write w p q → R p q) {p q : Pool} (h : Steps S p q) : R p q := by
  induction h with
  | refl => exact rfl' _
  | tail _ hs w ih => exact tr ih (hw _ _ _ hs w)

theorem Steps.keeps {S : Who → Prop} {P : Pool → Prop} (hw : ∀ w p q, S w → Write w p q → P p → P q) {p q : Pool}
    (h : Steps S p q) (hp : P p) : P q := by
  induction h with
  | refl => exact hp
  | tail _ hs w ih => exact hw _ _ _ hs w ih

theorem Steps.trans {S : Who → Prop} {p q r : Pool} (h1 : Steps S p q) (h2 : Steps S q r) : Steps S p r := by
  induction h2 with
  | refl => exact h1
  | tail _ hs w ih => exact ih.tail hs w

variable {S : Who → Prop} {p₀ p : Pool}

theorem st_completeTask (h : Steps S p₀ p) {t : Nat} (ht : S (.wrap t)) (o : Outcome) : Steps S p₀ (p.completeTask t o) := by
  unfold completeTask
  split
  · exact h
  · rename_i tk htk
    rw [emitChildren_eq]
    exact h.tail ht (.completeTask p t tk htk o)

theorem st_finishMeta (h : Steps S p₀ p) {m : Nat} (hm : S (.spawn m)) (o : Outcome) : Steps S p₀ (p.finishMeta m o) := by
  unfold finishMeta
  split
  · exact h
  · rename_i r hr
    rw [emitChildren_eq]
    exact h.tail hm (.finishMeta p m r hr _)

theorem st_schedOpt (h : Steps S p₀ p) {w} (hs : S w) (o : Option Nat) : Steps S p₀ (p.schedOpt o) := by
  cases o
  · exact h
  · exact h.tail hs (.schedMeta p _)

theorem st_releasePool (h : Steps S p₀ p) {w} (hs : S w) : Steps S p₀ p.releasePool :=
  st_schedOpt (h.tail hs (.sem p _)) hs _

theorem st_releaseMap (h : Steps S p₀ p) {w} (hs : S w) (m : Nat) : Steps S p₀ (p.releaseMap m) := by
  unfold releaseMap
  cases p.reqs[m]? with
  | none => exact h
  | some r => exact st_schedOpt (h.tail hs (.req p m _ fun x => .soft ⟨_, _, _, rfl, fun _ e => e⟩)) hs _

theorem softTask_mk (x : PTask) (ce fu mc) : SoftTask { x with cancelledEarly := ce, fut := fu, mustCancel := mc } x :=
  ⟨_, _, _, rfl⟩

theorem st_cancelTask (h : Steps S p₀ p) (hs : S .user) (t : Nat) : Steps S p₀ (p.cancelTask t) := by
  have m : ∀ {q : Pool}, Steps S p₀ q → ∀ (f : PTask → PTask), (∀ x, SoftTask (f x) x) → Steps S p₀ (q.modTask t f) :=
    fun h f hf => h.tail hs (.task _ t f fun x => .soft (hf x))
  unfold cancelTask
  split
  · exact h
  · refine ite_keeps (m h _ fun x => softTask_mk x _ _ _) ?_
    unfold taskCancel
    split
    · exact h
    · exact ite_keeps h (ite_keeps ((m h _ fun x => softTask_mk x _ _ _).tail hs (.schedTask _ t))
        (m h _ fun x => softTask_mk x _ _ _))

theorem softReq_snap {y x : Req} (h : SoftReq y x) : SoftReq (snapReq y) x := by
  obtain ⟨s, mc, cs, rfl, hz⟩ := h
  unfold snapReq
  split
  · rename_i c
    refine ⟨s, mc, _, rfl, fun z e => ?_⟩
    simp only [Bool.and_eq_true, Option.isNone_iff_eq_none] at c
    exact absurd (hz z e) (by rw [c.2]; exact nofun)
  · exact ⟨s, mc, cs, rfl, hz⟩

theorem softReq_mk (x : Req) (s mc) : SoftReq { x with mapSem := s, mustCancel := mc } x :=
  ⟨s, mc, x.cancelSnap, rfl, fun _ e => e⟩

theorem st_metaCancel (h : Steps S p₀ p) (hs : S .user) (m : Nat) : Steps S p₀ (p.metaCancel m) :=
  metaCancel_elim p m (fun _ => h) (fun _ _ _ => h)
    (fun _ _ _ _ => ((h.tail hs (.sem p _)).tail hs (.req _ m snapReq fun x => .soft (softReq_snap (softReq_mk x _ _)))).tail hs
      (.schedMeta _ m))
    (fun _ _ _ _ _ => (h.tail hs (.req p m _ fun x => .soft (softReq_snap (softReq_mk x _ _)))).tail hs (.schedMeta _ m))
    fun _ _ _ _ _ => h.tail hs (.req p m _ fun x => .soft (softReq_snap (softReq_mk x _ _)))

theorem metaCancel_length (p : Pool) (m : Nat) : (p.metaCancel m).reqs.length = p.reqs.length :=
  metaCancel_elim (P := fun q => q.reqs.length = p.reqs.length) p m (fun _ => rfl) (fun _ _ _ => rfl)
    (fun _ _ _ _ => by simp [schedMeta, emitRef, modReq]) (fun _ _ _ _ _ => by simp [schedMeta, emitRef, modReq])
    fun _ _ _ _ _ => by simp [modReq]

theorem st_cancelGroupMetas (h : Steps S p₀ p) (hs : S .user) (g : String) : Steps S p₀ (p.cancelGroupMetas g) := by
  unfold cancelGroupMetas
  refine .tail (foldl_keeps (P := Steps S p₀) _ (fun _ m h => st_metaCancel h hs m) _ p h) hs
    (.fileCancelled _ _ _ (fun x => ?_) fun m hm => ?_)
  · split
    · exact ⟨_, _, _, rfl, Bool.noConfusion⟩
    · exact ⟨x.inRunning, x.inCancelled, x.everCancelled, rfl, id⟩
  · rw [foldl_keeps (P := fun q : Pool => q.reqs.length = p.reqs.length) _ (fun q m e => (metaCancel_length q m).trans e) _ p rfl]
    exact mem_indicesWhere_lt hm

theorem st_sync (S : Who → Prop) (hs : S .user) (p₀ : Pool) : SyncKept (Steps S p₀) (fun _ => True) True where
  cancelTask := fun _ t h => st_cancelTask h hs t
  cancelGroupMetas := fun _ g h => st_cancelGroupMetas h hs g
  dropGroups := fun p _ _ h => h.tail hs (.rest p)
  setOrders := fun p _ h => h.tail hs (.rest p)
  lock := fun p h => h.tail hs (.rest p)
  unlock := fun _ p h => h.tail hs (.rest p)
  startCalls := fun p _ h => h.tail hs (.rest p)
  logEv := fun p e h => h.tail hs (.logEv p e)
  register := fun p kind stars g sp n items nc _ hc _ hm h => h.tail hs (.newReq p kind stars g sp n items nc _ _ hc hm)

theorem st_runHooks (h : Steps S p₀ p) (hs : S .user) (ctx : Nat) (l : List HookOp) : Steps S p₀ (p.runHooks ctx l) :=
  (st_sync S hs p₀).runHooks h ctx l (fun _ => trivial) trivial

theorem st_wrap (S : Who → Prop) (hs : S .user) (t : Nat) (ht : S (.wrap t)) (p₀ : Pool) :
    WrapKept (Steps S p₀) (Steps S p₀) (fun _ => True) t where
  weaken := fun _ h => h
  modTask := fun p f hf hf' h => h.tail ht (.task p t f fun x => .own (hf x) (hf' x))
  schedTask := fun p h => h.tail ht (.schedTask p t)
  logEv := fun p e h => h.tail ht (.logEv p e)
  runHooks := fun _ ctx l _ h => st_runHooks h hs ctx l
  adm := fun _ _ _ => ⟨trivial, trivial, trivial, trivial⟩
  lost := fun p h => h.tail ht (.lost p t)
  runToEnded := fun p c h => h.tail ht (.runToEnded p t c)
  canToEnded := fun p c h => h.tail ht (.canToEnded p t c)
  runToCan := fun p c h => h.tail ht (.runToCan p t c)
  releasePool := fun _ h => st_releasePool h ht
  releaseMap := fun _ m h => st_releaseMap h ht m
  completeTask := fun _ o h => st_completeTask h ht o

theorem sameReq_rfl (x : Req) : SameReq x x := ⟨rfl, rfl, rfl, rfl, rfl, id, Nat.le_refl _, Nat.le_refl _, rfl⟩

theorem sameReq_unsched (x : Req) : SameReq { x with sched := false } x := { sameReq_rfl x with sched := Bool.noConfusion }

theorem st_meta (S : Who → Prop) (hs : S .user) (m : Nat) (hm : S (.spawn m)) (p₀ : Pool) :
    MetaKept (Steps S p₀) (Steps S p₀) (S (.grant m)) m :=
  have own : ∀ {p : Pool}, Steps S p₀ p → ∀ (f : Req → Req), (∀ x, SameReq (f x) x) → Steps S p₀ (p.modReq m f) :=
    fun h f hf => h.tail hm (.req _ m f fun x => .own (hf x))
  have same : ∀ {p : Pool}, Steps S p₀ p → ∀ (f : Req → Req)
      (_ : ∀ x, SameReq (f x) x := by exact fun x => { sameReq_rfl x with }),
      Steps S p₀ (p.modReq m f) := fun h f hf => own h f hf
  { remaining := fun _ _ h => same h _
    skipped := fun _ h => same h _
    itemsNil := fun _ h => same h _
    acquired := fun _ h => same h _
    pullItem := fun p rest h => by
      unfold pullItem
      refine st_runHooks ((own h _ ?_).tail hm (.logEv _ _)) hs _ _
      exact fun x => { sameReq_rfl x with pulled := Nat.le_succ _ }
    takeMapSlot := fun _ h => same h _
    takeSlotAndCreate := fun p isMap h hc => (h.tail hm (.sem p _)).tail hm (.createTask _ m isMap (.inl ⟨rfl, hc⟩))
    finishMeta := fun p o h => st_finishMeta h hm o
    waitRoom := fun p h => by
      unfold waitRoom
      exact ite_keeps ((same (h.tail hm (.sem p _)) _).tail hm (.schedMeta _ m)) (same (h.tail hm (.sem p _)) _)
    waitMapSem := fun p h => by
      unfold waitMapSem
      exact ite_keeps ((same h _).tail hm (.schedMeta _ m)) (same h _)
    releasePool := fun _ h => st_releasePool h hm
    releaseMap := fun _ h => st_releaseMap h hm m
    dropWaiter := fun p ws h => same (h.tail hm (.sem p _)) _
    running := fun _ h => same h _
    wakeNext := fun p s o h => st_schedOpt (h.tail hm (.sem p s)) hm o
    createTask := fun hg p isMap h => h.tail hg (.createTask p m isMap (.inr rfl))
    mapWake := fun _ s o h => st_schedOpt (same h _) hm o }

theorem st_gather (S : Who → Prop) (hg : S .gather) (p₀ : Pool) : GatherBlind (Steps S p₀) where
  modGather := fun p g f hf h => h.tail hg (.modGather p g f hf)
  schedApi := fun p a h => h.tail hg (.schedApi p a)
  regTask := fun p t gi h => h.tail hg (.task p t _ fun _ => .reg gi rfl)
  regReq := fun p m gi h => h.tail hg (.req p m _ fun _ => .reg gi rfl)
  newGather := fun p G amb h => h.tail hg (.newGather p G amb)

theorem st_flush (S : Who → Prop) (hg : S .gather) (ha : S .api) (p₀ : Pool) : FlushKept (Steps S p₀) where
  toGatherBlind := st_gather S hg p₀
  modApi := fun p a f hf _ h => h.tail ha (.modApi p a f hf)
  unfile := fun p h => h.tail ha (.unfile p)
  uncancel := fun p h => h.tail ha (.uncancel p)
  forget := fun p fe fc l h => h.tail ha (.forget p fe fc l)
  waitClosed := fun p a h => h.tail ha (.waitClosed p a)

theorem st_api (S : Who → Prop) (hg : S .gather) (ha : S .api) (hc : S .closer) (p₀ : Pool) : ApiKept (Steps S p₀) where
  toFlushKept := st_flush S hg ha p₀
  clearMetas := fun p h => h.tail ha (.clearMetas p)
  close := fun p l h => h.tail hc (.close p l)
  lock := fun p amb h => h.tail ha (.lockAmb p amb)

def Ref.actors : Ref → Who → Prop
  | .task t => fun w => w = .user ∨ w = .wrap t
  | .spawner m => fun w => w = .user ∨ w = .spawn m ∨ w = .grant m
  | .api _ => fun w => w = .gather ∨ w = .api ∨ w = .closer
  | .gchild _ _ => fun w => w = .gather

/-- the state a handle goes on from: the flag of its entity is cleared -/
def unflag (p : Pool) : Ref → Pool
  | .task t => p.modTask t fun k => { k with sched := false }
  | .spawner m => p.modReq m fun x => { x with sched := false }
  | .api a => p.modApi a fun x => { x with sched := false }
  | .gchild _ _ => p

theorem steps_unflag (p : Pool) (r : Ref) : Steps (Ref.actors r) p (p.unflag r) := by
  cases r with
  | task t => exact .tail (.refl p) (.inr rfl) (.task p t _ fun _ => .own ⟨rfl, rfl, rfl, rfl, rfl⟩ Bool.noConfusion)
  | spawner m => exact .tail (.refl p) (.inr (.inl rfl)) (.req p m _ fun x => .own (sameReq_unsched x))
  | api a => exact .tail (.refl p) (.inr (.inl rfl)) (.modApi p a _ fun _ => Bool.noConfusion)
  | gchild g i => exact .refl p

theorem steps_stepped (p : Pool) (r : Ref) : Steps (Ref.actors r) (p.unflag r) (p.runRef r) := by
  cases r with
  | task t =>
    refine (st_wrap _ (.inl rfl) t (.inr rfl) _).stepTask (fun h => ?_) (.refl _) fun _ _ _ => .refl _
    rw [unflag, modTask, modify_idle PTask.sched (fun _ e => e ▸ rfl) h]
    exact .refl p
  | spawner m =>
    refine (st_meta _ (.inl rfl) m (.inr (.inl rfl)) _).stepMeta (fun h => ?_) (.refl _) (fun _ _ _ _ => .refl _)
      fun ng => (ng (.inr (.inr rfl))).elim
    rw [unflag, modReq, modify_idle Req.sched (fun _ e => e ▸ rfl) h]
    exact .refl p
  | api a =>
    refine (st_api _ (.inl rfl) (.inr (.inl rfl)) (.inr (.inr rfl)) _).stepApiFrom (fun h => ?_) (.refl _)
    rw [unflag, modApi, modify_idle Api.sched (fun _ e => e ▸ rfl) h]
    exact .refl p
  | gchild g i => exact (st_gather (Ref.actors (.gchild g i)) rfl p).gatherChildDone (.refl p) g i true

theorem steps_runRef (p : Pool) (r : Ref) : Steps (Ref.actors r) p (p.runRef r) :=
  (steps_unflag p r).trans (steps_stepped p r)

/-- a spawner that, if it waits for room in the pool, is cancelled: it creates a task only after a look at `closed` -/
theorem steps_stepMeta_doomed (p : Pool) (m : Nat) (hd : ∀ r, p.reqs[m]? = some r → r.frame = .waitRoom →
    (removeWaiterL m p.sem.waiters).1 = some .cancelled ∨ r.mustCancel = true) :
    Steps (fun w => w = .user ∨ w = .spawn m) p (p.stepMeta m) :=
  have h1 : Steps (fun w => w = .user ∨ w = .spawn m) p (p.modReq m fun x => { x with sched := false }) :=
    .tail (.refl p) (.inr rfl) (.req p m _ fun x => .own (sameReq_unsched x))
  (st_meta (fun w => w = .user ∨ w = .spawn m) (.inl rfl) m (.inr rfl) p).stepMeta (fun _ => .refl p) h1 (fun _ _ _ _ => h1) fun _ => hd

theorem steps_workerNext (p : Pool) (t : Nat) (tk : PTask) : Steps (Ref.actors (.task t)) p (p.workerNext t tk) :=
  (st_wrap _ (.inl rfl) t (.inr rfl) p).workerNext (.refl p) tk

theorem steps_workerCancelled (p : Pool) (t : Nat) (tk : PTask) : Steps (Ref.actors (.task t)) p (p.workerCancelled t tk) :=
  (st_wrap _ (.inl rfl) t (.inr rfl) p).staged.workerCancelled (.refl p) tk

theorem steps_applyOp_sync (p : Pool) {op : Op} (hs : op.starts = none) :
    Steps (fun w => w = .user ∨ w = .caller) p (p.applyOp op).1 := by
  have h := Steps.refl (S := fun w => w = .user ∨ w = .caller) p
  refine (st_sync (fun w => w = .user ∨ w = .caller) (.inl rfl) p).applyOp h hs ?_ (fun _ _ => trivial)
    (fun _ _ => h.tail (.inr rfl) (.rest p)) fun t o _ => ?_
  · cases op <;> trivial
  · unfold doGate
    split
    · exact (h.tail (.inl rfl) (.task p t _ fun x => .soft ⟨x.cancelledEarly, o, x.mustCancel, rfl⟩)).tail (.inl rfl) (.schedTask _ t)
    · exact h

theorem steps_applyOp (p : Pool) (op : Op) : Steps (fun w => w = .user ∨ w = .caller ∨ w = .api) p (p.applyOp op).1 := by
  cases hs : op.starts with
  | none => exact (steps_applyOp_sync p hs).mono fun _ e => e.elim .inl fun e => .inr (.inl e)
  | some k => exact applyOp_starts p hs ▸ .tail (.refl p) (.inr (.inr rfl)) (.newApi p _)

end Pool
end Taskpool
