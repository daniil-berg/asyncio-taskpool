import Taskpool.Model.Queue
import Taskpool.Inv.Lists
/-! C20: the invariant of the accounting core `K` and its preservation by every guarded core operation (`KStep.inv`).

`Inv k` = the counting equations (`V.ok`, proved through the view `K.view` + `omega`), the per-consumer mark
discipline (`CoreOK`) and the `join()` discipline (`JOK`). -/
namespace Taskpool.QueueM

/-- every `task_done()` a consumer makes belongs to the one exit of its block -/
def CoreOK (x : Core) : Prop := x.marks = if x.tookDone then 1 else 0

/-- the accounting view of a state -/
structure V where
  items : Nat
  unf   : Nat
  blk   : Nat
  dn    : Nat
  puts  : Nat
  exits : Nat
  td    : Nat
  ve    : Nat
  takes : Nat
deriving DecidableEq, Repr

def K.view (k : K) : V :=
  { items := k.items.length, unf := k.unfinished, blk := k.cores.countP Core.inBlock, dn := k.cores.countP Core.tookDone,
    puts := k.puts, exits := k.exits, td := k.tdCalls, ve := k.valueErrors, takes := k.takes }

def V.ok (v : V) : Prop :=
  v.unf = v.items + v.blk ∧ v.puts = v.exits + v.takes + v.unf ∧ v.ve = 0 ∧ v.td = v.exits + v.takes ∧ v.exits = v.dn

theorem countP_modify_same {α} (p : α → Bool) (l : List α) (c : Nat) (f : α → α) (h : ∀ x, p (f x) = p x) :
    (l.modify c f).countP p = l.countP p := by
  induction l generalizing c with
  | nil => simp
  | cons a as ih =>
    cases c with
    | zero => simp [List.countP_cons, h]
    | succ n => simp only [List.modify_succ_cons, List.countP_cons, ih n]

/-- The books are a flow balance: of the items, `a` enter the queue, `b` are handed to a block, `c` leave their block
and `d` are taken and marked by hand (`task_done()` is called for these two kinds, and does not raise).  Every core
operation is one of these moves, or none. -/
theorem V.ok.flow {v v' : V} (a b c d : Nat) (h : v.ok)
    (hitems : v'.items + b + d = v.items + a) (hunf : v'.unf + c + d = v.unf + a) (hblk : v'.blk + c = v.blk + b)
    (hdn : v'.dn = v.dn + c) (hputs : v'.puts = v.puts + a) (hexits : v'.exits = v.exits + c)
    (htd : v'.td = v.td + c + d) (hve : v'.ve = v.ve) (htakes : v'.takes = v.takes + d) : v'.ok := by
  obtain ⟨h1, h2, h3, h4, h5⟩ := h
  refine ⟨?_, ?_, hve.trans h3, ?_, by rw [hexits, hdn, h5]⟩
  -- `clear` first: `omega` is given only the facts the equation depends on
  · clear h2 h4 h5 hdn hputs hexits htd htakes; omega
  · clear h1 h4 h5 hdn hitems hblk htd; omega
  · clear h1 h2 h5 hdn hitems hblk hputs hunf; omega

structure K.JOK (k : K) : Prop where
  fin   : k.finished = true ↔ k.unfinished = 0
  wait  : ∀ (j : Nat) (x : Joiner), k.joiners[j]? = some x → x.phase = .waiting → x.fut = .pending →
            j ∈ k.evWaiters ∧ x.sched = false ∧ 0 < k.unfinished
  woken : ∀ (j : Nat) (x : Joiner), k.joiners[j]? = some x → x.phase = .waiting → x.fut ≠ .pending →
            x.fut = .woken ∧ x.sched = true
  fresh : ∀ (j : Nat) (x : Joiner), k.joiners[j]? = some x → x.phase = .notStarted →
            x.fut = .pending ∧ x.sched = true ∧ j ∉ k.evWaiters
  bound : ∀ j ∈ k.evWaiters, j < k.joiners.length

structure K.Inv (k : K) : Prop where
  cnt  : k.view.ok
  core : ∀ x ∈ k.cores, CoreOK x
  jn   : k.JOK

/-- what the `join()` discipline asks of joiner `j`, given the waiters `W` of the event and the unfinished counter `u` -/
def JOKAt (W : List Nat) (u j : Nat) (x : Joiner) : Prop :=
  (x.phase = .waiting → x.fut = .pending → j ∈ W ∧ x.sched = false ∧ 0 < u)
  ∧ (x.phase = .waiting → x.fut ≠ .pending → x.fut = .woken ∧ x.sched = true)
  ∧ (x.phase = .notStarted → x.fut = .pending ∧ x.sched = true ∧ j ∉ W)

theorem K.jok_iff (k : K) : k.JOK ↔ (k.finished = true ↔ k.unfinished = 0)
    ∧ (∀ j x, k.joiners[j]? = some x → JOKAt k.evWaiters k.unfinished j x) ∧ ∀ j ∈ k.evWaiters, j < k.joiners.length :=
  ⟨fun h => ⟨h.fin, fun j x hx => ⟨h.wait j x hx, h.woken j x hx, h.fresh j x hx⟩, h.bound⟩,
   fun ⟨a, b, c⟩ => ⟨a, fun j x hx => (b j x hx).1, fun j x hx => (b j x hx).2.1, fun j x hx => (b j x hx).2.2, c⟩⟩

theorem JOKAt.done {W : List Nat} {u j : Nat} {x : Joiner} (h : x.phase = .done) : JOKAt W u j x := by
  simp [JOKAt, h]

theorem JOKAt.mono {W W' : List Nat} {u u' j : Nat} {x : Joiner} (h : JOKAt W u j x) (hW : j ∈ W' ↔ j ∈ W)
    (hu : 0 < u → 0 < u') : JOKAt W' u' j x :=
  ⟨fun a b => let ⟨p, q, r⟩ := h.1 a b; ⟨hW.2 p, q, hu r⟩, h.2.1,
   fun a => let ⟨p, q, r⟩ := h.2.2 a; ⟨p, q, fun m => r (hW.1 m)⟩⟩

theorem K.JOK.of_eq {k k' : K} (hj : k.JOK) (h1 : k'.finished = k.finished) (h2 : k'.unfinished = k.unfinished)
    (h3 : k'.evWaiters = k.evWaiters) (h4 : k'.joiners = k.joiners) : k'.JOK := by
  rw [K.jok_iff] at hj ⊢
  rw [h1, h2, h3, h4]
  exact hj

theorem K.inv_initN (n : Nat) : (K.initN n).Inv := by
  refine ⟨by simp [K.initN, K.view, V.ok], by simp [K.initN], ?_⟩
  constructor <;> simp [K.initN]

theorem K.inv_init : K.init.Inv := K.inv_initN 0

/-- the invariant does not look at the producers, `maxsize` or the ghost counter `hputs` -/
theorem K.Inv.of_eq {k k' : K} (hi : k.Inv) (h1 : k'.items = k.items) (h2 : k'.unfinished = k.unfinished)
    (h3 : k'.finished = k.finished) (h4 : k'.evWaiters = k.evWaiters) (h5 : k'.cores = k.cores)
    (h6 : k'.joiners = k.joiners) (h7 : k'.puts = k.puts) (h8 : k'.exits = k.exits) (h9 : k'.takes = k.takes)
    (h10 : k'.tdCalls = k.tdCalls) (h11 : k'.valueErrors = k.valueErrors) : k'.Inv := by
  refine ⟨?_, h5 ▸ hi.core, hi.jn.of_eq h3 h2 h4 h6⟩
  simp only [K.view, h1, h2, h5, h7, h8, h9, h10, h11]
  exact hi.cnt

/-- one core operation, with the guard under which the shell performs it -/
inductive KStep : K → K → Prop
  | refl (k : K) : KStep k k
  | put (k : K) (x : Nat) : k.full = false → KStep k (k.put x)
  | spawn (k : K) : KStep k k.spawn
  | join (k : K) : KStep k k.join
  | wait (k : K) (c : Nat) (x : Core) : k.cores[c]? = some x → preBlock x.phase = true → KStep k (k.wait c)
  | take (k : K) (c : Nat) (x : Core) : k.cores[c]? = some x → preBlock x.phase = true → KStep k (k.take c)
  | abort (k : K) (c : Nat) (x : Core) : k.cores[c]? = some x → preBlock x.phase = true → KStep k (k.abort c)
  | exit (k : K) (c : Nat) (x : Core) (e : Exit) : k.cores[c]? = some x → isInBlock x.phase = true → KStep k (k.exit c e)
  | stepJ (k : K) (j : Nat) : KStep k (k.stepJoiner j)
  | handTake (k : K) : KStep k k.handTake
  | produce (k : K) (x : Nat) : KStep k (k.produce x)
  | pwait (k : K) (j : Nat) (p : Prod) : k.prods[j]? = some p → prePut p.phase = true → k.full = true → KStep k (k.pwait j)
  | pput (k : K) (j : Nat) (p : Prod) : k.prods[j]? = some p → prePut p.phase = true → k.full = false → KStep k (k.pput j)
  | pabort (k : K) (j : Nat) (p : Prod) : k.prods[j]? = some p → prePut p.phase = true → KStep k (k.pabort j)

theorem preBlock_phase {ph : CPhase} (h : preBlock ph = true) :
    isInBlock ph = false ∧ tookDone ph = false ∧ Q.isDone ph = false := by
  cases ph with
  | notStarted => exact ⟨rfl, rfl, rfl⟩
  | waiting => exact ⟨rfl, rfl, rfl⟩
  | inBlock _ => cases h
  | done _ _ => cases h

theorem inBlock_phase {ph : CPhase} (h : isInBlock ph = true) :
    preBlock ph = false ∧ tookDone ph = false ∧ Q.isDone ph = false := by
  cases ph with
  | inBlock _ => exact ⟨rfl, rfl, rfl⟩
  | notStarted => cases h
  | waiting => cases h
  | done _ _ => cases h

theorem cores_setPhase_pre (k : K) (c : Nat) (x : Core) (p : CPhase) (h : k.cores[c]? = some x)
    (hx : preBlock x.phase = true) (hp : tookDone p = false) :
    (k.setPhase c p).view = { k.view with blk := k.view.blk + (if isInBlock p then 1 else 0) } := by
  have h1 := countP_modify Core.inBlock (fun y => { y with phase := p }) k.cores c x h
  have h2 := countP_modify Core.tookDone (fun y => { y with phase := p }) k.cores c x h
  simp only [Core.inBlock, Core.tookDone, (preBlock_phase hx).1, (preBlock_phase hx).2.1, hp, Bool.false_eq_true, if_false,
    Nat.add_zero] at h1 h2
  simp only [K.view, K.setPhase, V.mk.injEq, true_and, and_true]
  exact ⟨h1, h2⟩

theorem coreOK_setPhase (k : K) (c : Nat) (p : CPhase) (hp : tookDone p = false)
    (hc : ∀ y ∈ k.cores, CoreOK y) (hpre : ∀ x, k.cores[c]? = some x → x.tookDone = false) :
    ∀ y ∈ (k.setPhase c p).cores, CoreOK y := by
  intro y hy
  rcases mem_modify hy with h | ⟨z, hz, rfl⟩
  · exact hc y h
  · have hz' := hc z (List.mem_of_getElem? hz)
    have hn : tookDone z.phase = false := hpre z hz
    simp only [CoreOK, Core.tookDone, hn, hp] at hz' ⊢
    exact hz'

theorem inv_setPhase_pre (k : K) (c : Nat) (x : Core) (p : CPhase) (h : k.cores[c]? = some x)
    (hx : preBlock x.phase = true) (hp : tookDone p = false) (hb : isInBlock p = false) (hi : k.Inv) : (k.setPhase c p).Inv := by
  refine ⟨?_, coreOK_setPhase k c p hp hi.core (fun z hz => ?_), hi.jn.of_eq rfl rfl rfl rfl⟩
  · rw [cores_setPhase_pre k c x p h hx hp]; simpa [hb] using hi.cnt
  · rw [h] at hz; cases hz; exact (preBlock_phase hx).2.1

theorem K.inv_put (k : K) (x : Nat) (hi : k.Inv) : (k.put x).Inv := by
  obtain ⟨hv, hc, hj⟩ := hi
  obtain ⟨_, j2, j3⟩ := k.jok_iff.1 hj
  exact ⟨hv.flow 1 0 0 0 List.length_append rfl rfl rfl rfl rfl rfl rfl rfl, hc,
    (K.jok_iff _).2 ⟨by simp [K.put], fun j y hy => (j2 j y hy).mono Iff.rfl fun _ => Nat.succ_pos _, j3⟩⟩

theorem K.inv_spawn (k : K) (hi : k.Inv) : k.spawn.Inv := by
  obtain ⟨hv, hc, hj⟩ := hi
  refine ⟨?_, ?_, hj.of_eq rfl rfl rfl rfl⟩
  · simpa [K.view, K.spawn, V.ok, List.countP_append, Core.inBlock, Core.tookDone, isInBlock, tookDone] using hv
  · intro y hy
    simp only [K.spawn, List.mem_append, List.mem_singleton] at hy
    rcases hy with h | rfl
    · exact hc y h
    · simp [CoreOK, Core.tookDone, tookDone]

theorem K.inv_join (k : K) (hi : k.Inv) : k.join.Inv := by
  obtain ⟨a, b, c⟩ := k.jok_iff.1 hi.jn
  refine ⟨hi.cnt, hi.core, (K.jok_iff _).2 ⟨a, fun j y hy => ?_, fun j hj => ?_⟩⟩
  · rcases getElem?_append_one hy with h | ⟨rfl, rfl⟩
    · exact b j y h
    · exact ⟨(fun h => nomatch h), (fun h => nomatch h), fun _ => ⟨rfl, rfl, fun hm => Nat.lt_irrefl _ (c _ hm)⟩⟩
  · show j < (k.joiners ++ [_]).length
    rw [List.length_append]
    exact Nat.lt_add_right _ (c j hj)

theorem K.take_cases (k : K) (c : Nat) :
    (k.items = [] ∧ k.take c = k) ∨
    ∃ x rest, k.items = x :: rest ∧ k.take c = ({ k with items := rest } : K).setPhase c (.inBlock x) := by
  unfold K.take
  cases h : k.items with
  | nil => exact .inl ⟨rfl, rfl⟩
  | cons x rest => exact .inr ⟨x, rest, rfl, rfl⟩

theorem K.inv_take (k : K) (c : Nat) (x : Core) (h : k.cores[c]? = some x) (hx : preBlock x.phase = true) (hi : k.Inv) :
    (k.take c).Inv := by
  rcases K.take_cases k c with ⟨_, e⟩ | ⟨it, rest, hit, e⟩
  · rw [e]; exact hi
  · obtain ⟨hv, hc, hj⟩ := hi
    rw [e]
    refine ⟨?_, coreOK_setPhase _ c _ rfl hc (fun z hz => ?_), hj.of_eq rfl rfl rfl rfl⟩
    · rw [cores_setPhase_pre ({ k with items := rest } : K) c x (.inBlock it) h hx rfl]
      exact hv.flow 0 1 0 0 (congrArg List.length hit).symm rfl rfl rfl rfl rfl rfl rfl rfl
    · have hz' : k.cores[c]? = some z := hz
      rw [h] at hz'; cases hz'; exact (preBlock_phase hx).2.1

/-- `task_done()`, all branches at once -/
theorem K.taskDone_eq (k : K) : k.taskDone =
    { k with tdCalls := k.tdCalls + 1, unfinished := k.unfinished - 1,
             valueErrors := if k.unfinished = 0 then k.valueErrors + 1 else k.valueErrors,
             finished := if k.unfinished = 1 then true else k.finished,
             joiners := if k.unfinished = 1 then
                 k.joiners.mapIdx fun j x => if k.wakes j x then { x with fut := .woken, sched := true } else x
               else k.joiners } := by
  unfold K.taskDone K.taskDoneOk K.setFinished
  by_cases h0 : k.unfinished = 0
  · simp [h0]
  · by_cases h1 : k.unfinished = 1
    · simp [h1]; rfl
    · have : ¬ k.unfinished - 1 = 0 := by omega
      simp [h0, h1, this]

theorem K.joiner_taskDone (k : K) (j : Nat) :
    k.taskDone.unfinished = k.unfinished - 1 ∧ k.taskDone.joiners[j]? = k.joiners[j]?.map fun x =>
      if k.unfinished = 1 ∧ k.wakes j x = true then { x with fut := .woken, sched := true } else x := by
  rw [K.taskDone_eq]
  refine ⟨rfl, ?_⟩
  by_cases h1 : k.unfinished = 1
  · simp only [h1, if_true, List.getElem?_mapIdx, true_and]
  · simp only [h1, if_false, false_and, Option.map_id']

theorem K.JOK_taskDone (k : K) (hpos : 0 < k.unfinished) (hj : k.JOK) : k.taskDone.JOK := by
  obtain ⟨a, b, c⟩ := k.jok_iff.1 hj
  refine (K.jok_iff _).2 ⟨?_, fun j y hy => ?_, ?_⟩
  · rw [K.taskDone_eq]
    show ((if k.unfinished = 1 then true else k.finished) = true ↔ k.unfinished - 1 = 0)
    split
    · rename_i h1; simp [h1]
    · rw [a]; omega
  · rw [(k.joiner_taskDone j).2, Option.map_eq_some_iff] at hy
    obtain ⟨x, hx, rfl⟩ := hy
    obtain ⟨b1, b2, b3⟩ := b j x hx
    have hW : k.taskDone.evWaiters = k.evWaiters := by rw [K.taskDone_eq]
    rw [(k.joiner_taskDone j).1, hW]
    split
    · -- woken: it was registered, so it was not fresh
      rename_i hw
      simp only [K.wakes, Bool.and_eq_true, List.contains_iff_mem, beq_iff_eq] at hw
      exact ⟨(fun _ h => nomatch h), fun _ _ => ⟨rfl, rfl⟩, fun hp => absurd hw.2.1 (b3 hp).2.2⟩
    · -- left alone: a registered waiter with a pending future would have been woken had the counter reached zero
      rename_i hw
      refine ⟨fun hp hf => ⟨(b1 hp hf).1, (b1 hp hf).2.1, ?_⟩, b2, b3⟩
      have : k.unfinished ≠ 1 := fun h1 => hw ⟨h1, by simp [K.wakes, (b1 hp hf).1, hf]⟩
      omega
  · intro j hj'
    rw [K.taskDone_eq] at hj' ⊢
    show j < (if k.unfinished = 1 then _ else k.joiners).length
    split
    · rw [List.length_mapIdx]; exact c j hj'
    · exact c j hj'

theorem K.exit_eq (k : K) (c : Nat) (e : Exit) : k.exit c e =
    { k.taskDone with exits := k.exits + 1,
                      cores := k.cores.modify c fun y => { phase := .done e true, marks := y.marks + 1 } } := by
  simp only [K.exit, K.taskDone_eq, K.addMark, K.setPhase, List.modify_modify_eq]
  rfl

theorem K.Inv.pos_of_inBlock {k : K} (hi : k.Inv) (c : Nat) (x : Core) (h : k.cores[c]? = some x)
    (hx : isInBlock x.phase = true) : 0 < k.unfinished := by
  have : 0 < k.cores.countP Core.inBlock := List.countP_pos_iff.2 ⟨x, List.mem_of_getElem? h, hx⟩
  have a := hi.cnt.1
  simp only [K.view] at a
  omega

theorem K.inv_exit (k : K) (c : Nat) (x : Core) (e : Exit) (h : k.cores[c]? = some x) (hx : isInBlock x.phase = true)
    (hi : k.Inv) : (k.exit c e).Inv := by
  have hpos := hi.pos_of_inBlock c x h hx
  obtain ⟨hv, hc, hj⟩ := hi
  have hnt : x.tookDone = false := (inBlock_phase hx).2.1
  rw [K.exit_eq]
  refine ⟨?_, fun y hy => ?_, (K.JOK_taskDone k hpos hj).of_eq rfl rfl rfl rfl⟩
  · have h1 := countP_modify Core.inBlock (fun y => { phase := .done e true, marks := y.marks + 1 }) k.cores c x h
    have h2 := countP_modify Core.tookDone (fun y => { phase := .done e true, marks := y.marks + 1 }) k.cores c x h
    have hib : x.inBlock = true := hx
    have e1 : Core.inBlock { phase := .done e true, marks := x.marks + 1 } = false := rfl
    have e2 : Core.tookDone { phase := .done e true, marks := x.marks + 1 } = true := rfl
    simp only [hnt, hib, e1, e2, if_true, Bool.false_eq_true, if_false, Nat.add_zero] at h1 h2
    rw [K.taskDone_eq]
    exact hv.flow 0 0 1 0 rfl (Nat.sub_add_cancel hpos) h1 h2 rfl rfl rfl (if_neg (Nat.ne_of_gt hpos)) rfl
  · rcases mem_modify hy with h' | ⟨z, hz, rfl⟩
    · exact hc y h'
    · rw [h] at hz; cases hz
      have := hc x (List.mem_of_getElem? h)
      simp only [CoreOK, hnt, Bool.false_eq_true, if_false] at this
      simp [CoreOK, Core.tookDone, tookDone, this]

theorem K.handTake_cases (k : K) :
    (k.items = [] ∧ k.handTake = k) ∨
    ∃ x rest, k.items = x :: rest ∧ k.handTake = ({ k with items := rest, takes := k.takes + 1 } : K).taskDone := by
  unfold K.handTake
  cases h : k.items with
  | nil => exact .inl ⟨rfl, rfl⟩
  | cons x rest => exact .inr ⟨x, rest, rfl, rfl⟩

theorem K.handTake_cons (k : K) (x : Nat) (rest : List Nat) (h : k.items = x :: rest) :
    k.handTake = ({ k with items := rest, takes := k.takes + 1 } : K).taskDone := by
  unfold K.handTake; rw [h]

theorem K.cores_handTake (k : K) : k.handTake.cores = k.cores := by
  rcases K.handTake_cases k with ⟨_, e⟩ | ⟨x, rest, _, e⟩
  · rw [e]
  · rw [e, K.taskDone_eq]

theorem K.Inv.pos_of_items {k : K} (hi : k.Inv) (x : Nat) (rest : List Nat) (h : k.items = x :: rest) : 0 < k.unfinished := by
  have a := hi.cnt.1
  simp only [K.view, h, List.length_cons] at a
  omega

theorem K.inv_handTake (k : K) (hi : k.Inv) : k.handTake.Inv := by
  rcases K.handTake_cases k with ⟨_, e⟩ | ⟨x, rest, hit, e⟩
  · rw [e]; exact hi
  · have hpos := hi.pos_of_items x rest hit
    obtain ⟨hv, hc, hj⟩ := hi
    rw [e]
    refine ⟨?_, ?_, K.JOK_taskDone _ hpos (hj.of_eq rfl rfl rfl rfl)⟩
    · rw [K.taskDone_eq]
      exact hv.flow 0 0 0 1 (congrArg List.length hit).symm (Nat.sub_add_cancel hpos) rfl rfl rfl rfl rfl
        (if_neg (Nat.ne_of_gt hpos)) rfl
    · rw [K.taskDone_eq]; exact hc

/-- joiner `j` changes and the waiter list changes at most at `j`: the discipline has to be checked for `j` only -/
theorem K.JOK.modJ {k : K} (hj : k.JOK) (j : Nat) (f : Joiner → Joiner) (W : List Nat)
    (hW : ∀ i, i ≠ j → (i ∈ W ↔ i ∈ k.evWaiters)) (hb : j ∈ W → j < k.joiners.length)
    (hf : ∀ x, k.joiners[j]? = some x → JOKAt W k.unfinished j (f x)) :
    (({ k with evWaiters := W } : K).modJ j f).JOK := by
  obtain ⟨a, b, c⟩ := k.jok_iff.1 hj
  refine (K.jok_iff _).2 ⟨a, fun i y hy => ?_, fun i hi => ?_⟩
  · rcases getElem?_modify_split hy with ⟨rfl, x, hx, rfl⟩ | ⟨hne, h⟩
    · exact hf x hx
    · exact (b i y h).mono (hW i hne) id
  · show i < (k.joiners.modify j f).length
    rw [List.length_modify]
    by_cases hij : i = j
    · subst hij; exact hb hi
    · exact c i ((hW i hij).1 hi)

theorem K.stepJoiner_eq (k : K) (j : Nat) : ∃ (W : List Nat) (f : Joiner → Joiner),
    k.stepJoiner j = { k with evWaiters := W, joiners := k.joiners.modify j f }
    ∧ ∀ x, k.joiners[j]? = some x → (f x).sched = false ∧ (x.sched = false → f x = x) := by
  have hid : k = { k with evWaiters := k.evWaiters, joiners := k.joiners.modify j id } := by rw [List.modify_id]
  unfold K.stepJoiner
  split
  · rename_i hn
    exact ⟨_, id, hid, fun x hx => by rw [hn] at hx; cases hx⟩
  · rename_i x hx
    split
    · rename_i hs
      refine ⟨_, id, hid, fun y hy => ?_⟩
      rw [hx] at hy; cases hy
      exact ⟨by simpa using hs, fun _ => rfl⟩
    · rename_i hs
      have hs' : ∀ y, k.joiners[j]? = some y → y.sched = false → False := fun y hy h => by
        rw [hx] at hy; cases hy; rw [h] at hs; exact hs rfl
      unfold K.joinStart K.joinWake K.modJ
      split
      · split
        · exact ⟨_, _, rfl, fun y hy => ⟨rfl, fun h => (hs' y hy h).elim⟩⟩
        · exact ⟨_, _, rfl, fun y hy => ⟨rfl, fun h => (hs' y hy h).elim⟩⟩
      · exact ⟨_, _, rfl, fun y hy => ⟨rfl, fun h => (hs' y hy h).elim⟩⟩
      · exact ⟨_, _, rfl, fun y hy => ⟨rfl, fun h => (hs' y hy h).elim⟩⟩

theorem K.view_stepJoiner (k : K) (j : Nat) : (k.stepJoiner j).view = k.view ∧ (k.stepJoiner j).cores = k.cores := by
  obtain ⟨W, f, e, _⟩ := K.stepJoiner_eq k j
  rw [e]
  exact ⟨rfl, rfl⟩

theorem K.JOK_stepJoiner (k : K) (j : Nat) (hj : k.JOK) : (k.stepJoiner j).JOK := by
  unfold K.stepJoiner
  split
  · exact hj
  · rename_i x hx
    have hlt := (List.getElem?_eq_some_iff.1 hx).1
    split
    · exact hj
    split
    · rename_i hp
      unfold K.joinStart
      split
      · -- work is unfinished: a fresh joiner (future pending) registers with the event
        rename_i hc
        have hpos : 0 < k.unfinished := by
          simp only [Bool.and_eq_true, decide_eq_true_eq] at hc; exact hc.1
        refine hj.modJ j _ (k.evWaiters ++ [j]) (fun i hi => by simp [hi]) (fun _ => hlt) fun y hy => ?_
        rw [hx] at hy; cases hy
        exact ⟨fun _ _ => ⟨by simp, rfl, hpos⟩, fun _ h => absurd (hj.fresh j x hx hp).1 h, fun h => nomatch h⟩
      · exact hj.modJ j _ k.evWaiters (fun _ _ => Iff.rfl) (fun _ => hlt) fun _ _ => .done rfl
    · exact hj.modJ j _ (k.evWaiters.erase j) (fun i hi => List.mem_erase_of_ne hi) (fun _ => hlt) fun _ _ => .done rfl
    · rename_i hp
      refine hj.modJ j _ k.evWaiters (fun _ _ => Iff.rfl) (fun _ => hlt) fun y hy => ?_
      rw [hx] at hy; cases hy; exact .done hp

theorem K.inv_stepJoiner (k : K) (j : Nat) (hi : k.Inv) : (k.stepJoiner j).Inv := by
  obtain ⟨hv, hc, hj⟩ := hi
  have := K.view_stepJoiner k j
  exact ⟨this.1 ▸ hv, this.2 ▸ hc, K.JOK_stepJoiner k j hj⟩

theorem K.inv_pput (k : K) (j : Nat) (hi : k.Inv) : (k.pput j).Inv := by
  unfold K.pput
  split
  · exact hi
  · rename_i p _
    exact (K.inv_put k p.item hi).of_eq rfl rfl rfl rfl rfl rfl rfl rfl rfl rfl rfl

theorem KStep.inv {k k' : K} (h : KStep k k') (hi : k.Inv) : k'.Inv := by
  cases h with
  | refl => exact hi
  | put x _ => exact K.inv_put k x hi
  | spawn => exact K.inv_spawn k hi
  | join => exact K.inv_join k hi
  | wait c x h hx => exact inv_setPhase_pre k c x _ h hx rfl rfl hi
  | take c x h hx => exact K.inv_take k c x h hx hi
  | abort c x h hx => exact inv_setPhase_pre k c x _ h hx rfl rfl hi
  | exit c x e h hx => exact K.inv_exit k c x e h hx hi
  | stepJ j => exact K.inv_stepJoiner k j hi
  | handTake => exact K.inv_handTake k hi
  | produce x => exact hi.of_eq rfl rfl rfl rfl rfl rfl rfl rfl rfl rfl rfl
  | pwait j p _ _ _ => exact hi.of_eq rfl rfl rfl rfl rfl rfl rfl rfl rfl rfl rfl
  | pput j p _ _ _ => exact K.inv_pput k j hi
  | pabort j p _ _ => exact hi.of_eq rfl rfl rfl rfl rfl rfl rfl rfl rfl rfl rfl

end Taskpool.QueueM
