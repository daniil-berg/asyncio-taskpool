import Taskpool.Inv.GoodInv
/-! Counting: a duplicate-free list of ids of tasks with a property is no longer than the number of such tasks. -/
namespace Taskpool

theorem len_filter_range {α} (P : α → Bool) (ts : List α) :
    ((List.range ts.length).filter (fun i => (ts[i]?.map P).getD false)).length = ts.countP P := by
  induction ts with
  | nil => rfl
  | cons a as ih =>
    rw [List.length_cons, List.range_succ_eq_map, List.filter_cons, List.filter_map, List.countP_cons, ← ih]
    -- the filter over the shifted indices is the filter of `ih`: `(a :: as)[i + 1]?` computes to `as[i]?`
    cases h : P a with
    | false =>
      rw [if_neg (show ¬ ((Option.map P (a :: as)[0]?).getD false = true) from fun e => Bool.noConfusion (h.symm.trans e))]
      exact List.length_map _
    | true =>
      rw [if_pos (show (Option.map P (a :: as)[0]?).getD false = true from h)]
      exact congrArg (· + 1) (List.length_map _)

theorem nodup_ids_le_countP {α} (P : α → Bool) (ts : List α) (l : List Nat) (hnd : l.Nodup)
    (h : ∀ i ∈ l, ∃ x, ts[i]? = some x ∧ P x = true) : l.length ≤ ts.countP P := by
  rw [← len_filter_range]
  apply List.Nodup.length_le_of_subset hnd
  intro i hi
  obtain ⟨x, hx, hp⟩ := h i hi
  simp only [List.mem_filter, List.mem_range]
  exact ⟨(lt_of_getElem?_some hx), by simp [hx, hp]⟩

/-- the tasks filed as running or cancelled are distinct tasks that still hold their slot -/
theorem inflight_le_held (p : Pool) (hr : RegOK p) : p.running.length + p.cancelledR.length ≤ heldL p.tasks := by
  have hnd : (p.running ++ p.cancelledR).Nodup := (List.nodup_append.mp hr.nd).1
  have := nodup_ids_le_countP (fun t : PTask => !t.released) p.tasks (p.running ++ p.cancelledR) hnd (by
    intro i hi
    rcases List.mem_append.mp hi with h | h
    · obtain ⟨tk, a, b⟩ := hr.run i h; exact ⟨tk, a, by simp [b]⟩
    · obtain ⟨tk, a, b, _⟩ := hr.can i h; exact ⟨tk, a, by simp [b]⟩)
  simpa [heldL] using this

/-- when nothing was lost, the tasks filed as running or cancelled are *all* the tasks that still hold their slot (`RegOK.cpl`) -/
theorem held_le_inflight (p : Pool) (hr : RegOK p) (hl : p.lost = false) :
    heldL p.tasks ≤ p.running.length + p.cancelledR.length := by
  unfold heldL
  rw [← len_filter_range, ← List.length_append]
  apply List.Nodup.length_le_of_subset
  · exact (List.nodup_range).filter _
  · intro i hi
    simp only [List.mem_filter, List.mem_range] at hi
    cases hx : p.tasks[i]? with
    | none => simp [hx] at hi
    | some tk =>
      simp [hx] at hi
      exact List.mem_append.mpr (hr.cpl hl i tk hx hi.2)

end Taskpool
