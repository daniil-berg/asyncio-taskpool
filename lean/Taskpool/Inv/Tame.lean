import Taskpool.Inv.Basics
import Taskpool.Inv.Grown
import Taskpool.Inv.Waiters
/-! The clauses of the invariant `Good` (DESIGN §4.3), the step relation `Mono` (§4.4) and the frame relations `Tame0` /
`Tame` ("tame" = moves no slot and puts no task back into a slot-holding phase) with their algebra and leaves. -/
namespace Taskpool

def heldL (ts : List PTask) : Nat := ts.countP (fun t => !t.released)
def grantsL (ws : List Waiter) : Nat := ws.countP (fun w => w.st = .granted)

/-- "not yet released": the phases in which the pool slot must still be held -/
def NYR (ph : Phase) : Bool := ph == .created || ph == .inWorker || ph == .inCancelCb

def SlotOK (cap : Cap) (p : Pool) : Prop :=
  match cap with
  | .fin n => ∃ v, p.sem.value = .fin v ∧ v + heldL p.tasks + grantsL p.sem.waiters = n
  | .inf => p.sem.value = .inf ∧ p.sem.waiters = []

/-- the part of a task record the invariants read (DESIGN calls it the soft profile); the rest — scheduling flags, the
awaited future, `must_cancel`, pending exception, gather slots — may change freely -/
structure SoftP where
  phase : Phase
  released : Bool
  nCC : Nat
  nEC : Nat
  wasCancelled : Bool
  endCb : CbSpec
  cancelCb : CbSpec
  nSaw : Nat
  req : Nat
  isMap : Bool
  mapHeld : Bool
  hasOut : Bool                        -- the asyncio Task has completed (it has a result, an exception or was cancelled)
deriving DecidableEq

def _root_.Taskpool.PTask.soft (k : PTask) : SoftP :=
  ⟨k.phase, k.released, k.nCC, k.nEC, k.wasCancelled, k.endCb, k.cancelCb, k.nSaw, k.req, k.isMap, k.mapHeld, k.outcome.isSome⟩

/-- the life cycle of one task, as far as callbacks are concerned (`lost` = the pool's ghost bit, DESIGN §4.3).
Clause names: `e…` the end callback (`nEC` runs of it), `c…` the cancel callback (`nCC`), `s…` the cancellation seen by the
worker (`nSaw`); `…1` at most once, `…0` not before (`e0`: release; `c0`, `s0`: the worker has ended), `cw` only if
cancelled, `cc` / `ec` inside the callback's phase, `ord` the cancel callback first, `cn` / `en` none configured — none
run, `fin` the exact counts once the wrapper has returned -/
structure OKs (lost : Bool) (s : SoftP) : Prop where
  e0 : s.released = false → s.nEC = 0
  e1 : s.nEC ≤ 1
  c1 : s.nCC ≤ 1
  c0 : (s.phase = .created ∨ s.phase = .inWorker) → s.nCC = 0 ∧ s.wasCancelled = false
  cw : s.nCC = 1 → s.wasCancelled = true
  cc : s.phase = .inCancelCb → s.nCC = 1 ∧ s.cancelCb = .coro
  ec : s.phase = .inEndCb → s.nEC = 1 ∧ s.endCb = .coro ∧ s.released = true
  ord : s.nEC = 1 → s.wasCancelled = true → s.cancelCb ≠ .none → s.nCC = 1
  cn : s.cancelCb = .none → s.nCC = 0
  en : s.endCb = .none → s.nEC = 0
  fin : s.phase = .finished → lost = false →
          s.released = true ∧ s.nEC = (if s.endCb = .none then 0 else 1) ∧
          (s.wasCancelled = true → s.nCC = (if s.cancelCb = .none then 0 else 1)) ∧
          (s.wasCancelled = false → s.nCC = 0)
  s1 : s.nSaw ≤ 1
  s0 : (s.phase = .created ∨ s.phase = .inWorker) → s.nSaw = 0
  /-- a map task keeps its map slot at least as long as its pool slot -/
  mh : s.isMap = true → s.released = false → s.mapHeld = true
  /-- an asyncio Task that has completed belongs to a pool task whose wrapper has returned -/
  out : s.hasOut = true → s.phase = .finished

def LifeOK (p : Pool) : Prop := ∀ (t : Nat) (tk : PTask), p.tasks[t]? = some tk → OKs p.lost tk.soft

def PhaseOK (p : Pool) : Prop :=
  ∀ (t : Nat) (tk : PTask), p.tasks[t]? = some tk → NYR tk.phase = true → tk.released = false

def flat (gs : List (String × List Nat)) : List Nat := (gs.map (·.2)).flatten

@[simp] theorem flat_nil : flat [] = [] := rfl
@[simp] theorem flat_cons (x : String × List Nat) (gs) : flat (x :: gs) = x.2 ++ flat gs := rfl
@[simp] theorem flat_append (a b : List (String × List Nat)) : flat (a ++ b) = flat a ++ flat b := by
  simp [flat]

theorem flat_sublist {gs' gs : List (String × List Nat)} (h : gs'.Sublist gs) : (flat gs').Sublist (flat gs) := by
  induction h with
  | slnil => exact List.Sublist.refl _
  | cons x _ ih => exact ih.trans (List.sublist_append_right _ _)
  | cons_cons x _ ih => exact List.Sublist.append (List.Sublist.refl _) ih

/-- groups partition (some of) the tasks: no id is filed under two groups or twice, and every filed id is the id of
an existing task -/
structure GroupsOK (p : Pool) : Prop where
  nd : (flat p.groups).Nodup
  lt : ∀ i ∈ flat p.groups, i < p.tasks.length

/-- the three registries are sound (and, as long as nothing was `lost`, complete) with respect to the tasks -/
structure RegOK (p : Pool) : Prop where
  nd : (p.running ++ p.cancelledR ++ p.ended).Nodup
  run : ∀ t ∈ p.running, ∃ tk : PTask, p.tasks[t]? = some tk ∧ tk.released = false
  can : ∀ t ∈ p.cancelledR, ∃ tk : PTask, p.tasks[t]? = some tk ∧ tk.released = false ∧
          tk.phase ≠ .created ∧ tk.phase ≠ .inWorker
  fin : ∀ t ∈ p.ended, ∃ tk : PTask, p.tasks[t]? = some tk ∧ tk.released = true
  cpl : p.lost = false → ∀ (t : Nat) (tk : PTask), p.tasks[t]? = some tk → tk.released = false →
          t ∈ p.running ∨ t ∈ p.cancelledR

/-- tasks of request `m` that hold a slot of its `num_concurrent` semaphore -/
def heldM (ts : List PTask) (m : Nat) : Nat := ts.countP (fun t => t.mapHeld && t.req == m)

/-- a map spawner suspended in `_start_task` (waiting for room in the pool) carries one map slot of its own -/
def _root_.Taskpool.Req.pend (r : Req) : Nat :=
  if (r.kind == .map && r.acquired && r.frame == .waitRoom) = true then 1 else 0

def _root_.Taskpool.Req.AcqOK (r : Req) : Prop := r.kind = .map → r.frame = .waitRoom → r.acquired = true

/-- no lost wake-up on one semaphore: if it has free slots and none is on its way to a woken waiter, nobody is waiting -/
def _root_.Taskpool.Sem.WakeInv (s : Sem) : Prop :=
  ∀ v, s.value = .fin v → 0 < v → grantsL s.waiters = 0 → ∀ w ∈ s.waiters, w.st ≠ .pending

/-- the progress counters of a request -/
structure Cnt where
  kind : ReqKind
  n0 : Nat
  created : Nat
  skipped : Nat
  remaining : Nat
  pulled : Nat
  left : Nat
deriving DecidableEq

def _root_.Taskpool.Req.cnt (r : Req) : Cnt := ⟨r.kind, r.n0, r.created, r.skipped, r.remaining, r.pulled, r.items.length⟩

/-- `r'` is `r` up to changes that move no map slot (a carried slot may only be dropped from the books), keep every
progress counter, and leave the spawner's frame alone or move it to `done` -/
structure MSigLe (r' r : Req) : Prop where
  value : r'.mapSem.value = r.mapSem.value
  grants : grantsL r'.mapSem.waiters = grantsL r.mapSem.waiters
  nc : r'.nc = r.nc
  pend : r'.pend ≤ r.pend
  acq : r.AcqOK → r'.AcqOK
  cnt : r'.cnt = r.cnt
  fr : r'.frame = r.frame ∨ r'.frame = .done
  out : r'.outcome = none → r.outcome = none
  wk : r.mapSem.WakeInv → r'.mapSem.WakeInv
  /-- the ghost snapshot of a spawner that is running its own handle is left alone -/
  sr : (r.frame = .running ∨ r.frame = .done) → r'.cancelSnap = r.cancelSnap
  pge : r'.outcome = none → r.pend ≤ r'.pend

/-- a request whose own books are balanced without any task (a newly registered one) -/
def Cnt.fresh (c : Cnt) : Prop :=
  c.created = 0 ∧ c.skipped = 0 ∧ c.pulled = 0 ∧ c.remaining + c.left = c.n0 ∧
  (c.kind = .apply → c.left = 0) ∧ (c.kind = .map → c.remaining = 0)

def FreshReq (r : Req) : Prop :=
  (∃ v, r.mapSem.value = .fin v ∧ v + grantsL r.mapSem.waiters + r.pend ≤ r.nc ∧
    ((r.outcome = none → r.nc ≤ v + grantsL r.mapSem.waiters + r.pend) ∧ r.mapSem.WakeInv)) ∧ r.AcqOK ∧ r.cnt.fresh ∧
  (r.frame = .notStarted ∨ r.frame = .done ∨ r.frame = .running)

theorem MSigLe.books {r' r : Req} (b : MSigLe r' r) {v k : Nat}
    (h : v + k + grantsL r.mapSem.waiters + r.pend ≤ r.nc ∧
      (r.outcome = none → r.nc ≤ v + k + grantsL r.mapSem.waiters + r.pend)) :
    v + k + grantsL r'.mapSem.waiters + r'.pend ≤ r'.nc ∧
      (r'.outcome = none → r'.nc ≤ v + k + grantsL r'.mapSem.waiters + r'.pend) := by
  rw [b.grants, b.nc]
  exact ⟨Nat.le_trans (Nat.add_le_add_left b.pend _) h.1,
    fun hnd => Nat.le_trans (h.2 (b.out hnd)) (Nat.add_le_add_left (b.pge hnd) _)⟩

theorem FreshReq.le {r' r : Req} (h : FreshReq r) (hle : MSigLe r' r) : FreshReq r' := by
  obtain ⟨⟨v, hv, hs, hs2, hw⟩, ha, hc1, hc2⟩ := h
  have hb := hle.books (k := 0) ⟨hs, hs2⟩
  exact ⟨⟨v, hle.value.trans hv, hb.1, hb.2, hle.wk hw⟩, hle.acq ha, by rw [hle.cnt]; exact hc1,
    hle.fr.elim (fun e => by rw [e]; exact hc2) (fun e => Or.inr (Or.inl e))⟩

theorem MSigLe.of_eq {r' r : Req} (hm : r'.mapSem = r.mapSem := by rfl) (hn : r'.nc = r.nc := by rfl)
    (ha : r'.acquired = r.acquired := by rfl) (hf : r'.frame = r.frame := by rfl) (hc : r'.cnt = r.cnt := by rfl)
    (ho : r'.outcome = r.outcome := by rfl) (hs : r'.cancelSnap = r.cancelSnap := by rfl) : MSigLe r' r := by
  have hk : r'.kind = r.kind := congrArg Cnt.kind hc
  have hp : r'.pend = r.pend := by unfold Req.pend; rw [hk, ha, hf]
  exact ⟨by rw [hm], by rw [hm], hn, Nat.le_of_eq hp, fun h k f => ha ▸ h (hk ▸ k) (hf ▸ f), hc, Or.inl hf, fun h => ho ▸ h,
    fun h => hm ▸ h, fun _ => hs, fun _ => Nat.le_of_eq hp.symm⟩

theorem MSigLe.refl (r : Req) : MSigLe r r := MSigLe.of_eq

theorem MSigLe.trans {a b c : Req} (h1 : MSigLe b a) (h2 : MSigLe c b) : MSigLe c a :=
  ⟨h2.value.trans h1.value, h2.grants.trans h1.grants, h2.nc.trans h1.nc, Nat.le_trans h2.pend h1.pend,
    fun h => h2.acq (h1.acq h), h2.cnt.trans h1.cnt, h2.fr.elim (fun e => h1.fr.imp e.trans e.trans) Or.inr,
    fun hnd => h1.out (h2.out hnd), fun h => h2.wk (h1.wk h),
    fun hr => (h2.sr (h1.fr.elim (fun e => e ▸ hr) Or.inr)).trans (h1.sr hr),
    fun hnd => Nat.le_trans (h1.pge (h2.out hnd)) (h2.pge hnd)⟩

/-- slot conservation of every call's own semaphore: `free + held by tasks + granted to the waiting spawner + carried =
num_concurrent` while the spawner has no outcome, `≤` afterwards (a spawner that dies with an exception while it carries a
slot takes the slot with it) -/
structure MapOK (p : Pool) : Prop where
  ref : ∀ (t : Nat) (tk : PTask), p.tasks[t]? = some tk → tk.mapHeld = true → tk.req < p.reqs.length
  le : ∀ (m : Nat) (r : Req), p.reqs[m]? = some r →
        ∃ v, r.mapSem.value = .fin v ∧ v + heldM p.tasks m + grantsL r.mapSem.waiters + r.pend ≤ r.nc ∧
          (r.outcome = none → r.nc ≤ v + heldM p.tasks m + grantsL r.mapSem.waiters + r.pend)
  wk : ∀ (m : Nat) (r : Req), p.reqs[m]? = some r → r.mapSem.WakeInv
  acq : ∀ (m : Nat) (r : Req), p.reqs[m]? = some r → r.AcqOK

def tasksOf (ts : List PTask) (m : Nat) : Nat := ts.countP (fun t => t.req == m)

/-- the books of one request (`k` = invocations of an apply/start request created but not yet taken off `remaining`):
apply/start: `created + skipped + remaining = requested`; map: `pulled + left = length of the iterable`, every pulled
element is a task, was skipped, or is the single element in hand — and whether one is in hand is determined by where
the spawner is suspended -/
def AccReq (c : Cnt) (fr : MFrame) (k : Int) : Prop :=
  (c.kind = .apply → ((c.created + c.skipped + c.remaining : Nat) : Int) = c.n0 + k ∧ (fr = .waitRoom → 1 ≤ c.remaining) ∧
    fr ≠ .waitMapSem) ∧
  (c.kind = .map → c.pulled + c.left = c.n0 ∧ c.created + c.skipped ≤ c.pulled ∧ c.pulled ≤ c.created + c.skipped + 1 ∧
    ((fr = .waitRoom ∨ fr = .waitMapSem) → c.pulled = c.created + c.skipped + 1) ∧
    (fr = .notStarted → c.pulled = c.created + c.skipped))

theorem AccReq.of_frame {c : Cnt} {fr fr' : MFrame} {k : Int} (h : AccReq c fr k) (h1 : fr' = .waitRoom → fr = .waitRoom)
    (h2 : fr' = .waitMapSem → fr = .waitMapSem) (h3 : fr' = .notStarted → fr = .notStarted) : AccReq c fr' k :=
  ⟨fun hk => ⟨(h.1 hk).1, fun x => (h.1 hk).2.1 (h1 x), fun x => (h.1 hk).2.2 (h2 x)⟩,
   fun hk => ⟨(h.2 hk).1, (h.2 hk).2.1, (h.2 hk).2.2.1, fun x => (h.2 hk).2.2.2.1 (x.imp h1 h2), fun x => (h.2 hk).2.2.2.2 (h3 x)⟩⟩

theorem AccReq.frame {c : Cnt} {fr fr' : MFrame} {k : Int} (h : AccReq c fr k)
    (hf : fr' = fr ∨ fr' = .done ∨ fr' = .running) : AccReq c fr' k := by
  rcases hf with rfl | rfl | rfl
  · exact h
  · exact h.of_frame nofun nofun nofun
  · exact h.of_frame nofun nofun nofun

theorem AccReq.fresh {c : Cnt} {fr : MFrame} (h : c.fresh) (hf : fr = .notStarted ∨ fr = .done ∨ fr = .running) :
    AccReq c fr 0 := by
  obtain ⟨a, b, c1, d, e, f⟩ := h
  have n1 : fr ≠ .waitRoom := fun x => by subst x; simp only [reduceCtorEq, or_self] at hf
  have n2 : fr ≠ .waitMapSem := fun x => by subst x; simp only [reduceCtorEq, or_self] at hf
  exact ⟨fun hk => ⟨by rw [a, b, Nat.zero_add, Int.add_zero, ← d, e hk, Nat.add_zero], fun x => absurd x n1, n2⟩,
    fun hk => ⟨by rw [c1, Nat.zero_add, ← d, f hk, Nat.zero_add], Nat.le_of_eq (by rw [a, b, c1]),
      by rw [a, b, c1]; exact Nat.zero_le _, fun x => (x.elim n1 n2).elim, fun _ => by rw [a, b, c1]⟩⟩

/-- every task belongs to an existing request, a request has created exactly the tasks that name it, and its books
balance -/
structure AccOK (p : Pool) : Prop where
  ref : ∀ (t : Nat) (tk : PTask), p.tasks[t]? = some tk → tk.req < p.reqs.length
  tk : ∀ (m : Nat) (r : Req), p.reqs[m]? = some r → tasksOf p.tasks m = r.created
  rq : ∀ (m : Nat) (r : Req), p.reqs[m]? = some r → AccReq r.cnt r.frame 0

def _root_.Taskpool.ApiKind.isGac : ApiKind → Bool
  | .gac _ => true
  | _ => false

def TaskFin (p : Pool) (t : Nat) : Prop := ∃ tk : PTask, p.tasks[t]? = some tk ∧ tk.phase = .finished

/-- a gather that has completed normally has seen all its child tasks finish, and a `flush` suspended in its second
gather awaits (at least) every task of its cancelled-registry snapshot -/
structure FlushOK (p : Pool) : Prop where
  gth : ∀ (g : Nat) (G : Gather), p.gathers[g]? = some G → G.outer = some .ok →
          ∀ t, Child.task t ∈ G.children → TaskFin p t
  api : ∀ (a : Nat) (A : Api) (g : Nat), p.apis[a]? = some A → A.frame = .gather2 g → A.kind.isGac = false →
          ∃ G : Gather, p.gathers[g]? = some G ∧ ∀ t ∈ A.snapC, Child.task t ∈ G.children

theorem FlushOK.frame {p q : Pool} (h : FlushOK p) (hg : q.gathers = p.gathers) (ha : q.apis = p.apis)
    (ht : ∀ t, TaskFin p t → TaskFin q t) : FlushOK q :=
  ⟨fun g G a b t c => by rw [hg] at a; exact ht t (h.gth g G a b t c),
   fun a A g x y z => by rw [ha] at x; rw [hg]; exact h.api a A g x y z⟩

theorem FlushOK.of_soft {p q : Pool} (h : FlushOK p) (hg : q.gathers = p.gathers) (ha : q.apis = p.apis)
    (hl : q.tasks.length = p.tasks.length)
    (hs : ∀ (t : Nat) (tk' : PTask), q.tasks[t]? = some tk' → ∃ tk : PTask, p.tasks[t]? = some tk ∧ tk'.soft = tk.soft) :
    FlushOK q :=
  h.frame hg ha fun t ⟨tk, a, b⟩ => by
    obtain ⟨tk', a', e⟩ := getElem?_fwd hl hs a
    exact ⟨tk', a', (congrArg SoftP.phase e).trans b⟩

/-- as long as `pool_size` was never assigned: if the semaphore has free slots and none is on its way to a woken
spawner, nobody is waiting for one -/
def WakeOK (p : Pool) : Prop :=
  p.resized = false → ∀ v, p.sem.value = .fin v → 0 < v → grantsL p.sem.waiters = 0 → ∀ w ∈ p.sem.waiters, w.st ≠ .pending

theorem WakeOK.of_eq {p q : Pool} (h : WakeOK p) (hs : q.sem = p.sem) (hr : q.resized = p.resized) : WakeOK q := by
  intro a v b c d
  rw [hs] at b d ⊢
  exact h (hr ▸ a) v b c d

/-- the first waiter entry of owner `m` (the future it is suspended on) has been cancelled -/
def ownCancelled (m : Nat) (ws : List Waiter) : Prop := (removeWaiterL m ws).1 = some .cancelled

theorem ownCancelled_ent {m : Nat} {ws : List Waiter} : ownCancelled m ws ↔ (ent ws m).head? = some .cancelled := by
  unfold ownCancelled
  rw [removeWaiterL_fst]

theorem cancelWaiterL_cons (m : Nat) (w : Waiter) (ws : List Waiter) :
    cancelWaiterL m (w :: ws) =
      (if w.owner = m ∧ w.st = .pending then { w with st := .cancelled } else w) :: cancelWaiterL m ws := rfl

theorem ownCancelled_cancel (m m' : Nat) (ws : List Waiter) (h : ownCancelled m' ws) : ownCancelled m' (cancelWaiterL m ws) := by
  rw [ownCancelled_ent] at h ⊢
  rw [ent_cancel]
  split
  · rename_i e
    rw [← e, List.head?_map, h]; rfl
  · exact h

theorem ownCancelled_of_pending (m : Nat) (ws : List Waiter) (h : (removeWaiterL m ws).1 = some .pending) :
    ownCancelled m (cancelWaiterL m ws) := by
  rw [removeWaiterL_fst] at h
  rw [ownCancelled_ent, ent_cancel, if_pos rfl, List.head?_map, h]; rfl

theorem wakeNextL_cons_pending (v : Cap) (w : Waiter) (ws : List Waiter) (h : w.st = .pending) :
    wakeNextL v (w :: ws) = (v.dec, { w with st := .granted } :: ws, some w.owner) := by
  rw [wakeNextL, if_pos h]

theorem wakeNextL_cons_skip (v : Cap) (w : Waiter) (ws : List Waiter) (h : w.st ≠ .pending) :
    wakeNextL v (w :: ws) = ((wakeNextL v ws).1, w :: (wakeNextL v ws).2.1, (wakeNextL v ws).2.2) := by
  rw [wakeNextL, if_neg h]

theorem ownCancelled_wake (m : Nat) (c : Cap) (ws : List Waiter) (h : ownCancelled m ws) :
    ownCancelled m (wakeNextL c ws).2.1 := by
  rw [ownCancelled_ent] at h ⊢
  rw [ent_wake]
  exact ite_keeps (P := fun l : List WaitSt => l.head? = some .cancelled) (head?_grantFirst h) h

theorem ownCancelled_append (m : Nat) (ws : List Waiter) (w : Waiter) (h : ownCancelled m ws) : ownCancelled m (ws ++ [w]) := by
  rw [ownCancelled_ent] at h ⊢
  rw [ent_append, List.head?_append, h]; rfl

theorem ownCancelled_remove (m m' : Nat) (ws : List Waiter) (hne : m ≠ m') (h : ownCancelled m' ws) :
    ownCancelled m' (removeWaiterL m ws).2 := by
  rw [ownCancelled_ent] at h ⊢
  rw [ent_remove, if_neg fun e => hne e.symm]
  exact h

/-- the cancellation of spawner `m` is pending in a way its next step cannot miss -/
def DoomedAt (p : Pool) (m : Nat) (r : Req) : Prop :=
  r.mustCancel = true ∨ (r.frame = .waitRoom ∧ ownCancelled m p.sem.waiters) ∨
  (r.frame = .waitMapSem ∧ ownCancelled m r.mapSem.waiters)

/-- a spawner that was cancelled while suspended (or before it began) has created no task and pulled no element since,
and is over or still doomed — the latter not demanded of the spawners in `E` (the one that is running right now) -/
def CancEx (E : Nat → Prop) (p : Pool) : Prop :=
  ∀ (m : Nat) (r : Req) (c u : Nat), p.reqs[m]? = some r → r.cancelSnap = some (c, u) →
    r.created = c ∧ r.pulled = u ∧ (E m ∨ r.frame = .done ∨ DoomedAt p m r)

def CancOK (p : Pool) : Prop := CancEx (fun _ => False) p

theorem CancOK.ex {p : Pool} (h : CancOK p) (E : Nat → Prop) : CancEx E p := fun m r c u a b => by
  obtain ⟨h1, h2, h3⟩ := h m r c u a b
  exact ⟨h1, h2, h3.elim False.elim Or.inr⟩

theorem CancEx.close {p : Pool} {m : Nat} (h : CancEx (· = m) p)
    (hm : ∀ r c u, p.reqs[m]? = some r → r.cancelSnap = some (c, u) → r.frame = .done ∨ DoomedAt p m r) : CancOK p :=
  fun i r c u a b => by
    obtain ⟨h1, h2, h3⟩ := h i r c u a b
    refine ⟨h1, h2, Or.inr ?_⟩
    rcases h3 with e | e
    · subst e; exact hm r c u a b
    · exact e

/-- `r'` is `r` up to changes that neither advance a cancelled spawner nor take back its pending cancellation -/
structure CSame (r' r : Req) : Prop where
  cs : r'.cancelSnap = r.cancelSnap
  cr : r'.created = r.created
  pu : r'.pulled = r.pulled
  fr : r'.frame = r.frame ∨ r'.frame = .done
  mc : r.mustCancel = true → r'.mustCancel = true ∨ r'.frame = .done
  mw : ∀ m, ownCancelled m r.mapSem.waiters → ownCancelled m r'.mapSem.waiters ∨ r'.frame = .done

theorem CSame.of_eq {r' r : Req} (h1 : r'.cancelSnap = r.cancelSnap := by rfl) (h2 : r'.created = r.created := by rfl)
    (h3 : r'.pulled = r.pulled := by rfl) (h4 : r'.frame = r.frame := by rfl) (h5 : r'.mustCancel = r.mustCancel := by rfl)
    (h6 : r'.mapSem = r.mapSem := by rfl) : CSame r' r :=
  ⟨h1, h2, h3, Or.inl h4, fun h => Or.inl (h5.trans h), fun _ h => Or.inl (h6 ▸ h)⟩

theorem CSame.refl (r : Req) : CSame r r := CSame.of_eq

theorem CSame.doomed {r' r : Req} {p q : Pool} {m : Nat} (b : CSame r' r)
    (hw : ownCancelled m p.sem.waiters → ownCancelled m q.sem.waiters)
    (h : r.frame = .done ∨ DoomedAt p m r) : r'.frame = .done ∨ DoomedAt q m r' := by
  rcases b.fr with e | e
  · rcases h with d | d | ⟨d1, d2⟩ | ⟨d1, d2⟩
    · exact Or.inl (e.trans d)
    · exact (b.mc d).elim (fun x => Or.inr (Or.inl x)) Or.inl
    · exact Or.inr (Or.inr (Or.inl ⟨e.trans d1, hw d2⟩))
    · exact (b.mw m d2).elim (fun x => Or.inr (Or.inr (Or.inr ⟨e.trans d1, x⟩))) Or.inl
  · exact Or.inl e

/-- an exempt request (the spawner that is running) may lose its doom: it need only keep what the snapshot is compared with -/
theorem CancEx.frameEx {E : Nat → Prop} {p q : Pool} (h : CancEx E p)
    (hr : ∀ (i : Nat) (r' : Req), q.reqs[i]? = some r' →
        (∃ r, p.reqs[i]? = some r ∧
          ((CSame r' r ∧ (ownCancelled i p.sem.waiters → ownCancelled i q.sem.waiters)) ∨
          (E i ∧ r'.cancelSnap = r.cancelSnap ∧ r'.created = r.created ∧ r'.pulled = r.pulled))) ∨
        r'.cancelSnap = none) : CancEx E q := by
  intro i r' c u hr' hs
  rcases hr i r' hr' with ⟨r, a, ⟨b, hw⟩ | ⟨he, e1, e2, e3⟩⟩ | e
  · obtain ⟨h1, h2, h3⟩ := h i r c u a (b.cs.symm.trans hs)
    exact ⟨b.cr.trans h1, b.pu.trans h2, h3.imp_right (b.doomed hw)⟩
  · obtain ⟨h1, h2, _⟩ := h i r c u a (e1.symm.trans hs)
    exact ⟨e2.trans h1, e3.trans h2, Or.inl he⟩
  · rw [e] at hs; cases hs

theorem CancEx.frame {E : Nat → Prop} {p q : Pool} (h : CancEx E p)
    (hw : ∀ m, ownCancelled m p.sem.waiters → ownCancelled m q.sem.waiters)
    (hr : ∀ (m : Nat) (r' : Req), q.reqs[m]? = some r' →
        (∃ r, p.reqs[m]? = some r ∧ CSame r' r) ∨ r'.cancelSnap = none) : CancEx E q :=
  h.frameEx fun m r' a => (hr m r' a).imp_left fun ⟨r, a', b⟩ => ⟨r, a', .inl ⟨b, hw m⟩⟩

theorem CancEx.of_eq {E : Nat → Prop} {p q : Pool} (h : CancEx E p) (hr : q.reqs = p.reqs) (hs : q.sem.waiters = p.sem.waiters) :
    CancEx E q :=
  h.frame (fun m x => by rw [hs]; exact x) (fun m r' a => by rw [hr] at a; exact Or.inl ⟨r', a, CSame.refl r'⟩)

theorem CancOK.frame {p q : Pool} (h : CancOK p)
    (hw : ∀ m, ownCancelled m p.sem.waiters → ownCancelled m q.sem.waiters)
    (hr : ∀ (m : Nat) (r' : Req), q.reqs[m]? = some r' →
        (∃ r, p.reqs[m]? = some r ∧ CSame r' r) ∨ r'.cancelSnap = none) : CancOK q := CancEx.frame h hw hr

/-- the clauses that do not read the requests -/
structure Good0 (cap : Cap) (L R : Bool) (p : Pool) : Prop where
  slot : SlotOK cap p
  phase : PhaseOK p
  reg : RegOK p
  grp : GroupsOK p
  life : LifeOK p
  fl : FlushOK p
  wk : WakeOK p
  /-- the fixed-size variant (`R = true`): `pool_size` was never assigned -/
  rz : R = true → p.resized = false
  /-- the strict variant (`L = false`): no task has been lost; and, when assignments to `pool_size` are allowed
  (`R = false`), no `gather_and_close` call was ever made. (`L = false`, `R = true` is the variant for pools that nobody
  unlocks, `Inv/Seal.lean`: there `gather_and_close` is allowed, and the step that runs its closing stage gets what it
  needs from `SealOK.g2`.) -/
  ll : L = false → p.lost = false
  al : L = false → R = false → ∀ A ∈ p.apis, A.kind.isGac = false

structure Good (cap : Cap) (L R : Bool) (p : Pool) : Prop extends Good0 cap L R p where
  map : MapOK p
  acc : AccOK p
  canc : CancOK p

/-- `q` is a later state than `p` as far as the monotone facts go: tasks and requests are only ever appended, a finished
task stays finished, the progress counters of a request never decrease, a cancellation snapshot once taken is never
rewritten, a request that has an outcome keeps one, a closed pool stays closed -/
structure Mono (p q : Pool) : Prop where
  tl : p.tasks.length ≤ q.tasks.length
  fin : ∀ (t : Nat) (tk : PTask), p.tasks[t]? = some tk → tk.phase = .finished →
        ∃ tk', q.tasks[t]? = some tk' ∧ tk'.phase = .finished
  rl : p.reqs.length ≤ q.reqs.length
  rq : ∀ (m : Nat) (r : Req), p.reqs[m]? = some r → ∃ r', q.reqs[m]? = some r' ∧ r.created ≤ r'.created ∧
        r.pulled ≤ r'.pulled ∧ (∀ s, r.cancelSnap = some s → r'.cancelSnap = some s) ∧
        (r.outcome.isSome = true → r'.outcome.isSome = true)
  cl : p.closed = true → q.closed = true

theorem Mono.trans {p q r : Pool} (h1 : Mono p q) (h2 : Mono q r) : Mono p r := by
  refine ⟨Nat.le_trans h1.tl h2.tl, ?_, Nat.le_trans h1.rl h2.rl, ?_, fun h => h2.cl (h1.cl h)⟩
  · intro t tk a b
    obtain ⟨tk', a', b'⟩ := h1.fin t tk a b
    exact h2.fin t tk' a' b'
  · intro m x a
    obtain ⟨x', a', c1, c2, c3, c4⟩ := h1.rq m x a
    obtain ⟨x'', a'', d1, d2, d3, d4⟩ := h2.rq m x' a'
    exact ⟨x'', a'', Nat.le_trans c1 d1, Nat.le_trans c2 d2, fun s hs => d3 s (c3 s hs), fun h => d4 (c4 h)⟩

theorem Mono.of_parts (p q : Pool) (htl : p.tasks.length ≤ q.tasks.length)
    (hfin : ∀ (t : Nat) (tk : PTask), p.tasks[t]? = some tk → tk.phase = .finished →
        ∃ tk', q.tasks[t]? = some tk' ∧ tk'.phase = .finished)
    (hrl : p.reqs.length ≤ q.reqs.length)
    (hrq : ∀ (m : Nat) (r : Req), p.reqs[m]? = some r → ∃ r', q.reqs[m]? = some r' ∧ r'.created = r.created ∧
        r'.pulled = r.pulled ∧ (∀ s, r.cancelSnap = some s → r'.cancelSnap = some s) ∧
        (r.outcome.isSome = true → r'.outcome.isSome = true))
    (hcl : q.closed = p.closed) : Mono p q :=
  ⟨htl, hfin, hrl, fun m r a => by
      obtain ⟨r', b, c1, c2, c3, c4⟩ := hrq m r a
      exact ⟨r', b, by omega, by omega, c3, c4⟩, fun h => by rw [hcl]; exact h⟩

theorem Mono.of_eq (p q : Pool) (ht : q.tasks = p.tasks) (hr : q.reqs = p.reqs) (hc : q.closed = p.closed) : Mono p q :=
  Mono.of_parts p q (by rw [ht]; exact Nat.le_refl _) (fun t tk a b => ⟨tk, by rw [ht]; exact a, b⟩) (by rw [hr]; exact Nat.le_refl _)
    (fun m r a => ⟨r, by rw [hr]; exact a, rfl, rfl, fun _ h => h, fun h => h⟩) hc

theorem Mono.refl (p : Pool) : Mono p p := Mono.of_eq p p rfl rfl rfl

/-- `q` is `p` up to changes that neither move a slot nor put a task (back) into a slot-holding phase -/
structure Tame0 (p q : Pool) : Prop where
  val : q.sem.value = p.sem.value
  grants : grantsL q.sem.waiters = grantsL p.sem.waiters
  len : q.tasks.length = p.tasks.length
  run : q.running = p.running
  can : q.cancelledR = p.cancelledR
  fin : q.ended = p.ended
  lost : q.lost = p.lost
  wnil : p.sem.waiters = [] → q.sem.waiters = []
  gfl : (flat q.groups).Sublist (flat p.groups)
  soft : ∀ (t : Nat) (tk' : PTask), q.tasks[t]? = some tk' → ∃ tk : PTask, p.tasks[t]? = some tk ∧ tk'.soft = tk.soft
  apk : q.apis.map (·.kind) = p.apis.map (·.kind)
  fok : FlushOK p → FlushOK q
  wok : WakeOK p → WakeOK q
  rsz : q.resized = p.resized

/-- a `Tame0` change that moves no slot of a map semaphore either -/
structure Tame (p q : Pool) : Prop extends Tame0 p q where
  rql : p.reqs.length ≤ q.reqs.length
  rq : ∀ (m : Nat) (r' : Req), q.reqs[m]? = some r' →
        (∃ r : Req, p.reqs[m]? = some r ∧ MSigLe r' r) ∨ (p.reqs.length ≤ m ∧ FreshReq r')
  cok : ∀ E : Nat → Prop, CancEx E p → CancEx E q
  mono : Mono p q

theorem heldL_modify_at (ts : List PTask) (t : Nat) (f : PTask → PTask) (x : PTask) (hx : ts[t]? = some x)
    (h : (f x).released = x.released) : heldL (ts.modify t f) = heldL ts := by
  have := countP_modify (fun k : PTask => !k.released) f ts t x hx
  simp only [h] at this
  exact Nat.add_right_cancel this

theorem heldL_modify_same (ts : List PTask) (t : Nat) (f : PTask → PTask)
    (h : ∀ x, (f x).released = x.released) : heldL (ts.modify t f) = heldL ts := by
  cases hx : ts[t]? with
  | none => rw [List.modify_eq_self (List.getElem?_eq_none_iff.mp hx)]
  | some x => exact heldL_modify_at ts t f x hx (h x)

theorem heldL_modify_release (ts : List PTask) (t : Nat) (tk : PTask) (f : PTask → PTask)
    (ht : ts[t]? = some tk) (h0 : tk.released = false) (h : ∀ x, (f x).released = true) :
    heldL (ts.modify t f) + 1 = heldL ts := by
  have := countP_modify (fun k : PTask => !k.released) f ts t tk ht
  simp only [h, h0, Bool.not_true, Bool.not_false, if_true, Bool.false_eq_true, if_false] at this
  exact this

theorem countP_req_fresh {ts : List PTask} {n m : Nat} (g : PTask → Bool) (hge : n ≤ m)
    (href : ∀ (t : Nat) (tk : PTask), ts[t]? = some tk → g tk = true → tk.req < n) :
    ts.countP (fun t => g t && t.req == m) = 0 := by
  rw [List.countP_eq_zero]
  intro tk hmem hg
  obtain ⟨i, hi, rfl⟩ := List.getElem_of_mem hmem
  rw [Bool.and_eq_true, beq_iff_eq] at hg
  have := href i ts[i] (List.getElem?_eq_getElem hi) hg.1
  omega

theorem tame0_of_eq (p q : Pool) (hs : q.sem = p.sem) (ht : q.tasks = p.tasks)
    (he : q.running = p.running ∧ q.cancelledR = p.cancelledR ∧ q.ended = p.ended ∧ q.lost = p.lost ∧ q.apis = p.apis ∧
      q.gathers = p.gathers ∧ q.resized = p.resized := by exact ⟨rfl, rfl, rfl, rfl, rfl, rfl, rfl⟩)
    (h5 : (flat q.groups).Sublist (flat p.groups) := by exact List.Sublist.refl _) : Tame0 p q := by
  obtain ⟨h1, h2, h3, h4, h6, h8, h9⟩ := he
  have hsoft : ∀ (t : Nat) (tk' : PTask), q.tasks[t]? = some tk' → ∃ tk : PTask, p.tasks[t]? = some tk ∧ tk'.soft = tk.soft :=
    fun t tk' h => ⟨tk', ht ▸ h, rfl⟩
  exact ⟨by rw [hs], by rw [hs], by rw [ht], h1, h2, h3, h4, by rw [hs]; exact fun h => h, h5, hsoft, by rw [h6],
    fun h => h.of_soft h8 h6 (by rw [ht]) hsoft, fun h => h.of_eq hs h9, h9⟩

/-- with the tasks and the pool's semaphore untouched, a tame step is given by what it does to the requests: those on file
are rewritten along `MSigLe` and `CSame`, new ones are balanced and have no snapshot.  The default is "not at all";
`Grown.map`, `.modify`, `.append` give the three leaves that do. -/
theorem tame_of_eq (p q : Pool) (hs : q.sem = p.sem) (ht : q.tasks = p.tasks)
    (hr : Grown (fun r' r => MSigLe r' r ∧ CSame r' r) (fun r => FreshReq r ∧ r.cancelSnap = none) p.reqs q.reqs := by
      exact Grown.refl (fun x => ⟨.refl x, .refl x⟩) _)
    (he : q.running = p.running ∧ q.cancelledR = p.cancelledR ∧ q.ended = p.ended ∧ q.lost = p.lost ∧ q.apis = p.apis ∧
      q.gathers = p.gathers ∧ q.resized = p.resized := by exact ⟨rfl, rfl, rfl, rfl, rfl, rfl, rfl⟩)
    (h5 : (flat q.groups).Sublist (flat p.groups) := by exact List.Sublist.refl _)
    (h10 : q.closed = p.closed := by rfl) : Tame p q := by
  refine ⟨tame0_of_eq p q hs ht he h5, hr.len, (hr.imp And.left And.left).get,
    fun E hk => hk.frame (fun m x => by rw [hs]; exact x) fun m r' h => ((hr.imp And.right And.right).get m r' h).imp_right And.right,
    Mono.of_parts p q (by rw [ht]; exact Nat.le_refl _) (fun t tk a b => ⟨tk, by rw [ht]; exact a, b⟩) hr.len (fun m r a => ?_) h10⟩
  obtain ⟨r', a', b, c⟩ := hr.fwd a
  refine ⟨r', a', c.cr, c.pu, fun s hs' => c.cs.trans hs', fun ho => ?_⟩
  cases hfo : r'.outcome with
  | none => rw [b.out hfo] at ho; cases ho
  | some _ => rfl

theorem Tame0.refl (p : Pool) : Tame0 p p := tame0_of_eq p p rfl rfl

theorem Tame.refl (p : Pool) : Tame p p := tame_of_eq p p rfl rfl

theorem Tame0.trans {p q r : Pool} (h1 : Tame0 p q) (h2 : Tame0 q r) : Tame0 p r := by
  refine ⟨h2.val.trans h1.val, h2.grants.trans h1.grants, h2.len.trans h1.len, h2.run.trans h1.run,
    h2.can.trans h1.can, h2.fin.trans h1.fin, h2.lost.trans h1.lost, fun h => h2.wnil (h1.wnil h), h2.gfl.trans h1.gfl, ?_,
    h2.apk.trans h1.apk, fun h => h2.fok (h1.fok h), fun h => h2.wok (h1.wok h), h2.rsz.trans h1.rsz⟩
  intro t tk'' h
  obtain ⟨tk', hq, e2⟩ := h2.soft t tk'' h
  obtain ⟨tk, hp, e1⟩ := h1.soft t tk' hq
  exact ⟨tk, hp, e2.trans e1⟩

theorem Tame.reqs {p q : Pool} (h : Tame p q) : Grown MSigLe FreshReq p.reqs q.reqs := ⟨h.rql, h.rq⟩

theorem Tame.trans {p q r : Pool} (h1 : Tame p q) (h2 : Tame q r) : Tame p r :=
  have g := Grown.trans (fun a b => b.trans a) (fun k n => n.le k) h1.reqs h2.reqs
  ⟨h1.toTame0.trans h2.toTame0, g.len, g.get, fun E h => h2.cok E (h1.cok E h), h1.mono.trans h2.mono⟩

theorem Tame0.held {p q : Pool} (h : Tame0 p q) : heldL q.tasks = heldL p.tasks :=
  countP_pointwise _ _ _ h.len (fun t tk' ht => by
    obtain ⟨tk, a, b⟩ := h.soft t tk' ht
    exact ⟨tk, a, congrArg (fun s : SoftP => !s.released) b⟩)

theorem Tame0.slot {cap : Cap} {p q : Pool} (h : Tame0 p q) (hs : SlotOK cap p) : SlotOK cap q := by
  cases cap with
  | fin n =>
    obtain ⟨v, hv, hsum⟩ := hs
    exact ⟨v, by rw [h.val]; exact hv, by rw [h.held, h.grants]; exact hsum⟩
  | inf => exact ⟨h.val.trans hs.1, h.wnil hs.2⟩

theorem Tame0.phase {p q : Pool} (h : Tame0 p q) (hp : PhaseOK p) : PhaseOK q := by
  intro t tk' ht hn
  obtain ⟨tk, a, b⟩ := h.soft t tk' ht
  exact (congrArg SoftP.released b).trans (hp t tk a ((congrArg (fun s : SoftP => NYR s.phase) b).symm.trans hn))

/-- `RegOK` reads a task record through `released` and, where its id is filed as cancelled, through whether its phase is
past `inWorker`: with the registries and the ghost bit as they were, any rewrite of the records that keeps these keeps it -/
theorem RegOK.of_tasks {p q : Pool} (hr : RegOK p) (h1 : q.running = p.running) (h2 : q.cancelledR = p.cancelledR)
    (h3 : q.ended = p.ended) (h4 : q.lost = p.lost) (hl : q.tasks.length = p.tasks.length)
    (ht : ∀ (t : Nat) (tk' : PTask), q.tasks[t]? = some tk' → ∃ tk : PTask, p.tasks[t]? = some tk ∧
      tk'.released = tk.released ∧
      (t ∈ p.cancelledR → tk.phase ≠ .created ∧ tk.phase ≠ .inWorker → tk'.phase ≠ .created ∧ tk'.phase ≠ .inWorker)) :
    RegOK q := by
  refine ⟨by rw [h1, h2, h3]; exact hr.nd, fun t m => ?_, fun t m => ?_, fun t m => ?_, fun l t tk' a b => ?_⟩
  · obtain ⟨tk, a, b⟩ := hr.run t (h1 ▸ m)
    obtain ⟨tk', a', e, _⟩ := getElem?_fwd hl ht a
    exact ⟨tk', a', e.trans b⟩
  · obtain ⟨tk, a, b, c⟩ := hr.can t (h2 ▸ m)
    obtain ⟨tk', a', e, k⟩ := getElem?_fwd hl ht a
    exact ⟨tk', a', e.trans b, k (h2 ▸ m) c⟩
  · obtain ⟨tk, a, b⟩ := hr.fin t (h3 ▸ m)
    obtain ⟨tk', a', e, _⟩ := getElem?_fwd hl ht a
    exact ⟨tk', a', e.trans b⟩
  · obtain ⟨tk, a', e, _⟩ := ht t tk' a
    rw [h1, h2]
    exact hr.cpl (h4 ▸ l) t tk a' (e.symm.trans b)

theorem Tame0.reg {p q : Pool} (h : Tame0 p q) (hr : RegOK p) : RegOK q :=
  hr.of_tasks h.run h.can h.fin h.lost h.len fun t tk' a =>
    (h.soft t tk' a).imp fun tk ⟨a', e⟩ =>
      ⟨a', congrArg SoftP.released e, fun _ c => (show tk'.phase = tk.phase from congrArg SoftP.phase e) ▸ c⟩

theorem GroupsOK.of_eq {p q : Pool} (hr : GroupsOK p) (hg : q.groups = p.groups) (hl : q.tasks.length = p.tasks.length) :
    GroupsOK q :=
  ⟨by rw [hg]; exact hr.nd, fun i hi => by rw [hl]; rw [hg] at hi; exact hr.lt i hi⟩

theorem Tame0.grp {p q : Pool} (h : Tame0 p q) (hr : GroupsOK p) : GroupsOK q :=
  ⟨h.gfl.nodup hr.nd, fun i hi => by rw [h.len]; exact hr.lt i (h.gfl.subset hi)⟩

theorem LifeOK.of_eq {p q : Pool} (hl : LifeOK p) (ht : q.tasks = p.tasks) (h4 : q.lost = p.lost) : LifeOK q := by
  intro t tk h; rw [ht] at h; rw [h4]; exact hl t tk h

/-- once a task is lost, the clause about finished tasks is void; the other clauses do not read the ghost bit -/
theorem OKs.toLost {lost : Bool} {s : SoftP} (h : OKs lost s) : OKs true s :=
  { h with fin := fun _ hl => nomatch hl }

theorem LifeOK.lostMono {p q : Pool} (hl : LifeOK p) (ht : q.tasks = p.tasks) (hm : p.lost = true → q.lost = true) :
    LifeOK q := by
  intro t tk h
  rw [ht] at h
  have h1 := hl t tk h
  cases hq : q.lost with
  | true => exact h1.toLost
  | false =>
    cases hp : p.lost with
    | true => rw [hm hp] at hq; cases hq
    | false => rw [hp] at h1; exact h1

theorem oks_new (lost : Bool) (ph : Phase) (ecb ccb : CbSpec) (m : Nat) (isMap : Bool) (hph : ph = .created) :
    OKs lost ⟨ph, false, 0, 0, false, ecb, ccb, 0, m, isMap, isMap, false⟩ := by
  subst hph
  exact ⟨fun _ => rfl, Nat.zero_le _, Nat.zero_le _, fun _ => ⟨rfl, rfl⟩, nofun, nofun, nofun, nofun, fun _ => rfl, fun _ => rfl,
    nofun, Nat.zero_le _, fun _ => rfl, fun h _ => h, nofun⟩

theorem Tame0.life {p q : Pool} (h : Tame0 p q) (hl : LifeOK p) : LifeOK q := by
  intro t tk' ht
  obtain ⟨tk, a, b⟩ := h.soft t tk' ht
  rw [b, h.lost]; exact hl t tk a

/-- the clauses of `Good0` that the indices `L`, `R` switch on, as a bundle -/
structure Strict (L R : Bool) (p : Pool) : Prop where
  ll : L = false → p.lost = false
  al : L = false → R = false → ∀ A ∈ p.apis, A.kind.isGac = false
  rz : R = true → p.resized = false

theorem Good0.strict {cap : Cap} {L R : Bool} {p : Pool} (hg : Good0 cap L R p) : Strict L R p := ⟨hg.ll, hg.al, hg.rz⟩
theorem Good.strict {cap : Cap} {L R : Bool} {p : Pool} (hg : Good cap L R p) : Strict L R p := ⟨hg.ll, hg.al, hg.rz⟩

theorem Strict.of_eq {L R : Bool} {p q : Pool} (h : Strict L R p) (h1 : q.lost = p.lost) (h2 : q.apis = p.apis)
    (h3 : q.resized = p.resized := by rfl) : Strict L R q :=
  ⟨fun hl => by rw [h1]; exact h.ll hl, fun hl hr => by rw [h2]; exact h.al hl hr, fun hr => by rw [h3]; exact h.rz hr⟩

theorem Tame0.strict {L R : Bool} {p q : Pool} (h : Tame0 p q) (hs : Strict L R p) : Strict L R q :=
  ⟨fun hl => h.lost ▸ hs.ll hl,
    fun hl hr A hA => by
      have hk : A.kind ∈ q.apis.map (·.kind) := List.mem_map.mpr ⟨A, hA, rfl⟩
      rw [h.apk] at hk
      obtain ⟨B, hB, e⟩ := List.mem_map.mp hk
      rw [← e]; exact hs.al hl hr B hB,
    fun hr => h.rsz ▸ hs.rz hr⟩

theorem Tame0.good0 {cap : Cap} {L R : Bool} {p q : Pool} (h : Tame0 p q) (hg : Good0 cap L R p) : Good0 cap L R q :=
  have s := h.strict hg.strict
  ⟨h.slot hg.slot, h.phase hg.phase, h.reg hg.reg, h.grp hg.grp, h.life hg.life, h.fok hg.fl, h.wok hg.wk, s.rz, s.ll, s.al⟩

theorem Tame0.released {p q : Pool} (h : Tame0 p q) (t : Nat) (tk : PTask) (hp : p.tasks[t]? = some tk) :
    ∃ tk', q.tasks[t]? = some tk' ∧ tk'.released = tk.released := by
  obtain ⟨tk', a, e⟩ := getElem?_fwd h.len h.soft hp
  exact ⟨tk', a, congrArg SoftP.released e⟩

namespace Pool

@[simp] theorem modReq_sem (p : Pool) (m f) : (p.modReq m f).sem = p.sem := rfl
@[simp] theorem modReq_tasks (p : Pool) (m f) : (p.modReq m f).tasks = p.tasks := rfl
@[simp] theorem modApi_sem (p : Pool) (m f) : (p.modApi m f).sem = p.sem := rfl
@[simp] theorem modApi_tasks (p : Pool) (m f) : (p.modApi m f).tasks = p.tasks := rfl
@[simp] theorem modGather_sem (p : Pool) (m f) : (p.modGather m f).sem = p.sem := rfl
@[simp] theorem modGather_tasks (p : Pool) (m f) : (p.modGather m f).tasks = p.tasks := rfl
@[simp] theorem emitRef_sem (p : Pool) (r) : (p.emitRef r).sem = p.sem := rfl
@[simp] theorem emitRef_tasks (p : Pool) (r) : (p.emitRef r).tasks = p.tasks := rfl
@[simp] theorem logEv_sem (p : Pool) (r) : (p.logEv r).sem = p.sem := rfl
@[simp] theorem logEv_tasks (p : Pool) (r) : (p.logEv r).tasks = p.tasks := rfl
@[simp] theorem modTask_sem (p : Pool) (m f) : (p.modTask m f).sem = p.sem := rfl
@[simp] theorem modTask_tasks (p : Pool) (m f) : (p.modTask m f).tasks = p.tasks.modify m f := rfl
@[simp] theorem schedMeta_sem (p : Pool) (m) : (p.schedMeta m).sem = p.sem := rfl
@[simp] theorem schedMeta_tasks (p : Pool) (m) : (p.schedMeta m).tasks = p.tasks := rfl
@[simp] theorem schedOpt_sem (p : Pool) (o) : (p.schedOpt o).sem = p.sem := by cases o <;> rfl
@[simp] theorem schedOpt_tasks (p : Pool) (o) : (p.schedOpt o).tasks = p.tasks := by cases o <;> rfl

theorem tame_modTask (p : Pool) (t : Nat) (f : PTask → PTask)
    (hs : ∀ x, (f x).soft = x.soft := by intro x; rfl) : Tame p (p.modTask t f) := by
  have hlen : (p.modTask t f).tasks.length = p.tasks.length := List.length_modify f p.tasks t
  have hsoft : ∀ (i : Nat) (tk' : PTask), (p.modTask t f).tasks[i]? = some tk' →
      ∃ tk : PTask, p.tasks[i]? = some tk ∧ tk'.soft = tk.soft := by
    intro i tk' h
    rcases getElem?_modify_split h with ⟨rfl, x, hx, rfl⟩ | ⟨_, hx⟩
    · exact ⟨x, hx, hs x⟩
    · exact ⟨tk', hx, rfl⟩
  exact { Tame.refl p with
    len := hlen
    soft := hsoft
    fok := fun h => h.of_soft rfl rfl hlen hsoft
    mono := Mono.of_parts _ _ (Nat.le_of_eq hlen.symm) (fun i tk a b => by
      obtain ⟨tk', a', e⟩ := getElem?_fwd hlen hsoft a
      exact ⟨tk', a', (congrArg SoftP.phase e).trans b⟩) (Nat.le_refl _) (fun _ r a => ⟨r, a, rfl, rfl, fun _ h => h, fun h => h⟩) rfl }

theorem tame0_modReq (p : Pool) (m : Nat) (f : Req → Req) : Tame0 p (p.modReq m f) := tame0_of_eq _ _ rfl rfl

theorem _root_.Taskpool.Mono.modReq (p : Pool) (m : Nat) (f : Req → Req)
    (hcr : ∀ x, x.created ≤ (f x).created ∧ x.pulled ≤ (f x).pulled)
    (hsk : ∀ x s, x.cancelSnap = some s → (f x).cancelSnap = some s)
    (hout : ∀ x, x.outcome.isSome = true → (f x).outcome.isSome = true) : Mono p (p.modReq m f) := by
  refine ⟨Nat.le_refl _, fun _ tk a b => ⟨tk, a, b⟩, Nat.le_of_eq (List.length_modify f p.reqs m).symm, ?_, fun h => h⟩
  intro i r a
  refine ⟨if m = i then f r else r, getElem?_modify_of a m f, ?_⟩
  split
  · exact ⟨(hcr r).1, (hcr r).2, hsk r, hout r⟩
  · exact ⟨Nat.le_refl _, Nat.le_refl _, fun _ h => h, fun h => h⟩

theorem tame_modReq_of (p : Pool) (m : Nat) (f : Req → Req) (hf : ∀ x, MSigLe (f x) x)
    (hcok : ∀ E : Nat → Prop, CancEx E p → CancEx E (p.modReq m f))
    (hsk : ∀ x s, x.cancelSnap = some s → (f x).cancelSnap = some s) : Tame p (p.modReq m f) := by
  refine ⟨tame0_modReq p m f, Nat.le_of_eq (List.length_modify f p.reqs m).symm, ?_, hcok, Mono.modReq p m f
      (fun x => ⟨Nat.le_of_eq (congrArg Cnt.created (hf x).cnt).symm, Nat.le_of_eq (congrArg Cnt.pulled (hf x).cnt).symm⟩)
      hsk (fun x ho => by
        cases hfo : (f x).outcome with
        | none => rw [(hf x).out hfo] at ho; cases ho
        | some _ => rfl)⟩
  exact (Grown.modify MSigLe.refl m f hf).get

theorem tame_modReq (p : Pool) (m : Nat) (f : Req → Req)
    (hf : ∀ x, MSigLe (f x) x := by intro x; exact MSigLe.of_eq)
    (hc : ∀ x, CSame (f x) x := by intro x; exact CSame.of_eq) :
    Tame p (p.modReq m f) :=
  tame_of_eq _ _ rfl rfl (Grown.modify (fun x => ⟨.refl x, .refl x⟩) m f fun x => ⟨hf x, hc x⟩)

theorem _root_.Taskpool.FlushOK.modApi {p : Pool} (h : FlushOK p) (a : Nat) (f : Api → Api)
    (hk : ∀ x, (f x).kind = x.kind)
    (hf : ∀ x, p.apis[a]? = some x → ∀ g, (f x).frame = .gather2 g → x.frame = .gather2 g ∧ (f x).snapC = x.snapC) :
    FlushOK (p.modApi a f) := by
  refine ⟨h.gth, ?_⟩
  intro i A' g hi hfr hkind
  rcases getElem?_modify_split hi with ⟨rfl, x, hx, rfl⟩ | ⟨_, hx⟩
  · obtain ⟨h1, h2⟩ := hf x hx g hfr
    rw [h2]; exact h.api _ x g hx h1 (by rw [← hk]; exact hkind)
  · exact h.api i A' g hx hfr hkind

theorem tame_modApi_of (p : Pool) (m : Nat) (f : Api → Api) (hk : ∀ x, (f x).kind = x.kind)
    (hfok : FlushOK p → FlushOK (p.modApi m f)) : Tame p (p.modApi m f) := by
  refine { Tame.refl p with fok := hfok, mono := Mono.of_eq _ _ rfl rfl rfl, apk := ?_ }
  apply List.ext_getElem?
  intro i
  simp only [modApi, List.getElem?_map, List.getElem?_modify]
  cases p.apis[i]? with
  | none => rfl
  | some x =>
    split
    · exact congrArg some (hk x)
    · rfl

theorem tame_modApi (p : Pool) (m : Nat) (f : Api → Api) (hk : ∀ x, (f x).kind = x.kind := by intro x; rfl)
    (hf : ∀ x, p.apis[m]? = some x → ∀ g, (f x).frame = .gather2 g → x.frame = .gather2 g ∧ (f x).snapC = x.snapC := by
      intro x _ g h; exact ⟨h, rfl⟩) : Tame p (p.modApi m f) :=
  tame_modApi_of p m f hk (fun h => h.modApi m f hk hf)

theorem _root_.Taskpool.FlushOK.modGather {p : Pool} (h : FlushOK p) (g : Nat) (f : Gather → Gather)
    (hc : ∀ G, (f G).children = G.children)
    (ho : ∀ G, p.gathers[g]? = some G → (f G).outer = some .ok →
        G.outer = some .ok ∨ ∀ t, Child.task t ∈ G.children → TaskFin p t) :
    FlushOK (p.modGather g f) := by
  refine ⟨?_, ?_⟩
  · intro i G' hi hok t ht
    rcases getElem?_modify_split hi with ⟨rfl, G, hG, rfl⟩ | ⟨_, hG⟩
    · rw [hc] at ht
      exact (ho G hG hok).elim (fun h1 => h.gth _ G hG h1 t ht) (fun h1 => h1 t ht)
    · exact h.gth i G' hG hok t ht
  · intro a A g' ha hfr hkind
    obtain ⟨G, hG, hsub⟩ := h.api a A g' ha hfr hkind
    refine ⟨if g = g' then f G else G, ?_, ?_⟩
    · exact getElem?_modify_of hG g f
    · split
      · rw [hc]; exact hsub
      · exact hsub

theorem tame_modGather (p : Pool) (g : Nat) (f : Gather → Gather) (hc : ∀ G, (f G).children = G.children)
    (ho : ∀ G, p.gathers[g]? = some G → (f G).outer = some .ok →
        G.outer = some .ok ∨ ∀ t, Child.task t ∈ G.children → TaskFin p t) : Tame p (p.modGather g f) :=
  { Tame.refl p with fok := fun h => h.modGather g f hc ho, mono := Mono.of_eq _ _ rfl rfl rfl }

theorem tame_emitRef (p : Pool) (r) : Tame p (p.emitRef r) := tame_of_eq _ _ rfl rfl
theorem tame_logEv (p : Pool) (r) : Tame p (p.logEv r) := tame_of_eq _ _ rfl rfl

theorem tame_schedTask (p : Pool) (t) : Tame p (p.schedTask t) := (tame_modTask p t _).trans (tame_emitRef _ _)
theorem tame_schedMeta (p : Pool) (m) : Tame p (p.schedMeta m) := (tame_modReq p m _).trans (tame_emitRef _ _)
theorem tame_schedApi (p : Pool) (a) : Tame p (p.schedApi a) := (tame_modApi p a _).trans (tame_emitRef _ _)
theorem tame_schedOpt (p : Pool) (o) : Tame p (p.schedOpt o) := by
  cases o
  · exact Tame.refl p
  · exact tame_schedMeta p _

theorem tame_foldl {α} (l : List α) (f : Pool → α → Pool) (h : ∀ p a, Tame p (f p a)) (p : Pool) :
    Tame p (l.foldl f p) :=
  foldl_rel Tame.refl Tame.trans f l (fun q a _ => h q a) p

theorem tame_emitChildren (p : Pool) (cbs) : Tame p (p.emitChildren cbs) :=
  tame_foldl cbs _ (fun p _ => tame_emitRef p _) p

theorem tame_taskCancel (p : Pool) (t) : Tame p (p.taskCancel t) := by
  unfold taskCancel
  split
  · exact Tame.refl p
  · exact dite_keeps (fun _ => Tame.refl p) fun _ =>
      dite_keeps (fun _ => (tame_modTask p t _).trans (tame_schedTask _ _)) fun _ => tame_modTask p t _

theorem tame_cancelTask (p : Pool) (t) : Tame p (p.cancelTask t) := by
  unfold cancelTask
  split
  · exact Tame.refl p
  · exact dite_keeps (fun _ => tame_modTask p t _) fun _ => tame_taskCancel p t

theorem grantsL_cancelWaiterL (m : Nat) (ws : List Waiter) : grantsL (cancelWaiterL m ws) = grantsL ws := by
  induction ws with
  | nil => rfl
  | cons w ws ih =>
    rw [cancelWaiterL_cons]
    simp only [grantsL, List.countP_cons] at ih ⊢
    rw [ih]
    split
    · rename_i h
      simp only [h.2, reduceCtorEq, decide_false]
    · rfl

/-- `Future.cancel()` on a waiter's future grants nothing and leaves nobody pending who was not -/
theorem _root_.Taskpool.Sem.WakeInv.cancel {s : Sem} (h : s.WakeInv) (m : Nat) :
    ({ s with waiters := cancelWaiterL m s.waiters } : Sem).WakeInv := by
  intro v b c d w hw hp
  obtain ⟨w0, hw0, rfl⟩ := List.mem_map.mp hw
  split at hp
  · cases hp
  · exact h v b c ((grantsL_cancelWaiterL m s.waiters).symm.trans d) w0 hw0 hp

theorem tame_cancelPoolWaiter (p : Pool) (m : Nat) :
    Tame p ({ p with sem := { p.sem with waiters := cancelWaiterL m p.sem.waiters } } : Pool) :=
  { Tame.refl p with
    grants := grantsL_cancelWaiterL m _
    wnil := fun h => congrArg (cancelWaiterL m) h
    wok := fun h a => Sem.WakeInv.cancel (s := p.sem) (h a) m
    fok := fun h => h.frame rfl rfl (fun _ x => x)
    mono := Mono.of_eq _ _ rfl rfl rfl
    cok := fun _ h => h.frame (fun m' x => ownCancelled_cancel m m' _ x) (fun _ r' a => Or.inl ⟨r', a, CSame.refl r'⟩) }

theorem snapReq_cases (x : Req) :
    snapReq x = x ∨ ((x.frame ≠ .running ∧ x.frame ≠ .done) ∧ x.cancelSnap = none ∧
      snapReq x = { x with cancelSnap := some (x.created, x.pulled) }) := by
  unfold snapReq
  split
  · rename_i h
    right
    simp only [Bool.and_eq_true, Option.isNone_iff_eq_none, bne_iff_ne, ne_eq] at h
    exact ⟨⟨h.1.1, h.1.2⟩, h.2, rfl⟩
  · left; rfl

theorem snapReq_keeps (y : Req) (s : Nat × Nat) (h : y.cancelSnap = some s) : (snapReq y).cancelSnap = some s := by
  rcases snapReq_cases y with e | ⟨_, hn, _⟩
  · rw [e]; exact h
  · rw [hn] at h; cases h

theorem _root_.Taskpool.MSigLe.snap {y x : Req} (h : MSigLe y x) : MSigLe (snapReq y) x := by
  rcases snapReq_cases y with e | ⟨hy, _, e⟩ <;> rw [e]
  · exact h
  · -- the snapshot is taken only of a spawner that is neither running its own handle nor over
    refine { h with sr := fun hx => absurd ?_ hy.2 }
    rcases h.fr with e1 | e1
    · exact hx.elim (fun hx => absurd (e1.trans hx) hy.1) (fun hx => e1.trans hx)
    · exact e1

/-- `Task.cancel()` on spawner `m`, as far as its request goes: `g` is what the call does to the request before the
snapshot is taken (a first cancellation takes it), and it leaves the spawner doomed -/
theorem tame_cancelReq (p : Pool) (m : Nat) (g : Req → Req) (hf : ∀ x, MSigLe (g x) x)
    (hcs : ∀ x, (g x).cancelSnap = x.cancelSnap) (hd : ∀ r, p.reqs[m]? = some r → DoomedAt p m (g r)) :
    Tame p (p.modReq m fun x => snapReq (g x)) := by
  refine tame_modReq_of p m _ (fun x => (hf x).snap) ?_ (fun x s h => snapReq_keeps _ s ((hcs x).trans h))
  intro E hk i r' c u hr' hs
  rcases getElem?_modify_split hr' with ⟨rfl, x, hx, rfl⟩ | ⟨_, hx⟩
  · rcases snapReq_cases (g x) with e2 | ⟨_, _, e2⟩
    · rw [e2] at hs ⊢
      obtain ⟨h1, h2, _⟩ := hk _ x c u hx ((hcs x).symm.trans hs)
      exact ⟨(congrArg Cnt.created (hf x).cnt).trans h1, (congrArg Cnt.pulled (hf x).cnt).trans h2, Or.inr (Or.inr (hd x hx))⟩
    · rw [e2] at hs ⊢
      cases hs
      exact ⟨rfl, rfl, Or.inr (Or.inr (hd x hx))⟩
  · exact hk i r' c u hx hs

theorem getD_firstIsPending (m : Nat) (ws : List Waiter) (h : firstIsPending m ws = true) :
    (removeWaiterL m ws).1 = some .pending :=
  beq_iff_eq.mp h

theorem tame_metaCancel (p : Pool) (m) : Tame p (p.metaCancel m) := by
  unfold metaCancel
  split
  · exact Tame.refl p
  · rename_i r hr
    refine dite_keeps (fun _ => Tame.refl p) fun _ => dite_keeps (fun hc => ?_) fun _ => dite_keeps (fun hc => ?_) fun _ => ?_
    · -- suspended in `_start_task` on the pool's semaphore: its waiter future is cancelled
      simp only [Bool.and_eq_true, beq_iff_eq] at hc
      refine ((tame_cancelPoolWaiter p m).trans (tame_cancelReq _ m id MSigLe.refl (fun _ => rfl) ?_)).trans (tame_schedMeta _ _)
      intro x hx
      cases hr.symm.trans hx
      exact Or.inr (Or.inl ⟨hc.1, ownCancelled_of_pending m _ (getD_firstIsPending m _ hc.2)⟩)
    · -- suspended on the call's own semaphore
      simp only [Bool.and_eq_true, beq_iff_eq] at hc
      refine (tame_cancelReq p m (fun x => { x with mapSem := { x.mapSem with waiters := cancelWaiterL m x.mapSem.waiters } })
        (fun x => { MSigLe.refl x with grants := grantsL_cancelWaiterL m _, wk := fun h => h.cancel m }) (fun _ => rfl) ?_).trans
        (tame_schedMeta _ _)
      intro x hx
      cases hr.symm.trans hx
      exact Or.inr (Or.inr ⟨hc.1, ownCancelled_of_pending m _ (getD_firstIsPending m _ hc.2)⟩)
    · -- anywhere else: `must_cancel`
      exact tame_cancelReq p m (fun x => { x with mustCancel := true }) (fun _ => MSigLe.of_eq) (fun _ => rfl)
        (fun _ _ => Or.inl rfl)

end Pool
end Taskpool
