import Taskpool.Inv.Elim
import Taskpool.Inv.Basics
/-! What a step leaves behind, as equations.  Where a statement has to say what a function returns on the branch it takes
(the step-level theorems of `Props/`, a few leaves of the walks), an eliminator of `Inv/Elim.lean` does not help: here
are the equations, each under the conditions that select the branch.  With them: the composite writes as one-level
record updates (the paragraph above `schedApi_eq` says why), the loop rule of `cancel_all()`, and the case analysis of
`gatherVerdict` with its corollaries. -/
namespace Taskpool
namespace Pool

theorem popOrder_fst (p : Pool) : p.popOrder.1 = { p with orders := p.orders.tail } := by
  unfold popOrder
  split
  · rename_i h
    cases p
    cases h
    rfl
  · rename_i h
    rw [h]
    rfl

/-- a `_cancel_and_remove_all_from_group` that goes through is `_cancel_group_meta_tasks`, then `_cancel_task` on some ids -/
theorem cancelGroupBody_some {p q : Pool} {g : String} {ids order : List Nat} (e : p.cancelGroupBody g ids order = some q) :
    ∃ ts : List Nat, q = ts.foldl (fun x t => x.cancelTask t) (p.cancelGroupMetas g) := by
  unfold cancelGroupBody at e
  dsimp only at e
  split at e
  · cases e
  · cases e
    exact ⟨_, rfl⟩

/-- `cancel_all()`: the loop over the groups, for a predicate that may speak of the groups still to come -/
theorem cancelAllLoop_keeps {P : List (String × List Nat) → Pool → Prop} (order : List Nat)
    (hb : ∀ g ids gs q q', P ((g, ids) :: gs) q → q.cancelGroupBody g ids order = some q' → P gs q')
    (gs : List (String × List Nat)) (p q : Pool) (h : P gs p) (e : cancelAllLoop gs order p = some q) : P [] q := by
  induction gs generalizing p with
  | nil => cases e; exact h
  | cons x xs ih =>
    unfold cancelAllLoop at e
    split at e
    · cases e
    · rename_i p1 e1
      exact ih p1 (hb _ _ _ p _ h e1) e

theorem emitChildren_eq (p : Pool) (cbs : List (Nat × Nat)) :
    p.emitChildren cbs = { p with emit := p.emit ++ cbs.map fun gi => Ref.gchild gi.1 gi.2 } := by
  unfold emitChildren
  induction cbs generalizing p with
  | nil => simp only [List.foldl_nil, List.map_nil, List.append_nil]
  | cons x xs ih =>
    rw [List.foldl_cons, ih]
    simp only [emitRef, List.map_cons, List.append_assoc, List.singleton_append]

theorem emitChildren_frame (cbs : List (Nat × Nat)) (q : Pool) :
    (q.emitChildren cbs).reqs = q.reqs ∧ (q.emitChildren cbs).tasks = q.tasks := by
  rw [emitChildren_eq]
  exact ⟨rfl, rfl⟩

theorem releasePool_tasks (p : Pool) : p.releasePool.tasks = p.tasks := by
  unfold releasePool
  dsimp only
  cases (p.sem.release).2 <;> rfl

/-- the record of a spawner whose task is over -/
def _root_.Taskpool.Req.finished (r : Req) (o : Outcome) : Req :=
  { r with frame := .done, sched := false, mustCancel := false,
           outcome := (some (if o == .ok && r.mustCancel then Outcome.cancelled else o)) }

theorem finishMeta_req (p : Pool) (m : Nat) (o : Outcome) (r : Req) (h : p.reqs[m]? = some r) :
    (p.finishMeta m o).reqs[m]? = some (r.finished o) ∧ (p.finishMeta m o).tasks = p.tasks := by
  unfold finishMeta
  simp only [h]
  rw [emitChildren_eq]
  exact ⟨modify_get_self h _, rfl⟩

theorem finishMeta_get (p : Pool) (m o) (r : Req) (h : (p.finishMeta m o).reqs[m]? = some r) : ∃ x : Req, r = x.finished o := by
  cases hp : p.reqs[m]? with
  | none =>
    unfold finishMeta at h
    simp only [hp] at h
    cases h
  | some x => exact ⟨x, Option.some.inj (h.symm.trans (finishMeta_req p m o x hp).1)⟩

theorem finishMeta_frame (p : Pool) (m o) (r : Req) (h : (p.finishMeta m o).reqs[m]? = some r) : r.frame = .done := by
  obtain ⟨x, rfl⟩ := finishMeta_get p m o r h
  rfl

theorem finishMeta_outcome (p : Pool) (m o) (r : Req) (h : (p.finishMeta m o).reqs[m]? = some r) : r.outcome ≠ none := by
  obtain ⟨x, rfl⟩ := finishMeta_get p m o r h
  exact nofun

theorem modTask_schedTask (p : Pool) (t : Nat) (f : PTask → PTask) :
    (p.modTask t f).schedTask t = (p.modTask t (fun x => { f x with sched := true })).emitRef (.task t) := by
  simp only [schedTask, modTask, List.modify_modify_eq]; rfl

theorem modReq_schedMeta (p : Pool) (m : Nat) (f : Req → Req) :
    (p.modReq m f).schedMeta m = (p.modReq m (fun x => { f x with sched := true })).emitRef (.spawner m) := by
  simp only [schedMeta, modReq, List.modify_modify_eq]; rfl

/-! The composite writes, one level deep: the model functions that are an update of an update and whose fields the
proofs read off, each as ONE `{ p with … }`.  To read a field of `p.schedApi a` off by `rfl` makes the unifier compare
`p.modApi a _` with `p` first, two records of 22 fields, field by field, and each of those fields the same way one level
down: the cost grows like 22 ^ depth.  After `rw [schedApi_eq]` the field is one projection away.  (`cases p` in the
proofs below is for the same reason: the projections of a constructor reduce at once.) -/

theorem schedApi_eq (p : Pool) (a : Nat) : p.schedApi a =
    { p with apis := p.apis.modify a fun x => { x with sched := true }, emit := p.emit ++ [.api a] } := by cases p; rfl

theorem addApi_eq (p : Pool) (k : ApiKind) : p.addApi k =
    { p with apis := p.apis ++ [{ kind := k, frame := .notStarted, sched := true, outcome := none }],
             emit := p.emit ++ [.api p.apis.length] } := by cases p; rfl

theorem createTask_eq (p : Pool) (m : Nat) (isMap : Bool) : p.createTask m isMap =
    { p with tasks := p.tasks ++ [newTask m isMap
               (if isMap then ArgD.elem (p.reqs[m]?.getD default).stars ((p.reqs[m]?.getD default).pulled - 1) else ArgD.apply)
               (p.reqs[m]?.getD default).endCb (p.reqs[m]?.getD default).cancelCb],
             groups := addToGroup p.groups (p.reqs[m]?.getD default).group p.tasks.length,
             running := p.running ++ [p.tasks.length],
             reqs := p.reqs.modify m fun x => { x with created := x.created + 1 },
             emit := p.emit ++ [.task p.tasks.length] } := by cases p; rfl

/-- `Task.cancel()` on spawner `m` rewrites four fields of its record and at most cancels its pending entry in the pool's
queue -/
theorem metaCancel_eq (p : Pool) (m : Nat) : ∃ f : Req → Req,
    (p.metaCancel m).reqs = p.reqs.modify m f ∧
    (∀ x, ∃ mc ms sc cs, f x = { x with mustCancel := mc, mapSem := ms, sched := sc, cancelSnap := cs }) ∧
    (p.metaCancel m).apis = p.apis ∧ (p.metaCancel m).closed = p.closed ∧
    ((p.metaCancel m).sem.waiters = p.sem.waiters ∨ (p.metaCancel m).sem.waiters = cancelWaiterL m p.sem.waiters) := by
  refine metaCancel_elim (P := fun q => ∃ f : Req → Req, q.reqs = p.reqs.modify m f ∧
      (∀ x, ∃ mc ms sc cs, f x = { x with mustCancel := mc, mapSem := ms, sched := sc, cancelSnap := cs }) ∧
      q.apis = p.apis ∧ q.closed = p.closed ∧
      (q.sem.waiters = p.sem.waiters ∨ q.sem.waiters = cancelWaiterL m p.sem.waiters))
    p m (fun _ => ?_) (fun _ _ _ => ?_) (fun _ _ _ _ => ?_) (fun _ _ _ _ _ => ?_) (fun _ _ _ _ _ => ?_)
  · exact ⟨id, (List.modify_id _ _).symm, fun _ => ⟨_, _, _, _, rfl⟩, rfl, rfl, Or.inl rfl⟩
  · exact ⟨id, (List.modify_id _ _).symm, fun _ => ⟨_, _, _, _, rfl⟩, rfl, rfl, Or.inl rfl⟩
  · rw [modReq_schedMeta]
    exact ⟨_, rfl, fun x => by rw [snapReq_eq]; exact ⟨_, _, _, _, rfl⟩, rfl, rfl, Or.inr rfl⟩
  · rw [modReq_schedMeta]
    exact ⟨_, rfl, fun x => by rw [snapReq_eq]; exact ⟨_, _, _, _, rfl⟩, rfl, rfl, Or.inl rfl⟩
  · exact ⟨_, rfl, fun x => by rw [snapReq_eq]; exact ⟨_, _, _, _, rfl⟩, rfl, rfl, Or.inl rfl⟩

theorem stepMeta_eq (p : Pool) (m : Nat) (r : Req) (h : p.reqs[m]? = some r) (hs : r.sched = true) :
    p.stepMeta m = match r.frame with
      | .done => p.modReq m fun x => { x with sched := false }
      | .running => p.modReq m fun x => { x with sched := false }
      | .notStarted => (p.modReq m fun x => { x with sched := false }).stepMetaNotStarted m r
      | .waitRoom => (p.modReq m fun x => { x with sched := false }).wakeWaitRoom m r
      | .waitMapSem => (p.modReq m fun x => { x with sched := false }).wakeWaitMapSem m r := by
  unfold stepMeta
  rw [h]
  dsimp only
  rw [if_neg (by rw [hs]; exact Bool.false_ne_true)]
  cases r.frame <;> rfl

/-- the record of a task after it has suspended on a fresh future: a pending `must_cancel` cancels that future at once
and queues the wake-up -/
theorem suspendTask_at (q : Pool) (t : Nat) (ph : Phase) (k : PTask) (hk : q.tasks[t]? = some k) :
    ∃ k', (q.suspendTask t ph).tasks[t]? = some k' ∧ k'.phase = ph ∧ k'.mustCancel = false ∧
      k'.outcome = k.outcome ∧ k'.released = k.released ∧ k'.awaitsLeft = k.awaitsLeft ∧ k'.sawCancel = k.sawCancel ∧
      (if k.mustCancel then k'.fut = .cancelled ∧ k'.sched = true ∧ (q.suspendTask t ph).emit = q.emit ++ [.task t]
       else k'.fut = .pending ∧ k'.sched = k.sched ∧ (q.suspendTask t ph).emit = q.emit) := by
  unfold suspendTask
  rw [hk]
  dsimp only
  cases hm : k.mustCancel with
  | false =>
    simp only [Bool.false_eq_true, if_false]
    exact ⟨_, modify_get_self hk _, rfl, hm, rfl, rfl, rfl, rfl, rfl, rfl, rfl⟩
  | true =>
    simp only [if_true]
    exact ⟨_, modify_get_self (modify_get_self hk _) _, rfl, rfl, rfl, rfl, rfl, rfl, rfl, rfl, rfl⟩

theorem mapStartTask_true (p : Pool) (m : Nat) (h : (p.mapStartTask m).2 = true) :
    (p.mapStartTask m).1 = p.takeSlotAndCreate m true := by
  unfold mapStartTask at h ⊢
  split
  · rw [if_pos ‹_›] at h; cases h
  · split
    · rw [if_neg ‹_›, if_pos ‹_›] at h; cases h
    · rfl

theorem mapStartTask_false (p : Pool) (m : Nat) (h : (p.mapStartTask m).2 = false) :
    (p.mapStartTask m).1 = p.finishMeta m (.exc .poolIsClosed) ∨ (p.mapStartTask m).1 = p.waitRoom m := by
  unfold mapStartTask at h ⊢
  split
  · exact .inl rfl
  · split
    · exact .inr rfl
    · rw [if_neg ‹_›, if_neg ‹_›] at h; cases h

theorem doApply_eq (p : Pool) (num : Int) (group : Option String) (sp : SpawnSpec) :
    p.doApply num group sp = match p.checkStart sp.isCoro with
      | some e => (p, .err e)
      | none =>
        if (p.groupIds (group.getD (p.genName "apply"))).isSome then (p, .err .groupExists)
        else (p.register (newReq .apply 0 (group.getD (p.genName "apply")) sp num.toNat [] 0),
              .name (group.getD (p.genName "apply"))) := by
  cases group <;> rfl

theorem doMap_eq (p : Pool) (stars : Nat) (items : List Item) (nc : Int) (group : Option String) (sp : SpawnSpec) :
    p.doMap stars items nc group sp = match p.checkStart sp.isCoro with
      | some e => (p, .err e)
      | none =>
        if nc < 1 then (p, .err .valueError)
        else if (p.groupIds (group.getD (p.genName (mapPrefix stars)))).isSome then (p, .err .groupExists)
        else (p.register (newReq .map stars (group.getD (p.genName (mapPrefix stars))) sp 0 items nc.toNat),
              .name (group.getD (p.genName (mapPrefix stars)))) := by
  cases group <;> rfl

theorem doStart_eq (p : Pool) (num : Int) (sp : SpawnSpec) (hs : p.simple = some sp) (e : Err)
    (h : p.checkStart sp.isCoro = some e) : p.doStart num = (p, .err e) := by
  unfold doStart
  rw [hs]
  dsimp only
  rw [h]

theorem checkStart_open {p : Pool} {c : Bool} (h : p.checkStart c = none) : p.closed = false := by
  cases hc : p.closed with
  | false => rfl
  | true =>
    unfold Pool.checkStart at h
    rw [hc] at h
    cases c <;> cases h

theorem checkStart_unlocked {p : Pool} {c : Bool} (h : p.checkStart c = none) : p.locked = false := by
  cases hl : p.locked with
  | false => rfl
  | true =>
    unfold Pool.checkStart at h
    rw [hl] at h
    revert h
    cases c <;> cases p.closed <;> exact nofun

theorem checkStart_closed (p : Pool) (ho : p.closed = true) : p.checkStart true = some .poolIsClosed := by
  unfold checkStart
  rw [ho]
  rfl

theorem checkStart_locked (p : Pool) (ho : p.closed = false) (hl : p.locked = true) :
    p.checkStart true = some .poolIsLocked := by
  unfold checkStart
  rw [ho, hl]
  rfl

theorem waitRoom_req (p : Pool) (m : Nat) (r : Req) (h : p.reqs[m]? = some r) :
    (∃ s, (p.waitRoom m).reqs[m]? = some { r with frame := .waitRoom, mustCancel := false, sched := s }) ∧
      (p.waitRoom m).tasks = p.tasks := by
  have key := modify_get_self (l := p.reqs) h fun x => { x with frame := .waitRoom, mustCancel := false }
  rw [waitRoom, h, Option.getD_some]
  cases r.mustCancel
  · exact ⟨⟨r.sched, key⟩, rfl⟩
  · exact ⟨⟨true, modify_get_self key _⟩, rfl⟩

theorem takeSlotAndCreate_req (p : Pool) (m : Nat) (isMap : Bool) (r : Req) (h : p.reqs[m]? = some r) :
    (p.takeSlotAndCreate m isMap).reqs[m]? = some { r with created := r.created + 1 } ∧
    (p.takeSlotAndCreate m isMap).tasks.length = p.tasks.length + 1 :=
  ⟨modify_get_self h _, List.length_append⟩

theorem waitMapSem_req (p : Pool) (m : Nat) (r : Req) (h : p.reqs[m]? = some r) :
    ∃ s w, (p.waitMapSem m).reqs[m]? = some { r with
      frame := .waitMapSem, mustCancel := false, acquired := false, sched := s,
      mapSem := { r.mapSem with waiters := r.mapSem.waiters ++ [w] } } := by
  rw [waitMapSem, h, Option.getD_some]
  cases r.mustCancel
  · exact ⟨r.sched, _, modify_get_self h _⟩
  · exact ⟨true, _, modify_get_self (modify_get_self h _) _⟩

theorem pullItem_req (p : Pool) (m : Nat) (rest : List Item) (r : Req) (h : p.reqs[m]? = some r) (hh : r.hooks.pull = []) :
    (p.pullItem m rest).reqs[m]? = some { r with items := rest, pulled := r.pulled + 1, acquired := false, frame := .running } ∧
    (p.pullItem m rest).tasks = p.tasks ∧ (p.pullItem m rest).log = p.log ++ [.pull m r.pulled] := by
  rw [pullItem, h, Option.getD_some, hh]
  exact ⟨modify_get_self h _, rfl, rfl⟩

theorem foldl_schedApi_eq (ws : List Nat) (p : Pool) : ∃ as em,
    ws.foldl (fun p w => p.schedApi w) p = { p with apis := as, emit := em } ∧
    ∀ b, as[b]? = p.apis[b]?.map fun A => if b ∈ ws then { A with sched := true } else A := by
  induction ws generalizing p with
  | nil => exact ⟨p.apis, p.emit, rfl, fun b => by cases p.apis[b]? <;> simp⟩
  | cons w ws ih =>
    obtain ⟨as, em, e, hap⟩ := ih (p.schedApi w)
    refine ⟨as, em, e, fun b => (hap b).trans ?_⟩
    show ((p.apis.modify w fun x => { x with sched := true })[b]?).map _ = _
    rw [List.getElem?_modify]
    cases p.apis[b]? with
    | none => rfl
    | some A =>
      by_cases hw : w = b
      · subst hw; simp
      · by_cases hb : b ∈ ws <;> simp [hw, hb, Ne.symm hw]

/-- what `_done_callback` decides, branch by branch: without `return_exceptions` a child's cancellation or exception is
passed on; otherwise the gather completes when its last child has, and not before -/
theorem gatherVerdict_elim {P : Option Outcome → Prop} (G : Gather) (co : Option Outcome)
    (hc : G.retExc = false → co = some .cancelled → P (some .cancelled))
    (he : ∀ e, G.retExc = false → co = some (.exc e) → P (some (.exc e)))
    (hk : G.nfinished + 1 = G.children.length → P (some .ok))
    (hn : G.nfinished + 1 ≠ G.children.length → P none) : P (gatherVerdict G co) := by
  unfold gatherVerdict
  split
  · rename_i c
    simp only [Bool.and_eq_true, Bool.not_eq_true', beq_iff_eq] at c
    exact hc c.1 c.2
  · split
    · rename_i e heq
      simp only [Prod.mk.injEq] at heq
      exact he e heq.1 heq.2
    · split
      · rename_i e; exact hk (by simpa using e)
      · rename_i e; exact hn (by simpa using e)

theorem gatherVerdict_exc {G : Gather} {co : Option Outcome} {e : Err} (h : gatherVerdict G co = some (.exc e)) :
    co = some (.exc e) :=
  gatherVerdict_elim (P := fun v => v = some (.exc e) → _) G co (fun _ _ => nofun)
    (fun _ _ b x => Outcome.exc.inj (Option.some.inj x) ▸ b) (fun _ => nofun) (fun _ => nofun) h

theorem gatherVerdict_cancelled {G : Gather} {co : Option Outcome} (h : gatherVerdict G co = some .cancelled) :
    G.retExc = false ∧ co = some .cancelled :=
  gatherVerdict_elim (P := fun v => v = some .cancelled → _) G co (fun a b _ => ⟨a, b⟩) (fun _ _ _ => nofun) (fun _ => nofun)
    (fun _ => nofun) h

theorem verdict_ok_count (G : Gather) (co : Option Outcome) (h : gatherVerdict G co = some .ok) :
    G.nfinished + 1 = G.children.length :=
  gatherVerdict_elim (P := fun v => v = some .ok → _) G co (fun _ _ => nofun) (fun _ _ _ => nofun) (fun a _ => a)
    (fun _ => nofun) h

theorem verdict_none_count (G : Gather) (co : Option Outcome) (h : gatherVerdict G co = none) :
    G.nfinished + 1 ≠ G.children.length :=
  gatherVerdict_elim (P := fun v => v = none → _) G co (fun _ _ => nofun) (fun _ _ _ => nofun) (fun _ => nofun)
    (fun a _ => a) h

theorem verdict_retExc_count (G : Gather) (co : Option Outcome) (o : Outcome) (hre : G.retExc = true)
    (h : gatherVerdict G co = some o) : G.nfinished + 1 = G.children.length :=
  gatherVerdict_elim (P := fun v => v = some o → _) G co (fun a => nomatch a.symm.trans hre)
    (fun _ a => nomatch a.symm.trans hre) (fun a _ => a) (fun _ => nofun) h

end Pool
end Taskpool
