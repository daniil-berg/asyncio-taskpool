import Taskpool.Inv.Basics
import Taskpool.Inv.Effects
/-! The synchronous API, and with it all user code the pool runs (`runHooks`), is made of a handful of state changes:
`_cancel_task` on one task, `_cancel_group_meta_tasks`, dropping entries of `_task_groups`, the lock flag, the start
counter, a log entry, the observed cancel order, and the registration of a new request that `_check_start` admitted.
A predicate kept by each of these (`SyncKept`) is kept by `cancel`, `stop`, `cancel_group`, `cancel_all`, `apply`,
`map`, `start` and by every hook list — proved here once, for every walk.  The second half does the same for two
asyncio primitives: `Task.cancel()` / `_cancel_task` write the record of their task only, up to `SameTask` (`OwnKept`),
and a predicate that reads of a gather record at most its `children` and `retExc`, and no registration of a
done-callback (`GatherBlind`), is kept by `asyncio.gather` and a child's `_done_callback`. -/
namespace Taskpool
namespace Pool

def _root_.Taskpool.Op.starts : Op → Option ApiKind
  | .flush re => some (.flush re)
  | .gac re => some (.gac re)
  | .untilClosed => some .untilClosed
  | _ => none

theorem applyOp_starts (p : Pool) {op : Op} {k : ApiKind} (h : op.starts = some k) : (p.applyOp op).1 = p.addApi k := by
  cases op <;> cases h <;> rfl

/-- the user code an operation hands to the pool may be handed to it (`S`), and it is not `unlock()` unless `U` -/
def _root_.Taskpool.Op.admitted (S : SpawnSpec → Prop) (U : Prop) : Op → Prop
  | .apply _ _ sp => S sp
  | .map _ _ _ _ sp => S sp
  | .unlock => U
  | _ => True

/-- `S`, `U`: as in `Op.admitted` -/
structure SyncKept (P : Pool → Prop) (S : SpawnSpec → Prop) (U : Prop) : Prop where
  cancelTask : ∀ p t, P p → P (p.cancelTask t)
  cancelGroupMetas : ∀ p g, P p → P (p.cancelGroupMetas g)
  dropGroups : ∀ (p : Pool) gs, gs.Sublist p.groups → P p → P { p with groups := gs }
  setOrders : ∀ (p : Pool) o, P p → P { p with orders := o }
  lock : ∀ (p : Pool), P p → P { p with locked := true }
  unlock : U → ∀ (p : Pool), P p → P { p with locked := false }
  startCalls : ∀ (p : Pool) n, P p → P { p with startCalls := n }
  logEv : ∀ p e, P p → P (p.logEv e)
  /-- a request as `apply` / `start` (`kind = .apply`) or the `map` family (`num_concurrent ≥ 1`) build it, on a pool
  that is neither closed nor locked -/
  register : ∀ (p : Pool) kind stars g sp n items nc, S sp → p.checkStart sp.isCoro = none →
    (kind = .apply → stars = 0 ∧ items = [] ∧ nc = 0) → (kind = .map → n = 0 ∧ 1 ≤ nc) →
    P p → P (p.register (newReq kind stars g sp n items nc))

section
variable {P : Pool → Prop} {S : SpawnSpec → Prop} {U : Prop} (k : SyncKept P S U) {p : Pool}
include k

theorem SyncKept.doCancel (h : P p) (ids : List Int) : P (p.doCancel ids).1 := by
  unfold Pool.doCancel
  split
  · exact h
  · exact foldl_keeps _ (fun p _ h => k.cancelTask p _ h) ids p h

theorem SyncKept.doStop (h : P p) (n : Int) : P (p.doStop n).1 := by
  unfold Pool.doStop
  split
  · exact h
  · exact k.doCancel h _

theorem SyncKept.popOrder (h : P p) : P p.popOrder.1 := popOrder_fst p ▸ k.setOrders p _ h

theorem SyncKept.cancelGroupBody (h : P p) (g : String) (ids order : List Nat) (q : Pool)
    (e : p.cancelGroupBody g ids order = some q) : P q := by
  obtain ⟨ts, rfl⟩ := cancelGroupBody_some e
  exact foldl_keeps _ (fun p t h => k.cancelTask p t h) _ _ (k.cancelGroupMetas p g h)

theorem SyncKept.doCancelGroup (h : P p) (g : String) : P (p.doCancelGroup g).1 := by
  unfold Pool.doCancelGroup
  split
  · exact h
  · dsimp only
    split
    · exact h
    · rename_i p2 e
      exact k.cancelGroupBody (k.dropGroups _ _ List.filter_sublist (k.popOrder h)) g _ _ p2 e

theorem SyncKept.doCancelAll (h : P p) : P p.doCancelAll.1 := by
  unfold Pool.doCancelAll
  dsimp only
  split
  · exact h
  · rename_i p2 e
    exact cancelAllLoop_keeps (P := fun _ => P) _ (fun g ids _ _ q h e => k.cancelGroupBody h g ids _ q e) _ _ p2
      (k.dropGroups _ _ (List.nil_sublist _) (k.popOrder h)) e

theorem SyncKept.doApply (h : P p) (num : Int) (group : Option String) (sp : SpawnSpec) (hs : S sp) :
    P (p.doApply num group sp).1 := by
  unfold Pool.doApply
  cases hc : p.checkStart sp.isCoro with
  | some e => exact h
  | none =>
    exact ite_keeps (P := fun x : Pool × Res => P x.1) h
      (k.register p _ _ _ sp _ _ _ hs hc (fun _ => ⟨rfl, rfl, rfl⟩) (fun e => nomatch e) h)

theorem SyncKept.doMap (h : P p) (stars : Nat) (items : List Item) (nc : Int) (group : Option String) (sp : SpawnSpec)
    (hs : S sp) : P (p.doMap stars items nc group sp).1 := by
  unfold Pool.doMap
  cases hc : p.checkStart sp.isCoro with
  | some e => exact h
  | none =>
    exact dite_keeps (P := fun x : Pool × Res => P x.1) (fun _ => h) fun hnc => ite_keeps (P := fun x : Pool × Res => P x.1) h
      (k.register p _ _ _ sp _ _ _ hs hc (fun e => nomatch e) (fun _ => ⟨rfl, by omega⟩) h)

theorem SyncKept.doStart (h : P p) (num : Int) (hs : ∀ sp, p.simple = some sp → S sp) : P (p.doStart num).1 := by
  unfold Pool.doStart
  split
  · exact h
  · rename_i sp hsp
    split
    · exact h
    · rename_i hc
      exact k.register _ _ _ _ sp _ _ _ (hs sp hsp) hc (fun _ => ⟨rfl, rfl, rfl⟩) (fun e => nomatch e)
        (k.startCalls p _ h)

theorem SyncKept.doHook (h : P p) (ctx : Nat) (o : HookOp) (hu : o = .unlock → U) (hg : S gatedSpec) :
    P (p.doHook ctx o).1 := by
  unfold Pool.doHook
  split
  · exact k.doCancel h _
  · exact k.doCancelGroup h _
  · split
    · exact k.doCancelGroup h _
    · exact h
  · exact k.doCancelAll h
  · exact k.lock p h
  · exact k.unlock (hu rfl) p h
  · exact k.doStop h _
  · split
    · exact h
    · exact k.doApply h _ none gatedSpec hg

theorem SyncKept.runHooks (h : P p) (ctx : Nat) (hs : List HookOp) (hu : HookOp.unlock ∈ hs → U) (hg : S gatedSpec) :
    P (p.runHooks ctx hs) :=
  foldl_keeps_mem _ hs (fun _ o ho h => k.logEv _ _ (k.doHook h ctx o (fun e => hu (e ▸ ho)) hg)) p h

/-- an operation that starts no background call: the synchronous API, `pool_size = …` (`hz`) and the environment
completing a future (`hg`); `ha`: the user code it hands to the pool, and `unlock()`, are admitted -/
theorem SyncKept.applyOp (h : P p) {op : Op} (hs : op.starts = none) (ha : op.admitted S U)
    (hst : ∀ sp, p.simple = some sp → S sp)
    (hz : ∀ x, op = .setSize x → P { p with sem := { p.sem with value := .fin x.toNat }, resized := true })
    (hg : ∀ t o, op = .gate t o → P (p.doGate t o).1) : P (p.applyOp op).1 := by
  cases op with
  | apply num group sp => exact k.doApply h num group sp ha
  | map stars items nc group sp => exact k.doMap h stars items nc group sp ha
  | start num => exact k.doStart h num hst
  | stop n => exact k.doStop h n
  | stopAll => exact k.doStop h _
  | cancel ids => exact k.doCancel h ids
  | cancelGroup g => exact k.doCancelGroup h g
  | cancelAll => exact k.doCancelAll h
  | lock => exact k.lock p h
  | unlock => exact k.unlock ha p h
  | setSize v => exact ite_keeps (P := fun x : Pool × Res => P x.1) h (hz v rfl)
  | getIds names => exact h
  | flush re | gac re | untilClosed => cases hs
  | gate t o => exact hg t o rfl

end

/-- `k'` is `k` up to the fields the wrapper and `Task.cancel()` write before completion.  The five fields below are
fixed; every other field is free: the phase, `released`, the callback counters, `wasCancelled`, `pendingExc`, the awaited
future, the flags and the rest.  A predicate that reads one of the free fields gets it from the stage-indexed form
`WrapWrite` (`Inv/Wrapper.lean`), or a field is added here (the instances discharge it by `rfl`) -/
structure SameTask (k' k : PTask) : Prop where
  req : k'.req = k.req
  arg : k'.arg = k.arg
  isMap : k'.isMap = k.isMap
  outcome : k'.outcome = k.outcome
  doneCbs : k'.doneCbs = k.doneCbs

/-- what the asyncio plumbing of task `t` writes — `Task.cancel()` / `_cancel_task`, a suspension, queueing its wake-up —:
the record of `t` itself, up to `SameTask`, and the handle of `t` -/
structure OwnKept (P : Pool → Prop) (t : Nat) : Prop where
  modTask : ∀ p f, (∀ x, SameTask (f x) x) → P p → P (p.modTask t f)
  emitRef : ∀ p, P p → P (p.emitRef (.task t))

section
variable {P : Pool → Prop} {t : Nat} (k : OwnKept P t) {p : Pool}
include k

theorem OwnKept.mod (h : P p) (f : PTask → PTask)
    (hf : ∀ x, SameTask (f x) x := by exact fun _ => ⟨rfl, rfl, rfl, rfl, rfl⟩) : P (p.modTask t f) := k.modTask p f hf h

theorem OwnKept.schedTask (h : P p) : P (p.schedTask t) := k.emitRef _ (k.mod h _)

theorem OwnKept.suspendTask (h : P p) (ph : Phase) : P (p.suspendTask t ph) := by
  unfold Pool.suspendTask
  split
  · exact h
  · exact ite_keeps (k.schedTask (k.mod h _)) (k.mod h _)

theorem OwnKept.cancelTask (h : P p) : P (p.cancelTask t) := by
  unfold Pool.cancelTask
  split
  · exact h
  · refine ite_keeps (k.mod h _) ?_
    unfold Pool.taskCancel
    split
    · exact h
    · exact ite_keeps h (ite_keeps (k.schedTask (k.mod h _)) (k.mod h _))

end

/-- for a predicate that reads no task record at all -/
theorem cancelTask_keeps {P : Pool → Prop} (hm : ∀ p t f, P p → P (p.modTask t f)) (he : ∀ p r, P p → P (p.emitRef r))
    (p : Pool) (t : Nat) (h : P p) : P (p.cancelTask t) :=
  (⟨fun p f _ => hm p t f, fun p => he p _⟩ : OwnKept P t).cancelTask h

/-- `asyncio.gather` rewrites gather records (children and `return_exceptions` stay), registers callbacks, and flags
nobody: its owner is running -/
theorem gatherScan_keeps {P : Pool → Prop}
    (mg : ∀ p g f, (∀ G, (f G).children = G.children ∧ (f G).retExc = G.retExc) → P p → P (p.modGather g f))
    (rc : ∀ p c g i, P p → P (p.registerChild c g i)) (g : Nat) (cs : List Child) (i : Nat) (p : Pool) (h : P p) :
    P (Pool.gatherScan g cs i p) := by
  induction cs generalizing i p with
  | nil => exact h
  | cons c cs ih =>
    unfold Pool.gatherScan
    refine ih _ _ (ite_keeps ?_ (rc p c g i h))
    have h1 := mg p g (fun x => { x with nfinished := x.nfinished + 1 }) (fun _ => ⟨rfl, rfl⟩) h
    exact gatherChildDone_elim p g i false _ rfl (fun _ => h) (fun _ _ _ => h) (fun _ _ _ _ _ => h1) (fun _ _ _ _ _ _ => h1)
      (fun _ _ _ _ _ _ _ _ => h1) (fun _ _ _ _ _ _ _ _ e => nomatch e) fun _ _ _ _ _ _ _ _ _ => mg _ g _ (fun _ => ⟨rfl, rfl⟩) h1

/-- `P` reads of the gather records at most `children` and `retExc`, and no done-callback registration: it is kept by
`asyncio.gather` and by the `_done_callback` of a child -/
structure GatherBlind (P : Pool → Prop) : Prop where
  /-- `_done_callback` counts a child and may complete the outer future; children and `return_exceptions` stay -/
  modGather : ∀ p g f, (∀ G, (f G).children = G.children ∧ (f G).retExc = G.retExc) → P p → P (p.modGather g f)
  schedApi : ∀ p a, P p → P (p.schedApi a)
  regTask : ∀ (p : Pool) t gi, P p → P (p.modTask t fun k => { k with doneCbs := k.doneCbs ++ [gi] })
  regReq : ∀ (p : Pool) m gi, P p → P (p.modReq m fun r => { r with doneCbs := r.doneCbs ++ [gi] })
  newGather : ∀ (p : Pool) G amb, P p → P { p with gathers := p.gathers ++ [G], ambiguous := amb }

variable {P : Pool → Prop} (k : GatherBlind P) {p : Pool}
include k

theorem GatherBlind.gatherChildDone (h : P p) (g i : Nat) (v : Bool) : P (p.gatherChildDone g i v) :=
  have h1 := k.modGather p g (fun x => { x with nfinished := x.nfinished + 1 }) (fun _ => ⟨rfl, rfl⟩) h
  gatherChildDone_elim p g i v _ rfl (fun _ => h) (fun _ _ _ => h) (fun _ _ _ _ _ => h1) (fun _ _ _ _ _ _ => h1)
    (fun _ _ _ _ _ _ _ _ => h1) (fun _ _ _ _ _ _ _ _ _ => k.schedApi _ _ (k.modGather _ g _ (fun _ => ⟨rfl, rfl⟩) h1))
    fun _ _ _ _ _ _ _ _ _ => k.modGather _ g _ (fun _ => ⟨rfl, rfl⟩) h1

theorem GatherBlind.registerChild (h : P p) (c : Child) (g i : Nat) : P (p.registerChild c g i) := by
  cases c with
  | task t => exact k.regTask p t (g, i) h
  | spawner m => exact k.regReq p m (g, i) h

theorem GatherBlind.gatherScan (g : Nat) (cs : List Child) (i : Nat) (p : Pool) (h : P p) : P (Pool.gatherScan g cs i p) :=
  gatherScan_keeps k.modGather (fun _ c g i h => k.registerChild h c g i) g cs i p h

theorem GatherBlind.gatherStart (h : P p) (children : List Child) (re : Bool) (owner sp : Nat) :
    P (p.gatherStart children re owner sp).1 :=
  k.gatherScan _ _ _ _ (k.newGather p _ _ h)

end Pool
end Taskpool
