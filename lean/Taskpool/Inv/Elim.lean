import Taskpool.Model.Pool
/-! Case analysis of the branching functions of the pool machine, stated once for an arbitrary motive `P`: one
hypothesis per branch of the definition, in the order of the definition, each with the condition under which the branch
is taken.  A walk proves `P (f p)` by applying the eliminator instead of unfolding `f` and splitting its body (`split`
rewrites the whole nested body at every level, which makes it slow to check on these functions).  Where the branches
share a large subterm (the pool after the first write), the eliminator takes it as a variable `q` with `hq : q = …`
(the caller passes `_` and `rfl`): the motive is then applied to a variable, and elaborating the call does not copy the
term into every branch. -/
namespace Taskpool
namespace Pool

theorem metaCancel_elim {P : Pool → Prop} (p : Pool) (m : Nat)
    (h0 : p.reqs[m]? = none → P p)
    (h1 : ∀ r, p.reqs[m]? = some r → r.outcome.isSome = true → P p)
    (h2 : ∀ r, p.reqs[m]? = some r → r.outcome.isSome = false →
      (r.frame == .waitRoom && firstIsPending m p.sem.waiters) = true →
      P ((({ p with sem := { p.sem with waiters := cancelWaiterL m p.sem.waiters } } : Pool).modReq m snapReq).schedMeta m))
    (h3 : ∀ r, p.reqs[m]? = some r → r.outcome.isSome = false →
      (r.frame == .waitRoom && firstIsPending m p.sem.waiters) = false →
      (r.frame == .waitMapSem && firstIsPending m r.mapSem.waiters) = true →
      P ((p.modReq m fun x =>
        snapReq { x with mapSem := { x.mapSem with waiters := cancelWaiterL m x.mapSem.waiters } }).schedMeta m))
    (h4 : ∀ r, p.reqs[m]? = some r → r.outcome.isSome = false →
      (r.frame == .waitRoom && firstIsPending m p.sem.waiters) = false →
      (r.frame == .waitMapSem && firstIsPending m r.mapSem.waiters) = false →
      P (p.modReq m fun x => snapReq { x with mustCancel := true })) : P (p.metaCancel m) := by
  unfold metaCancel
  cases hp : p.reqs[m]? with
  | none => exact h0 hp
  | some r =>
    dsimp only
    cases c1 : r.outcome.isSome with
    | true => rw [if_pos rfl]; exact h1 r hp c1
    | false =>
      rw [if_neg Bool.false_ne_true]
      cases c2 : (r.frame == .waitRoom && firstIsPending m p.sem.waiters) with
      | true => rw [if_pos rfl]; exact h2 r hp c1 c2
      | false =>
        rw [if_neg Bool.false_ne_true]
        cases c3 : (r.frame == .waitMapSem && firstIsPending m r.mapSem.waiters) with
        | true => rw [if_pos rfl]; exact h3 r hp c1 c2 c3
        | false => rw [if_neg Bool.false_ne_true]; exact h4 r hp c1 c2 c3

theorem metaCancel_ne (p : Pool) {m i : Nat} (e : m ≠ i) : (p.metaCancel m).reqs[i]? = p.reqs[i]? :=
  metaCancel_elim (P := fun q => q.reqs[i]? = p.reqs[i]?) p m (fun _ => rfl) (fun _ _ _ => rfl)
    (fun _ _ _ _ => (List.getElem?_modify_ne _ _ e).trans (List.getElem?_modify_ne _ _ e))
    (fun _ _ _ _ _ => (List.getElem?_modify_ne _ _ e).trans (List.getElem?_modify_ne _ _ e))
    (fun _ _ _ _ _ => List.getElem?_modify_ne _ _ e)

theorem applyLoop_succ_elim {P : Pool → Prop} (m n : Nat) (p q : Pool)
    (hq : q = p.modReq m fun x => { x with remaining := n + 1 })
    (h1 : (q.reqs[m]?.getD default).badCall = true →
      P (applyLoop m n (q.modReq m fun x => { x with skipped := x.skipped + 1 })))
    (h2 : q.closed = true → P (q.finishMeta m (.exc .poolIsClosed)))
    (h3 : q.closed = false → (q.locked && !q.groupHasRunningMeta m) = true → P (q.finishMeta m (.exc .poolIsLocked)))
    (h4 : q.closed = false → (q.locked && !q.groupHasRunningMeta m) = false → q.sem.locked = true → P (q.waitRoom m))
    (h5 : q.closed = false → (q.locked && !q.groupHasRunningMeta m) = false → q.sem.locked = false →
      P (applyLoop m n (q.takeSlotAndCreate m false))) : P (applyLoop m (n + 1) p) := by
  subst hq
  rw [applyLoop]
  cases c1 : ((p.modReq m fun x => { x with remaining := n + 1 }).reqs[m]?.getD default).badCall with
  | true => rw [if_pos rfl]; exact h1 c1
  | false =>
    rw [if_neg Bool.false_ne_true]
    cases c2 : (p.modReq m fun x => { x with remaining := n + 1 }).closed with
    | true => rw [if_pos rfl]; exact h2 c2
    | false =>
      rw [if_neg Bool.false_ne_true]
      cases c3 : ((p.modReq m fun x => { x with remaining := n + 1 }).locked &&
          !(p.modReq m fun x => { x with remaining := n + 1 }).groupHasRunningMeta m) with
      | true => rw [if_pos rfl]; exact h3 c2 c3
      | false =>
        rw [if_neg Bool.false_ne_true]
        cases c4 : (p.modReq m fun x => { x with remaining := n + 1 }).sem.locked with
        | true => rw [if_pos rfl]; exact h4 c2 c3 c4
        | false => rw [if_neg Bool.false_ne_true]; exact h5 c2 c3 c4

theorem mapLoop_cons_elim {P : Pool → Prop} (m : Nat) (it : Item) (rest : List Item) (p q : Pool)
    (hq : q = p.pullItem m rest)
    (h1 : it.raises = true → P (q.finishMeta m (.exc (.user 4))))
    (h2 : it.raises = false → it.bad = true → P (mapLoop m rest (q.modReq m fun x => { x with skipped := x.skipped + 1 })))
    (h3 : it.raises = false → it.bad = false → (q.reqs[m]?.getD default).mapSem.locked = true → P (q.waitMapSem m))
    (h4 : it.raises = false → it.bad = false → (q.reqs[m]?.getD default).mapSem.locked = false →
      ((q.takeMapSlot m).mapStartTask m).2 = true → P (mapLoop m rest ((q.takeMapSlot m).mapStartTask m).1))
    (h5 : it.raises = false → it.bad = false → (q.reqs[m]?.getD default).mapSem.locked = false →
      ((q.takeMapSlot m).mapStartTask m).2 = false → P ((q.takeMapSlot m).mapStartTask m).1) :
    P (mapLoop m (it :: rest) p) := by
  subst hq
  rw [mapLoop]
  dsimp only
  cases c1 : it.raises with
  | true => rw [if_pos rfl]; exact h1 c1
  | false =>
    rw [if_neg Bool.false_ne_true]
    cases c2 : it.bad with
    | true => rw [if_pos rfl]; exact h2 c1 c2
    | false =>
      rw [if_neg Bool.false_ne_true]
      cases c3 : ((p.pullItem m rest).reqs[m]?.getD default).mapSem.locked with
      | true => rw [if_pos rfl]; exact h3 c1 c2 c3
      | false =>
        rw [if_neg Bool.false_ne_true]
        cases c4 : (((p.pullItem m rest).takeMapSlot m).mapStartTask m).2 with
        | true => rw [if_pos rfl]; exact h4 c1 c2 c3 c4
        | false => rw [if_neg Bool.false_ne_true]; exact h5 c1 c2 c3 c4

theorem gatherChildDone_elim {P : Pool → Prop} (p : Pool) (g i : Nat) (viaHandle : Bool) (p1 : Pool)
    (hp1 : p1 = p.modGather g fun x => { x with nfinished := x.nfinished + 1 })
    (h0 : p.gathers[g]? = none → P p)
    (h1 : ∀ G, p.gathers[g]? = some G → G.children[i]? = none → P p)
    (h2 : ∀ G c, p.gathers[g]? = some G → G.children[i]? = some c → G.outer.isSome = true → P p1)
    (h3 : ∀ G c, p.gathers[g]? = some G → G.children[i]? = some c → G.outer.isSome = false →
      gatherVerdict G (p.childOutcome c) = none → P p1)
    (h4 : ∀ G c o, p.gathers[g]? = some G → G.children[i]? = some c → G.outer.isSome = false →
      gatherVerdict G (p.childOutcome c) = some o → (o == .ok && !(G.children.all p.childFinished)) = true → P p1)
    (h5 : ∀ G c o, p.gathers[g]? = some G → G.children[i]? = some c → G.outer.isSome = false →
      gatherVerdict G (p.childOutcome c) = some o → (o == .ok && !(G.children.all p.childFinished)) = false →
      viaHandle = true → P ((p1.modGather g fun x => { x with outer := some o }).schedApi G.owner))
    (h6 : ∀ G c o, p.gathers[g]? = some G → G.children[i]? = some c → G.outer.isSome = false →
      gatherVerdict G (p.childOutcome c) = some o → (o == .ok && !(G.children.all p.childFinished)) = false →
      viaHandle = false → P (p1.modGather g fun x => { x with outer := some o })) :
    P (p.gatherChildDone g i viaHandle) := by
  subst hp1
  unfold gatherChildDone
  cases hG : p.gathers[g]? with
  | none => exact h0 hG
  | some G =>
    dsimp only
    cases hc : G.children[i]? with
    | none => exact h1 G hG hc
    | some c =>
      dsimp only
      cases c1 : G.outer.isSome with
      | true => rw [if_pos rfl]; exact h2 G c hG hc c1
      | false =>
        rw [if_neg Bool.false_ne_true]
        cases hv : gatherVerdict G (p.childOutcome c) with
        | none => exact h3 G c hG hc c1 hv
        | some o =>
          dsimp only
          cases c2 : (o == .ok && !(G.children.all p.childFinished)) with
          | true => rw [if_pos rfl]; exact h4 G c o hG hc c1 hv c2
          | false =>
            rw [if_neg Bool.false_ne_true]
            cases viaHandle with
            | true => rw [if_pos rfl]; exact h5 G c o hG hc c1 hv c2 rfl
            | false => rw [if_neg Bool.false_ne_true]; exact h6 G c o hG hc c1 hv c2 rfl

/-- a spawner wakes up inside `_enough_room.acquire()` (`wakeWaitRoom` and `wakeWaitRoomCore` in one): `st` is the state
of its waiter entry, `q` the pool without that entry.  `h0`: not resumed; `hc`: cancelled; `hg`: a slot in hand -/
theorem wakeWaitRoom_elim {P : Pool → Prop} (p : Pool) (m : Nat) (r : Req) (st : Option WaitSt) (q : Pool)
    (hst : st = (removeWaiterL m p.sem.waiters).1)
    (hq : q = ({ p with sem := { p.sem with waiters := (removeWaiterL m p.sem.waiters).2 } } : Pool).modReq m
      fun x => { x with mustCancel := false })
    (h0 : st ≠ some .cancelled → r.mustCancel = false → st ≠ some .granted → P p)
    (hc : st = some .cancelled ∨ r.mustCancel = true → P (q.roomWaitCancelled m r st))
    (hg : st ≠ some .cancelled → r.mustCancel = false → st = some .granted → P (q.roomGranted m r)) :
    P (p.wakeWaitRoom m r) := by
  subst hst hq
  unfold wakeWaitRoom wakeWaitRoomCore
  dsimp only
  cases c1 : ((removeWaiterL m p.sem.waiters).1 == some .cancelled || r.mustCancel) with
  | true =>
    rw [Bool.true_or, if_pos rfl, if_pos rfl]
    exact hc (by simpa using c1)
  | false =>
    rw [Bool.or_eq_false_iff, beq_eq_false_iff_ne] at c1
    rw [Bool.false_or, if_neg Bool.false_ne_true]
    cases c2 : ((removeWaiterL m p.sem.waiters).1 == some .granted) with
    | true => rw [if_pos rfl, if_pos rfl]; exact hg c1.1 c1.2 (beq_iff_eq.mp c2)
    | false => rw [if_neg Bool.false_ne_true]; exact h0 c1.1 c1.2 (beq_eq_false_iff_ne.mp c2)

/-- the same inside `acquire()` of the call's own semaphore: `s2` is what `acquire()` leaves of the semaphore without
the spawner's entry (and whom it wakes), `q` the pool with it -/
theorem wakeWaitMapSem_elim {P : Pool → Prop} (p : Pool) (m : Nat) (r : Req) (st : Option WaitSt) (s1 : Sem)
    (s2 : Sem × Option Nat) (q : Pool) (hst : st = (removeWaiterL m r.mapSem.waiters).1)
    (hs1 : s1 = { r.mapSem with waiters := (removeWaiterL m r.mapSem.waiters).2 })
    (hs2 : s2 = if (st == some .granted) = true then
        (if (st == some .cancelled || r.mustCancel) = true then s1.release
          else if (!s1.value.isZero) = true then s1.wakeNext else (s1, none))
      else (s1, none))
    (hq : q = (p.modReq m fun x => { x with mapSem := s2.1, mustCancel := false }).schedOpt s2.2)
    (h0 : st ≠ some .cancelled → r.mustCancel = false → st ≠ some .granted → P p)
    (hc : st = some .cancelled ∨ r.mustCancel = true → P (q.finishMeta m .ok))
    (hg : st ≠ some .cancelled → r.mustCancel = false → st = some .granted → P (q.mapSemGranted m r)) :
    P (p.wakeWaitMapSem m r) := by
  subst hst hs1
  unfold wakeWaitMapSem wakeWaitMapSemCore
  dsimp only at hs2 ⊢
  rw [← hs2, ← hq]
  cases c1 : ((removeWaiterL m r.mapSem.waiters).1 == some .cancelled || r.mustCancel) with
  | true =>
    rw [Bool.true_or, if_pos rfl, if_pos rfl]
    exact hc (by simpa using c1)
  | false =>
    rw [Bool.or_eq_false_iff, beq_eq_false_iff_ne] at c1
    rw [Bool.false_or, if_neg Bool.false_ne_true]
    cases c2 : ((removeWaiterL m r.mapSem.waiters).1 == some .granted) with
    | true => rw [if_pos rfl, if_pos rfl]; exact hg c1.1 c1.2 (beq_iff_eq.mp c2)
    | false => rw [if_neg Bool.false_ne_true]; exact h0 c1.1 c1.2 (beq_eq_false_iff_ne.mp c2)

/-- one step of a spawner; `q` is the state after the flag has been cleared.  `h2`: flagged, but its coroutine is
running or has returned -/
theorem stepMeta_elim {P : Pool → Prop} (p : Pool) (m : Nat) (q : Pool)
    (hq : q = p.modReq m fun x => { x with sched := false }) (h0 : p.reqs[m]? = none → P p)
    (h1 : ∀ r, p.reqs[m]? = some r → r.sched = false → P p)
    (h2 : ∀ r, p.reqs[m]? = some r → r.frame ≠ .notStarted → r.frame ≠ .waitRoom → r.frame ≠ .waitMapSem → P q)
    (ns : ∀ r, p.reqs[m]? = some r → r.frame = .notStarted → P (q.stepMetaNotStarted m r))
    (wr : ∀ r, p.reqs[m]? = some r → r.frame = .waitRoom → P (q.wakeWaitRoom m r))
    (wm : ∀ r, p.reqs[m]? = some r → r.frame = .waitMapSem → P (q.wakeWaitMapSem m r)) : P (p.stepMeta m) := by
  subst hq
  unfold stepMeta
  cases hp : p.reqs[m]? with
  | none => exact h0 hp
  | some r =>
    dsimp only
    cases hs : r.sched with
    | false => exact h1 r hp hs
    | true =>
      rw [if_neg (fun e => nomatch e)]
      cases hf : r.frame with
      | done => exact h2 r hp (fun e => nomatch hf.symm.trans e) (fun e => nomatch hf.symm.trans e) (fun e => nomatch hf.symm.trans e)
      | running => exact h2 r hp (fun e => nomatch hf.symm.trans e) (fun e => nomatch hf.symm.trans e) (fun e => nomatch hf.symm.trans e)
      | notStarted => exact ns r hp hf
      | waitRoom => exact wr r hp hf
      | waitMapSem => exact wm r hp hf

section
variable {P : Pool → Prop} (p : Pool) (a : Nat) (q : Pool) (hq : q = p.modApi a fun x => { x with sched := false })
  (c0 : p.apis[a]? = none → P p) (c1 : ∀ A, p.apis[a]? = some A → A.sched = false → P p)
  (c2 : ∀ A, p.apis[a]? = some A → A.sched = true → A.frame ≠ .notStarted → A.frame ≠ .waitClosed →
    (∀ g, A.frame = .gather1 g ∨ A.frame = .gather2 g → A.kind = .untilClosed ∨ q.gatherOuter g = none) → P q)
  (fs : ∀ A re, p.apis[a]? = some A → A.sched = true → A.frame = .notStarted → A.kind = .flush re →
    P (q.flushStage1 a re))
  (gs : ∀ A re, p.apis[a]? = some A → A.sched = true → A.frame = .notStarted → A.kind = .gac re →
    P (q.gacStage1 a re))
  (us : ∀ A, p.apis[a]? = some A → A.sched = true → A.frame = .notStarted → A.kind = .untilClosed →
    P (q.untilClosedStart a))
  (wc : ∀ A, p.apis[a]? = some A → A.sched = true → A.frame = .waitClosed → P (q.finishApi a .ok))
  (f1 : ∀ A g re o, p.apis[a]? = some A → A.sched = true → A.frame = .gather1 g → A.kind = .flush re →
    q.gatherOuter g = some o → P (q.flushAfter1 a re o))
  (g1 : ∀ A g re o, p.apis[a]? = some A → A.sched = true → A.frame = .gather1 g → A.kind = .gac re →
    q.gatherOuter g = some o → P (q.gacAfter1 a re g))
  (f2 : ∀ A g re o, p.apis[a]? = some A → A.sched = true → A.frame = .gather2 g → A.kind = .flush re →
    q.gatherOuter g = some o → P (q.flushAfter2 a o))
  (g2 : ∀ A g re o, p.apis[a]? = some A → A.sched = true → A.frame = .gather2 g → A.kind = .gac re →
    q.gatherOuter g = some o → P (q.gacAfter2 a o))

include hq c0 c1 c2 fs gs us wc f1 g1 f2 g2 in
/-- one step of a background call; `q` is the state after the flag has been cleared.  `c0`: no such call; `c1`: not
flagged; `c2`: flagged, but nothing to resume: the call is over, or it is suspended on a gather whose outer future has
not completed (a call of kind `untilClosed` in a gather frame is not resumed either); then the eight resumed branches -/
theorem stepApi_cases : P (p.stepApi a) := by
  subst hq
  unfold stepApi
  cases hA : p.apis[a]? with
  | none => exact c0 hA
  | some A =>
    dsimp only
    cases hs : A.sched with
    | false => exact c1 A hA hs
    | true =>
      rw [if_neg (fun e => nomatch e)]
      -- suspended on gather `g`: resumed if its outer future has completed
      have go : ∀ g (F : Outcome → Pool), (∀ g', A.frame = .gather1 g' ∨ A.frame = .gather2 g' → g' = g) →
          A.frame ≠ .notStarted → A.frame ≠ .waitClosed →
          (∀ o, (p.modApi a fun x => { x with sched := false }).gatherOuter g = some o → P (F o)) →
          P (match (p.modApi a fun x => { x with sched := false }).gatherOuter g with
            | some o => F o
            | none => p.modApi a fun x => { x with sched := false }) := fun g F hg hns hwc hF => by
        cases ho : (p.modApi a fun x => { x with sched := false }).gatherOuter g with
        | some o => exact hF o ho
        | none => exact c2 A hA hs hns hwc fun g' e => Or.inr (hg g' e ▸ ho)
      cases hf : A.frame with
      | done => exact c2 A hA hs (hf ▸ nofun) (hf ▸ nofun) fun _ e => e.elim (hf ▸ nofun) (hf ▸ nofun)
      | notStarted =>
        cases hk : A.kind with
        | flush re => exact fs A re hA hs hf hk
        | gac re => exact gs A re hA hs hf hk
        | untilClosed => exact us A hA hs hf hk
      | waitClosed => exact wc A hA hs hf
      | gather1 g =>
        have hg := fun g' (e : A.frame = .gather1 g' ∨ A.frame = .gather2 g') =>
          e.elim (fun e => AFrame.gather1.inj (e.symm.trans hf)) (hf ▸ nofun)
        cases hk : A.kind with
        | flush re => exact go g _ hg (hf ▸ nofun) (hf ▸ nofun) fun o => f1 A g re o hA hs hf hk
        | gac re => exact go g _ hg (hf ▸ nofun) (hf ▸ nofun) fun o => g1 A g re o hA hs hf hk
        | untilClosed => exact c2 A hA hs (hf ▸ nofun) (hf ▸ nofun) fun _ _ => Or.inl hk
      | gather2 g =>
        have hg := fun g' (e : A.frame = .gather1 g' ∨ A.frame = .gather2 g') =>
          e.elim (hf ▸ nofun) fun e => AFrame.gather2.inj (e.symm.trans hf)
        cases hk : A.kind with
        | flush re => exact go g _ hg (hf ▸ nofun) (hf ▸ nofun) fun o => f2 A g re o hA hs hf hk
        | gac re => exact go g _ hg (hf ▸ nofun) (hf ▸ nofun) fun o => g2 A g re o hA hs hf hk
        | untilClosed => exact c2 A hA hs (hf ▸ nofun) (hf ▸ nofun) fun _ _ => Or.inl hk

end

end Pool
end Taskpool
