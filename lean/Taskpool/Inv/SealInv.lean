import Taskpool.Inv.SealWalk
import Taskpool.Inv.GatherSpawners
import Taskpool.Inv.Mono
/-! Pools that nobody unlocks: the strict invariant (no task is ever lost) for every history without `unlock()` and
without assignment to `pool_size` — `gather_and_close()` included, in any number, overlapping with anything.

`SealedC c p` = `Good c.size0 false true p` (slot conservation against the configured size, registries complete,
`lost = false`, …) ∧ `Want p` ∧ `Seal p`.  They are carried together because each leans on the next: `Good` needs `Seal` —
the closing stage of `gather_and_close` preserves `lost = false` because (`SealOK.g2`, `Seal.gacAwaitsAll`) its second
gather has every filed task among its children; `Seal` needs `Want` — a spawner that is resumed has one waiter entry, in
the queue it sleeps in (`sk_stepMeta`) — and, for the step from the first to the second gather, a fact about the loop's
ready queue: every spawner child of a completed collecting gather has finished (`Pool.SpawnersWaited`, from the counting
invariant of the gathers, `World.spawnersWaited_run`).  That fact is a premise here (`sealedC_run`, `World.sealed_next`),
which is why the lifting goes over worlds (`Inv/SealInv2.lean`) and not through `PoolInvariant`.  `Want` needs neither of
the others, and `Seal` does not need `Good`: `seal_applyOp` / `seal_runRef` take it without using it. -/
namespace Taskpool

/-- what the theorems about sealed pools admit: no `unlock()` (caller or user code), no assignment to `pool_size` -/
def Op.sealOk (o : Op) : Bool := o.noUnlock && !o.isSetSize

def WOp.sealOk : WOp → Bool
  | .mkpool _ simple _ => mkNoUnlock simple
  | .on _ _ op => op.sealOk
  | .run _ _ => true

def SealedC (c : Cfg) (p : Pool) : Prop := Good c.size0 false true p ∧ Pool.Want p ∧ Pool.Seal p

theorem Good.lax {cap : Cap} {L R : Bool} {p : Pool} (h : Good cap L R p) : Good cap true false p :=
  ⟨⟨h.slot, h.phase, h.reg, h.grp, h.life, h.fl, h.wk, fun e => Bool.noConfusion e, fun e => Bool.noConfusion e,
    fun e => Bool.noConfusion e⟩, h.map, h.acc, h.canc⟩

theorem Pool.Seal.gacAwaitsAll {p : Pool} (h : Pool.Seal p) : Pool.GacAwaitsAll p :=
  fun a A g hA hk hf => (h.g2 a A g hA hk hf).2

theorem sealedC_init (c : Cfg) (simple : Option SpawnSpec) (hm : mkNoUnlock simple = true) : SealedC c (Pool.init c.size0 simple) :=
  ⟨good_init c.size0 false true simple, Pool.want_init c.size0 simple, Pool.seal_init c.size0 simple hm⟩

/-- the cancel orders observed with an input are read by no clause -/
theorem sealedC_orders {c : Cfg} {p : Pool} (orders : List (List Nat)) (h : SealedC c p) :
    SealedC c { p with orders := orders } :=
  ⟨(Pool.tame_setOrders p orders).good h.1,
    (Pool.wk_of_eq h.2.1.wk).toWantOK,
    Pool.seal_orders p orders h.2.2⟩

theorem sealedC_op (c : Cfg) (p : Pool) (orders : List (List Nat)) (o : Op) (ho : o.sealOk = true) (h : SealedC c p) :
    SealedC c (({ p with orders := orders } : Pool).applyOp o).1 := by
  obtain ⟨hg1, hw1, hs1⟩ := sealedC_orders orders h
  simp only [Op.sealOk, Bool.and_eq_true, Bool.not_eq_true'] at ho
  exact ⟨Pool.good_applyOp _ o ho.2 (fun _ e => Bool.noConfusion e) hg1, Pool.want_applyOp p orders o h.2.1,
    Pool.seal_applyOp _ o ho.1 hg1.lax hw1 hs1⟩

theorem sealedC_run (c : Cfg) (p : Pool) (orders : List (List Nat)) (r : Ref) (h : SealedC c p)
    (h0 : p.SpawnersWaited)
    (h1 : ∀ a re, ((({ p with orders := orders } : Pool).modApi a fun x => { x with sched := false }).gacStage1Pre a re).1.SpawnersWaited) :
    SealedC c (({ p with orders := orders } : Pool).runRef r) := by
  obtain ⟨hg1, hw1, hs1⟩ := sealedC_orders orders h
  exact ⟨Pool.good_runRef _ r hg1 (fun _ _ => hs1.gacAwaitsAll), Pool.want_runRef p orders r h.2.1,
    Pool.seal_runRef _ r hg1.lax hw1 hs1 (fun g G hG => h0 g G hG) h1⟩

theorem sealedC_drain (c : Cfg) (p : Pool) (h : SealedC c p) : SealedC c { p with emit := [] } :=
  ⟨(tame_of_eq p { p with emit := [] } rfl rfl).good h.1, Pool.want_drain p h.2.1, Pool.seal_drain p h.2.2⟩

/-- one input of a world all of whose pools are sealed; `hsw`: the world-level fact about completed gathers -/
theorem World.sealed_next (w : World) (x : WOp) (hx : x.sealOk = true) (hw : w.All SealedC)
    (hsw : ∀ (i : Nat) (p : Pool), w.pools[i]? = some p → p.SpawnersWaited ∧ ∀ orders a re,
      ((({ p with orders := orders } : Pool).modApi a fun x => { x with sched := false }).gacStage1Pre a re).1.SpawnersWaited) :
    (w.next x).All SealedC :=
  World.all_next_local w x hw (fun _ simple _ e c _ => sealedC_init c simple (by subst e; exact hx))
    (fun _ orders op e c p _ _ h => sealedC_op c p orders op (by subst e; exact hx) h)
    (fun _ orders _ i r c p _ hp h => sealedC_run c p orders r h (hsw i p hp).1 fun a re => (hsw i p hp).2 orders a re)
    sealedC_drain

end Taskpool
