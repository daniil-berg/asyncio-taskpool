import Taskpool.Inv.ApiWant
import Taskpool.Inv.Loops
import Taskpool.Inv.Wrapper
import Taskpool.Inv.Write
/-! **A background call that has something to do is flagged — the walk.**

`Afr X p q`: between `p` and `q` nothing `ApiOK` reads has changed, except that tasks / requests may have been appended,
the registries may have changed as long as they still file existing tasks (spawners), and the gathers in `X` may have
completed.  Every step function that is not part of a background call satisfies `Afr (fun _ => False)`; the scan of a
new gather `g` satisfies `Afr (· = g)`.  The stages of the background calls themselves go through `ApiStaged`
(`Inv/ApiStages.lean`) with the call that is being run exempt (`AwAt`, `aw_staged`).
What `ApiOK` says about one call is `CallOK gs cw a A` (`ApiOK.call` reads it off, `api_mk` puts `ApiOK` together from it);
`CallOK.raise` is the one transfer lemma for a record, `ApiOK.raise` for a pool, `ApiOK.afr` its case "no flag changes".

The clause `ApiOK.kd` (only `flush` / `gather_and_close` suspend on a gather) is what makes the invariant inductive for
the total machine: `stepApi` clears the flag of an `until_closed` call in a gather frame and resumes nothing (`| _, _ => p`),
so without it a state with such a call, flagged, on a completed gather satisfies all other clauses and loses `gw` in
one step.  No step function produces such a record: a call enters a gather frame only in `api_setFrame`, and
`ApiStaged.suspend` comes with `k ≠ .untilClosed`. -/
namespace Taskpool
namespace Pool

def RegIn (p : Pool) : Prop := ∀ t, (t ∈ p.running ∨ t ∈ p.cancelledR ∨ t ∈ p.ended) → t < p.tasks.length
def McIn (p : Pool) : Prop := ∀ m ∈ p.metaCancelled, m < p.reqs.length

/-- the frame of `ApiOK` (header); `X`: the gathers that may have completed -/
structure Afr (X : Nat → Prop) (p q : Pool) : Prop where
  apis : q.apis = p.apis
  ga : ∀ j, (p.gathers[j]? = none ∧ q.gathers[j]? = none) ∨
        ∃ G G', p.gathers[j]? = some G ∧ q.gathers[j]? = some G' ∧ G'.owner = G.owner ∧ G'.children = G.children ∧
          (¬ X j → G'.outer = G.outer)
  cw : q.closedWaiters = p.closedWaiters
  closed : q.closed = p.closed
  tl : p.tasks.length ≤ q.tasks.length
  rl : p.reqs.length ≤ q.reqs.length
  rg : p.RegIn → q.RegIn
  mc : p.McIn → q.McIn

variable {X : Nat → Prop} {E : Nat → Prop}

theorem afr_of' (p q : Pool) (ha : q.apis = p.apis) (hg : q.gathers = p.gathers) (hw : q.closedWaiters = p.closedWaiters)
    (hc : q.closed = p.closed) (htl : p.tasks.length ≤ q.tasks.length) (hrl : p.reqs.length ≤ q.reqs.length)
    (hrg : p.RegIn → q.RegIn) (hmc : p.McIn → q.McIn) : Afr X p q := by
  refine ⟨ha, ?_, hw, hc, htl, hrl, hrg, hmc⟩
  intro j
  rw [hg]
  cases h : p.gathers[j]? with
  | none => exact Or.inl ⟨rfl, rfl⟩
  | some G => exact Or.inr ⟨G, G, rfl, rfl, rfl, rfl, fun _ => rfl⟩

theorem Afr.refl (p : Pool) : Afr X p p := afr_of' p p rfl rfl rfl rfl (Nat.le_refl _) (Nat.le_refl _) id id

theorem Afr.trans {p q r : Pool} (h1 : Afr X p q) (h2 : Afr X q r) : Afr X p r := by
  refine ⟨h2.apis.trans h1.apis, ?_, h2.cw.trans h1.cw, h2.closed.trans h1.closed, Nat.le_trans h1.tl h2.tl,
    Nat.le_trans h1.rl h2.rl, fun h => h2.rg (h1.rg h), fun h => h2.mc (h1.mc h)⟩
  intro j
  rcases h1.ga j with ⟨a, b⟩ | ⟨G, G', a, b, c, d, e⟩
  · rcases h2.ga j with ⟨a', b'⟩ | ⟨G1, G1', a', b', _⟩
    · exact Or.inl ⟨a, b'⟩
    · rw [b] at a'; cases a'
  · rcases h2.ga j with ⟨a', b'⟩ | ⟨G1, G1', a', b', c', d', e'⟩
    · rw [b] at a'; cases a'
    · rw [b] at a'; cases a'
      exact Or.inr ⟨G, G1', a, b', c'.trans c, d'.trans d, fun hx => (e' hx).trans (e hx)⟩

theorem afr_of (p q : Pool) (ha : q.apis = p.apis := by rfl) (hg : q.gathers = p.gathers := by rfl)
    (hw : q.closedWaiters = p.closedWaiters := by rfl) (hc : q.closed = p.closed := by rfl)
    (hin : ∀ t, t ∈ q.running ∨ t ∈ q.cancelledR ∨ t ∈ q.ended → t ∈ p.running ∨ t ∈ p.cancelledR ∨ t ∈ p.ended := by
      exact fun _ h => h)
    (hmc : ∀ m ∈ q.metaCancelled, m ∈ p.metaCancelled := by exact fun _ h => h)
    (htl : p.tasks.length ≤ q.tasks.length := by exact Nat.le_refl _)
    (hrl : p.reqs.length ≤ q.reqs.length := by exact Nat.le_refl _) : Afr X p q :=
  afr_of' p q ha hg hw hc htl hrl (fun h t ht => Nat.lt_of_lt_of_le (h t (hin t ht)) htl)
    fun h m hm => Nat.lt_of_lt_of_le (h m (hmc m hm)) hrl

theorem childExists_mono {p q : Pool} (htl : p.tasks.length ≤ q.tasks.length) (hrl : p.reqs.length ≤ q.reqs.length)
    (c : Child) (h : p.childExists c) : q.childExists c := by
  cases c with
  | task t => exact Nat.lt_of_lt_of_le h htl
  | spawner m => exact Nat.lt_of_lt_of_le h hrl

/-- what `ApiOK` says about call `a` with record `A`, `gs` the gathers, `cw` the waiters of the closing event -/
structure CallOK (gs : List Gather) (cw : List Nat) (a : Nat) (A : Api) : Prop where
  ns : A.frame = .notStarted → A.sched = true
  dn : A.outcome.isSome = true ↔ A.frame = .done
  gw : ∀ g, (A.frame = .gather1 g ∨ A.frame = .gather2 g) →
    (∃ G : Gather, gs[g]? = some G ∧ G.owner = a ∧ (G.outer.isSome = true → A.sched = true)) ∧ A.kind ≠ .untilClosed
  cw : A.frame = .waitClosed → a ∈ cw ∨ A.sched = true

theorem ApiOK.call {p : Pool} (h : ApiOK E p) {a : Nat} {A : Api} (hA : p.apis[a]? = some A) (hE : ¬ E a) :
    CallOK p.gathers p.closedWaiters a A :=
  ⟨h.ns a A hA hE, h.dn a A hA hE, fun g hf => ⟨h.gw a A g hA hE hf, h.kd a A g hA hE hf⟩, h.cw a A hA hE⟩

theorem api_mk {q : Pool} (hc : ∀ a A, q.apis[a]? = some A → ¬ E a → CallOK q.gathers q.closedWaiters a A)
    (cl : q.closed = true → q.closedWaiters = []) (rg : q.RegIn) (mc : q.McIn)
    (ch : ∀ (g : Nat) (G : Gather), q.gathers[g]? = some G → ∀ c ∈ G.children, q.childExists c) : ApiOK E q :=
  ⟨fun a A hA hE => (hc a A hA hE).ns, fun a A hA hE => (hc a A hA hE).dn, fun a A g hA hE hf => ((hc a A hA hE).gw g hf).1,
    fun a A g hA hE hf => ((hc a A hA hE).gw g hf).2, fun a A hA hE => (hc a A hA hE).cw, cl, rg, mc, ch⟩

/-- one call: its record keeps kind, frame and outcome, its flag is at most raised; it is flagged afterwards (`Fl`) if the
gather it waits for is in `X` (may have completed) or if it has left the waiters of the closing event -/
theorem CallOK.raise {gs gs' : List Gather} {cw cw' : List Nat} {a : Nat} {A B : Api} {Fl : Prop} (k : CallOK gs cw a A)
    (e1 : B.kind = A.kind) (e2 : B.frame = A.frame) (e3 : B.outcome = A.outcome) (e4 : A.sched = true → B.sched = true)
    (e5 : Fl → B.sched = true)
    (hga : ∀ j, (gs[j]? = none ∧ gs'[j]? = none) ∨
        ∃ G G', gs[j]? = some G ∧ gs'[j]? = some G' ∧ G'.owner = G.owner ∧ G'.children = G.children ∧
          (¬ X j → G'.outer = G.outer))
    (hcw : a ∈ cw → a ∈ cw' ∨ Fl)
    (hx : ∀ g, (A.frame = .gather1 g ∨ A.frame = .gather2 g) → X g → Fl) : CallOK gs' cw' a B where
  ns := fun hf => e4 (k.ns (e2 ▸ hf))
  dn := by rw [e2, e3]; exact k.dn
  gw := fun g hf => by
    rw [e2] at hf
    obtain ⟨⟨G, hG, ho, hs⟩, hk⟩ := k.gw g hf
    rcases hga g with ⟨a', _⟩ | ⟨G0, G', a', b', c', _, e'⟩
    · exact nomatch hG.symm.trans a'
    · cases hG.symm.trans a'
      refine ⟨⟨G', b', c'.trans ho, fun hs' => ?_⟩, e1 ▸ hk⟩
      by_cases hX : X g
      · exact e5 (hx g hf hX)
      · exact e4 (hs (e' hX ▸ hs'))
  cw := fun hf => (k.cw (e2 ▸ hf)).elim (fun hw => (hcw hw).imp id e5) fun hw => Or.inr (e4 hw)

/-- `Fl a`: call `a` is flagged afterwards -/
theorem ApiOK.raise {p q : Pool} (Fl : Nat → Prop) (h : ApiOK E p)
    (hapi : ∀ (b : Nat) (B : Api), q.apis[b]? = some B → ∃ A, p.apis[b]? = some A ∧ B.kind = A.kind ∧ B.frame = A.frame ∧
      B.outcome = A.outcome ∧ (A.sched = true → B.sched = true) ∧ (Fl b → B.sched = true))
    (hga : ∀ j, (p.gathers[j]? = none ∧ q.gathers[j]? = none) ∨
        ∃ G G', p.gathers[j]? = some G ∧ q.gathers[j]? = some G' ∧ G'.owner = G.owner ∧ G'.children = G.children ∧
          (¬ X j → G'.outer = G.outer))
    (hcw : ∀ a, a ∈ p.closedWaiters → a ∈ q.closedWaiters ∨ Fl a)
    (hcl : q.closed = true → q.closedWaiters = [])
    (htl : p.tasks.length ≤ q.tasks.length) (hrl : p.reqs.length ≤ q.reqs.length) (hrg : q.RegIn) (hmc : q.McIn)
    (hx : ∀ (a : Nat) (A : Api) (g : Nat), p.apis[a]? = some A → ¬ E a → (A.frame = .gather1 g ∨ A.frame = .gather2 g) →
      X g → Fl a) : ApiOK E q := by
  refine api_mk (fun a B hB hE => ?_) hcl hrg hmc fun g G' hG' c hc => ?_
  · obtain ⟨A, hA, e1, e2, e3, e4, e5⟩ := hapi a B hB
    exact (h.call hA hE).raise e1 e2 e3 e4 e5 hga (hcw a) fun g => hx a A g hA hE
  · rcases hga g with ⟨_, b'⟩ | ⟨G0, G1, a', b', _, d', _⟩
    · exact nomatch hG'.symm.trans b'
    · cases hG'.symm.trans b'
      exact childExists_mono htl hrl c (h.ch g G0 a' c (d' ▸ hc))

/-- `hx`: no call that counts is suspended on a gather that may have completed -/
theorem ApiOK.afr {p q : Pool} (h : ApiOK E p) (hr : Afr X p q)
    (hx : ∀ (a : Nat) (A : Api) (g : Nat), p.apis[a]? = some A → ¬ E a → (A.frame = .gather1 g ∨ A.frame = .gather2 g) → ¬ X g) :
    ApiOK E q :=
  h.raise (X := X) (fun _ => False) (fun _ B hB => ⟨B, hr.apis ▸ hB, rfl, rfl, rfl, id, False.elim⟩) hr.ga
    (fun _ ha => Or.inl (hr.cw ▸ ha)) (fun hc => hr.cw.trans (h.cl (hr.closed.symm.trans hc))) hr.tl hr.rl (hr.rg h.rg)
    (hr.mc h.mc) hx

theorem ApiOK.afr0 {p q : Pool} (h : ApiOK E p) (hr : Afr (fun _ => False) p q) : ApiOK E q :=
  h.afr hr (fun _ _ _ _ _ _ => id)

theorem afr_modTask (p : Pool) (t : Nat) (f : PTask → PTask) : Afr X p (p.modTask t f) :=
  afr_of _ _ (htl := Nat.le_of_eq (List.length_modify _ _ _).symm)
theorem afr_modReq (p : Pool) (m : Nat) (f : Req → Req) : Afr X p (p.modReq m f) :=
  afr_of _ _ (hrl := Nat.le_of_eq (List.length_modify _ _ _).symm)

/-- every write of the machine but those of `asyncio.gather` and of the background calls (`Inv/Write.lean`); a registry
move keeps `RegIn` because the task moved was filed before -/
theorem afr_write {w : Who} {p q : Pool} (h : Write w p q) (hw : w ≠ .gather ∧ w ≠ .api ∧ w ≠ .closer) : Afr X p q := by
  have mod : ∀ {α} (l : List α) t f, l.length ≤ (l.modify t f).length := fun l t f => Nat.le_of_eq (List.length_modify f l t).symm
  cases h with
  | rest | emit | lost => exact afr_of _ _
  | task | flagTask | completeTask => exact afr_of _ _ (htl := mod ..)
  | req | flagReq | finishMeta => exact afr_of _ _ (hrl := mod ..)
  | fileCancelled _ f ms hf hm =>
    refine afr_of' _ _ rfl rfl rfl rfl (Nat.le_refl _) (Nat.le_of_eq (List.length_map _).symm) id fun hmc m hm' => ?_
    rw [List.length_map]
    exact (List.mem_append.mp hm').elim (hmc m) (hm m)
  | newReq => exact afr_of _ _ (hrl := List.length_append ▸ Nat.le_add_right _ _)
  | runToEnded _ t c =>
    refine afr_of _ _ (hin := fun x hx => ?_)
    rcases hx with hx | hx | hx
    · exact Or.inl (List.mem_of_mem_erase hx)
    · exact Or.inr (Or.inl hx)
    · rcases List.mem_append.mp hx with hx | hx
      · exact Or.inr (Or.inr hx)
      · exact Or.inl (List.mem_singleton.mp hx ▸ List.contains_iff_mem.mp c)
  | canToEnded _ t c =>
    refine afr_of _ _ (hin := fun x hx => ?_)
    rcases hx with hx | hx | hx
    · exact Or.inl hx
    · exact Or.inr (Or.inl (List.mem_of_mem_erase hx))
    · rcases List.mem_append.mp hx with hx | hx
      · exact Or.inr (Or.inr hx)
      · exact Or.inr (Or.inl (List.mem_singleton.mp hx ▸ List.contains_iff_mem.mp c))
  | runToCan _ t c =>
    refine afr_of _ _ (hin := fun x hx => ?_)
    rcases hx with hx | hx | hx
    · exact Or.inl (List.mem_of_mem_erase hx)
    · rcases List.mem_append.mp hx with hx | hx
      · exact Or.inr (Or.inl hx)
      · exact Or.inl (List.mem_singleton.mp hx ▸ List.contains_iff_mem.mp c)
    · exact Or.inr (Or.inr hx)
  -- the new id is `len(tasks)`
  | newTask _ m =>
    refine afr_of' _ _ rfl rfl rfl rfl (List.length_append ▸ Nat.le_add_right _ _) (mod ..) (fun hr x hx => ?_)
      fun h x hx => Nat.lt_of_lt_of_le (h x hx) (mod ..)
    rw [List.length_append]
    rcases hx with hx | hx | hx
    · rcases List.mem_append.mp hx with hx | hx
      · exact Nat.lt_succ_of_lt (hr x (Or.inl hx))
      · exact List.mem_singleton.mp hx ▸ Nat.lt_succ_self _
    · exact Nat.lt_succ_of_lt (hr x (Or.inr (Or.inl hx)))
    · exact Nat.lt_succ_of_lt (hr x (Or.inr (Or.inr hx)))
  | modGather | flagApi | newGather => exact absurd rfl hw.1
  | newApi | modApi | unfiled | forget | waitClosed => exact absurd rfl hw.2.1
  | close => exact absurd rfl hw.2.2

theorem afr_steps {S : Who → Prop} (hS : ¬ S .gather ∧ ¬ S .api ∧ ¬ S .closer) {p q : Pool} (h : Steps S p q) : Afr X p q :=
  h.frame Afr.refl Afr.trans fun _ _ _ hs x =>
    afr_write x ⟨fun e => hS.1 (e ▸ hs), fun e => hS.2.1 (e ▸ hs), fun e => hS.2.2 (e ▸ hs)⟩

theorem afr_stepTask (p : Pool) (t : Nat) : Afr X p (p.stepTask t) :=
  afr_steps ⟨nofun, nofun, nofun⟩ (steps_runRef p (.task t))

theorem afr_stepMeta (p : Pool) (m : Nat) : Afr X p (p.stepMeta m) :=
  afr_steps ⟨nofun, nofun, nofun⟩ (steps_runRef p (.spawner m))

theorem afr_applyOp (p : Pool) {op : Op} (hs : op.starts = none) : Afr X p (p.applyOp op).1 :=
  afr_steps ⟨nofun, nofun, nofun⟩ (steps_applyOp_sync p hs)

theorem afr_modGather (p : Pool) (g : Nat) (f : Gather → Gather) (ho : ∀ G, (f G).owner = G.owner)
    (hc : ∀ G, (f G).children = G.children) (hx : X g ∨ ∀ G, (f G).outer = G.outer) : Afr X p (p.modGather g f) := by
  refine ⟨rfl, fun j => ?_, rfl, rfl, Nat.le_refl _, Nat.le_refl _, id, id⟩
  cases h : p.gathers[j]? with
  | none => exact Or.inl ⟨rfl, by rw [modGather, List.getElem?_modify, h]; rfl⟩
  | some G =>
    exact Or.inr ⟨G, _, rfl, getElem?_modify_of h g f, dite_keeps
      (P := fun G' : Gather => G'.owner = G.owner ∧ G'.children = G.children ∧ (¬ X j → G'.outer = G.outer))
      (fun e => ⟨ho G, hc G, fun hn => hx.resolve_left (e ▸ hn) G⟩) fun _ => ⟨rfl, rfl, fun _ => rfl⟩⟩

/-- what `gatherChildDone` does, as far as `ApiOK` can see: it counts the child (`same`), or it also completes the
outer future of `g` and, run from a handle, flags the owner (`completes`) -/
theorem gatherChildDone_rule (P : Pool → Prop) (p : Pool) (g i : Nat) (v : Bool)
    (same : ∀ q, (∀ Y, Afr Y p q) → P q)
    (completes : ∀ G q, p.gathers[g]? = some G → Afr (· = g) p q → P (if v then q.schedApi G.owner else q)) :
    P (p.gatherChildDone g i v) := by
  have h1 : ∀ Y : Nat → Prop, Afr Y p (p.modGather g fun x => { x with nfinished := x.nfinished + 1 }) :=
    fun Y => afr_modGather p g _ (fun _ => rfl) (fun _ => rfl) (Or.inr fun _ => rfl)
  have h2 := fun (G : Gather) (o : Outcome) hG => completes G _ hG
    ((h1 _).trans (afr_modGather _ g (fun x => { x with outer := some o }) (fun _ => rfl) (fun _ => rfl) (Or.inl rfl)))
  refine gatherChildDone_elim p g i v _ rfl (fun _ => same p fun _ => Afr.refl p) (fun _ _ _ => same p fun _ => Afr.refl p)
    (fun _ _ _ _ _ => same _ h1) (fun _ _ _ _ _ _ => same _ h1) (fun _ _ _ _ _ _ _ _ => same _ h1)
    (fun G _ o hG _ _ _ _ hv => ?_) (fun G _ o hG _ _ _ _ hv => ?_)
  · have := h2 G o hG
    rwa [hv, if_pos rfl] at this
  · have := h2 G o hG
    rwa [hv, if_neg Bool.false_ne_true] at this

/-- the callback of a child that was already done when the gather was made: only that gather changes -/
theorem afr_gatherChildDone (p : Pool) (g i : Nat) : Afr (· = g) p (p.gatherChildDone g i false) :=
  gatherChildDone_rule _ p g i false (fun _ h => h _) (fun _ _ _ h => h)

theorem afr_registerChild (p : Pool) (c : Child) (g i : Nat) : Afr X p (p.registerChild c g i) := by
  unfold registerChild
  split
  · exact afr_modTask _ _ _
  · exact afr_modReq _ _ _

theorem afr_gatherScan (g : Nat) (cs : List Child) (i : Nat) (p : Pool) : Afr (· = g) p (gatherScan g cs i p) := by
  induction cs generalizing i p with
  | nil => unfold gatherScan; exact Afr.refl p
  | cons c cs ih =>
    unfold gatherScan
    refine Afr.trans ?_ (ih _ _)
    split
    · exact afr_gatherChildDone p g i
    · exact afr_registerChild p c g i

theorem ApiOK.weaken {E' : Nat → Prop} {p : Pool} (h : ApiOK E p) (hE : ∀ a, ¬ E' a → ¬ E a) : ApiOK E' p :=
  api_mk (fun a _ hA e => h.call hA (hE a e)) h.cl h.rg h.mc h.ch

theorem ApiOK.modApi_self {p : Pool} {a : Nat} (h : ApiOK (· = a) p) (f : Api → Api) : ApiOK (· = a) (p.modApi a f) :=
  api_mk (fun b B hB hE => by
    obtain ⟨x, hx, rfl⟩ := getElem?_modify_some _ _ _ _ _ hB
    rw [if_neg fun e => hE e.symm]
    exact h.call hx hE) h.cl h.rg h.mc h.ch

theorem ApiOK.close {p : Pool} {a : Nat} (h : ApiOK (· = a) p)
    (hA : ∀ A, p.apis[a]? = some A → CallOK p.gathers p.closedWaiters a A) : ApiWant p :=
  api_mk (fun b B hB _ => by
    by_cases e : b = a
    · subst e; exact hA B hB
    · exact h.call hB e) h.cl h.rg h.mc h.ch

theorem api_finishApi {p : Pool} {a : Nat} (h : ApiOK (· = a) p) (o : Outcome) : ApiWant (p.finishApi a o) := by
  refine (h.modApi_self _).close fun A hA => ?_
  obtain ⟨x, _, rfl⟩ := getElem?_modify_self hA
  exact ⟨nofun, ⟨fun _ => rfl, fun _ => rfl⟩, fun g hf => hf.elim nofun nofun, nofun⟩

theorem schedApi_apis (q : Pool) (w b : Nat) (B : Api) (hB : (q.schedApi w).apis[b]? = some B) :
    ∃ A, q.apis[b]? = some A ∧ B.kind = A.kind ∧ B.frame = A.frame ∧ B.outcome = A.outcome ∧
      (A.sched = true → B.sched = true) ∧ (b = w → B.sched = true) := by
  obtain ⟨A, hA, rfl⟩ := getElem?_modify_some q.apis w b _ B hB
  exact ⟨A, hA, dite_keeps (P := fun B : Api => B.kind = A.kind ∧ B.frame = A.frame ∧ B.outcome = A.outcome ∧
    (A.sched = true → B.sched = true) ∧ (b = w → B.sched = true)) (fun _ => ⟨rfl, rfl, rfl, fun _ => rfl, fun _ => rfl⟩)
    fun e => ⟨rfl, rfl, rfl, id, fun e' => absurd e'.symm e⟩⟩

/-- `ApiOK.afr` when gathers in `X` may have completed under a call that counts: flag that call -/
theorem ApiOK.afr_sched {p q : Pool} (h : ApiOK E p) (hr : Afr X p q) (w : Nat)
    (hx : ∀ (a : Nat) (A : Api) (g : Nat), p.apis[a]? = some A → ¬ E a → (A.frame = .gather1 g ∨ A.frame = .gather2 g) →
      X g → a = w) : ApiOK E (q.schedApi w) := by
  rw [schedApi_eq]
  refine h.raise (X := X) (· = w) ?_ hr.ga (fun a ha => Or.inl (hr.cw ▸ ha)) ?_ hr.tl hr.rl (hr.rg h.rg) (hr.mc h.mc) hx
  · intro b B hB
    rw [← hr.apis]
    exact schedApi_apis q w b B (schedApi_eq q w ▸ hB)
  · intro hc
    exact hr.cw.trans (h.cl (hr.closed.symm.trans hc))

theorem api_gatherChildDone {p : Pool} (h : ApiOK E p) (g i : Nat) : ApiOK E (p.gatherChildDone g i true) := by
  refine gatherChildDone_rule _ p g i true (fun _ hq => h.afr0 (hq _)) ?_
  intro G q hG hq
  refine h.afr_sched hq G.owner ?_
  intro a A g' hA hE hf hX
  obtain ⟨G', hG', ho, _⟩ := h.gw a A g' hA hE hf
  subst hX
  rw [hG] at hG'; cases hG'
  exact ho.symm

theorem ch_tasks (p : Pool) (l : List Nat) (hl : ∀ t ∈ l, t < p.tasks.length) : ∀ c ∈ l.map Child.task, p.childExists c := by
  intro c hc
  simp only [List.mem_map] at hc
  obtain ⟨t, ht, rfl⟩ := hc
  exact hl t ht

theorem ch_spawners (p : Pool) (l : List Nat) (hl : ∀ m ∈ l, m < p.reqs.length) :
    ∀ c ∈ l.map Child.spawner, p.childExists c := by
  intro c hc
  simp only [List.mem_map] at hc
  obtain ⟨m, hm, rfl⟩ := hc
  exact hl m hm

theorem api_gatherStart_aux {p p1 q : Pool} (h : ApiOK E p) (G0 : Gather) (amb : Bool) (cs : List Child)
    (hc : ∀ c ∈ G0.children, p.childExists c) (h1 : p1 = { p with gathers := p.gathers ++ [G0], ambiguous := amb })
    (hq : q = gatherScan p.gathers.length cs 0 p1) :
    ApiOK E q ∧ q.apis = p.apis ∧ ∃ G, q.gathers[p.gathers.length]? = some G ∧ G.owner = G0.owner := by
  have hs := afr_gatherScan p.gathers.length cs 0 p1
  rw [← hq] at hs
  subst h1
  refine ⟨ApiOK.afr ?_ hs fun a A g hA hE hf hX => ?_, hs.apis, ?_⟩
  · refine { h with gw := fun a A g hA hE hf => ?_, ch := fun g G hG c hcc => ?_ }
    · obtain ⟨G, hG, r⟩ := h.gw a A g hA hE hf
      exact ⟨G, getElem?_append_of hG _, r⟩
    · rcases getElem?_append_one (l := p.gathers) hG with hG | ⟨_, rfl⟩
      · exact h.ch g G hG c hcc
      · exact hc c hcc
  · obtain ⟨G, hG, _⟩ := h.gw a A g hA hE hf
    subst hX
    exact nomatch (List.getElem?_eq_none (Nat.le_refl _)).symm.trans hG
  · have hl : (p.gathers ++ [G0])[p.gathers.length]? = some G0 := List.getElem?_concat_length
    rcases hs.ga p.gathers.length with ⟨a', _⟩ | ⟨G, G', a', b', c', _⟩
    · exact nomatch hl.symm.trans a'
    · cases hl.symm.trans a'
      exact ⟨G', b', c'⟩

theorem api_gatherStart {p : Pool} (h : ApiOK E p) (children : List Child) (re : Bool) (owner n : Nat)
    (hc : ∀ c ∈ children, p.childExists c) {q : Pool × Nat} (hq : q = p.gatherStart children re owner n) :
    ApiOK E q.1 ∧ q.1.apis = p.apis ∧ ∃ G, q.1.gathers[q.2]? = some G ∧ G.owner = owner := by
  subst hq
  exact api_gatherStart_aux h
    { children := children, nfinished := 0, owner := owner, retExc := re, outer := if children.isEmpty then some .ok else none }
    _ children hc rfl rfl

theorem api_setFrame {p : Pool} {a : Nat} {k : ApiKind} (h : ApiOK (· = a) p) (own : Runs p.apis a k) (hk : k ≠ .untilClosed)
    (g : Nat) (fr : AFrame)
    (hfr : fr = .gather1 g ∨ fr = .gather2 g) (hG : ∃ G, p.gathers[g]? = some G ∧ G.owner = a)
    (ho : p.gatherOuter g = none) : ApiWant (p.modApi a fun x => { x with frame := fr }) := by
  refine (h.modApi_self _).close ?_
  intro A hA
  obtain ⟨x, hx, rfl⟩ := getElem?_modify_self hA
  obtain ⟨G, hG, hGo⟩ := hG
  have hno : G.outer = none := by rwa [gatherOuter, hG] at ho
  have hx1 := (own.get hx).1
  have hx2 : x.kind ≠ .untilClosed := (own.get hx).2 ▸ hk
  refine ⟨?_, ?_, ?_, ?_⟩
  · intro hf; rcases hfr with rfl | rfl <;> cases hf
  · simp only [hx1]
    constructor
    · intro hh; cases hh
    · intro hf; rcases hfr with rfl | rfl <;> cases hf
  · intro g' hf
    have : g' = g := by
      rcases hfr with rfl | rfl <;> rcases hf with hf | hf <;> cases hf <;> rfl
    subst this
    refine ⟨⟨G, hG, hGo, ?_⟩, hx2⟩
    intro hs; rw [hno] at hs; cases hs
  · intro hf; rcases hfr with rfl | rfl <;> cases hf

theorem foldl_schedApi (ws : List Nat) (p : Pool) : ∃ as em,
    ws.foldl (fun p w => p.schedApi w) p = { p with apis := as, emit := em } ∧
    ∀ (b : Nat) (B : Api), as[b]? = some B →
      ∃ A, p.apis[b]? = some A ∧ B.kind = A.kind ∧ B.frame = A.frame ∧ B.outcome = A.outcome ∧
        (A.sched = true → B.sched = true) ∧ (b ∈ ws → B.sched = true) := by
  obtain ⟨as, em, e, hap⟩ := foldl_schedApi_eq ws p
  refine ⟨as, em, e, fun b B hB => ?_⟩
  obtain ⟨A, hA, rfl⟩ := Option.map_eq_some_iff.mp ((hap b).symm.trans hB)
  refine ⟨A, hA, ?_⟩
  by_cases hb : b ∈ ws
  · rw [if_pos hb]; exact ⟨rfl, rfl, rfl, fun _ => rfl, fun _ => rfl⟩
  · rw [if_neg hb]; exact ⟨rfl, rfl, rfl, id, fun hm => absurd hm hb⟩

/-- `ApiOK` with call `a` (of kind `k`) exempt while it runs -/
structure AwAt (a : Nat) (k : ApiKind) (p : Pool) : Prop where
  ok : ApiOK (· = a) p
  run : Runs p.apis a k

/-- right after a gather was started: it is owned by `a` -/
structure AwG (a : Nat) (k : ApiKind) (q : Pool × Nat) : Prop extends AwAt a k q.1 where
  g : ∃ G, q.1.gathers[q.2]? = some G ∧ G.owner = a

theorem AwAt.start {a : Nat} {k : ApiKind} {p q : Pool} (h : AwAt a k p) (hq : ApiOK (· = a) q) {cs : List Child} {re : Bool} {n : Nat}
    (hc : ∀ c ∈ cs, q.childExists c) (ha : q.apis = p.apis := by rfl) : AwG a k (q.gatherStart cs re a n) :=
  have ⟨h1, h2, h3⟩ := api_gatherStart hq cs re a n hc rfl
  ⟨⟨h1, h2 ▸ ha ▸ h.run⟩, h3⟩

/-- `by exact`: the state the gather starts from is read off the expected type -/
theorem aw_staged (a : Nat) : ApiStaged (fun k _ => AwAt a k) (fun k _ => AwG a k) ApiWant a where
  headF1 := fun _ p n h => by
    exact h.start (h.ok.afr0 (afr_of _ _ (hrl := Nat.le_of_eq (List.length_map _).symm)))
      (List.forall_mem_append.mpr ⟨ch_spawners _ _ fun m hm => by rw [List.length_map]; exact h.ok.mc m hm,
        ch_spawners _ _ fun m hm => by rw [List.length_map]; exact mem_indicesWhere_lt hm⟩)
  headF2 := fun _ p _ _ h => by
    have h1 : ApiOK (· = a) ({ p with metaCancelled := [], reqs := p.reqs.map fun (r : Req) => { r with inCancelled := false } } : Pool) :=
      h.ok.afr0 (afr_of _ _ (hmc := fun _ h => nomatch h) (hrl := Nat.le_of_eq (List.length_map _).symm))
    have h2 : AwAt a _ (p.modApi a fun x => { x with snapE := p.ended, snapC := p.cancelledR }) :=
      ⟨h.ok.modApi_self _, h.run.modApi _ fun _ => ⟨rfl, rfl⟩⟩
    exact h2.start (h1.modApi_self _)
      (List.forall_mem_append.mpr
        ⟨ch_tasks _ _ fun t ht => h.ok.rg t (Or.inr (Or.inr ht)), ch_tasks _ _ fun t ht => h.ok.rg t (Or.inr (Or.inl ht))⟩)
  headG1 := fun _ p h => by
    exact h.start (h.ok.afr0 (afr_of _ _))
      (List.forall_mem_append.mpr ⟨ch_spawners _ _ fun m hm => h.ok.mc m hm, ch_spawners _ _ fun m hm => mem_indicesWhere_lt hm⟩)
  headG2 := fun _ p _ _ h => by
    have h1 : ApiOK (· = a) ({ p with metaCancelled := [], reqs := p.reqs.map fun (r : Req) => { r with inCancelled := false, inRunning := false } } : Pool) :=
      h.ok.afr0 (afr_of _ _ (hmc := fun _ h => nomatch h) (hrl := Nat.le_of_eq (List.length_map _).symm))
    exact h.start h1
      (List.forall_mem_append.mpr ⟨List.forall_mem_append.mpr ⟨ch_tasks _ _ fun t ht => h.ok.rg t (Or.inr (Or.inr ht)),
        ch_tasks _ _ fun t ht => h.ok.rg t (Or.inr (Or.inl ht))⟩, ch_tasks _ _ fun t ht => h.ok.rg t (Or.inl ht)⟩)
  go := fun _ _ _ _ h _ => h.toAwAt
  suspend := fun k b q hk h ho => api_setFrame h.ok h.run hk _ _ (by cases b; exact .inl rfl; exact .inr rfl) h.g ho
  finish := fun _ _ _ o _ h _ _ _ => api_finishApi h.ok o
  raised := fun _ _ _ _ _ h _ => api_finishApi h.ok _
  forget := fun _ p _ h => api_finishApi (h.ok.afr0 (afr_of _ _ (hin := fun x hx =>
    hx.imp id (Or.imp (fun h => (List.mem_filter.mp h).1) fun h => (List.mem_filter.mp h).1)))) _
  closing := fun _ p _ h => by
    obtain ⟨as, em, e, hap⟩ := foldl_schedApi p.closedWaiters
      ({ p with ended := [], cancelledR := [], running := [], closed := true, closedWaiters := [],
                lost := p.lost || (p.running ++ p.cancelledR).any p.heldB } : Pool)
    rw [e]
    apply api_finishApi
    refine h.ok.raise (X := fun _ => False) (· ∈ p.closedWaiters) hap (Afr.refl p).ga (fun a ha => Or.inr ha)
      (fun _ => rfl) (Nat.le_refl _) (Nat.le_refl _) (fun t ht => ?_) h.ok.mc fun _ _ _ _ _ _ hX => hX.elim
    exact ht.elim nofun (·.elim nofun nofun)
  seenClosed := fun _ h _ => api_finishApi h.ok _
  waitClosed := fun p h hcl => by
    have h1 : ApiOK (· = a) ({ p with closedWaiters := p.closedWaiters ++ [a] } : Pool) :=
      { h.ok with cw := fun b B hB hE hf => (h.ok.cw b B hB hE hf).imp (fun hm => List.mem_append_left _ hm) id
                  cl := fun hc => nomatch hcl.symm.trans hc }
    refine (h1.modApi_self _).close fun A hA => ?_
    obtain ⟨x, hx, rfl⟩ := getElem?_modify_self hA
    exact ⟨nofun, by simp only [(h.run.get hx).1]; exact ⟨nofun, nofun⟩, fun g hf => hf.elim nofun nofun,
      fun _ => Or.inl (List.mem_append_right _ (List.mem_singleton.mpr rfl))⟩

theorem api_idle {p : Pool} {a : Nat} {A : Api} (h : ApiOK (· = a) p) (hA : p.apis[a]? = some A)
    (hdn : A.outcome.isSome = true ↔ A.frame = .done) (hns : A.frame ≠ .notStarted) (hwc : A.frame ≠ .waitClosed)
    (hgw : ∀ g, (A.frame = .gather1 g ∨ A.frame = .gather2 g) →
      (∃ G : Gather, p.gathers[g]? = some G ∧ G.owner = a ∧ G.outer = none) ∧ A.kind ≠ .untilClosed) : ApiWant p :=
  h.close fun B hB => by
    cases hA.symm.trans hB
    refine ⟨fun e => absurd e hns, hdn, fun g hf => ⟨?_, (hgw g hf).2⟩, fun e => absurd e hwc⟩
    obtain ⟨G, hG, ho, hn⟩ := (hgw g hf).1
    exact ⟨G, hG, ho, fun c => nomatch hn ▸ c⟩

theorem api_stepApi {p : Pool} (h : ApiWant p) (a : Nat) : ApiWant (p.stepApi a) := by
  have h1 : ApiOK (· = a) (p.modApi a fun x => { x with sched := false }) := (h.weaken fun _ _ => id).modApi_self _
  have hG : ∀ g : Nat, (p.modApi a fun x => { x with sched := false }).gathers[g]? = p.gathers[g]? := fun _ => rfl
  have ent : ∀ A, p.apis[a]? = some A → A.frame ≠ .done → AwAt a A.kind (p.modApi a fun x => { x with sched := false }) :=
    fun A hA hf => ⟨h1, _, modify_get_self hA _, Option.not_isSome_iff_eq_none.mp fun c => hf ((h.dn a A hA id).mp c), rfl⟩
  refine (aw_staged a).stepApi _ rfl h (fun A hA _ hns hwc hgo => ?_) (fun A hA _ hf => ent A hA (hf ▸ nofun))
    (fun A b g _ hA _ hf _ _ => ent A hA (hf ▸ by cases b <;> exact nofun)) fun _ _ _ _ => api_finishApi h1 _
  -- nothing to resume: the call is over, or the outer future of its gather has not completed
  refine api_idle h1 (modify_get_self hA _) (h.dn a A hA id) hns hwc fun g hf => ?_
  have ⟨G, hg, ho, _⟩ := h.gw a A g hA id hf
  refine ⟨⟨G, (hG g).trans hg, ho, ?_⟩, h.kd a A g hA id hf⟩
  have e := (hgo g hf).resolve_left (h.kd a A g hA id hf)
  rwa [gatherOuter, hG, hg] at e

theorem api_runRef {p : Pool} (h : ApiWant p) (r : Ref) : ApiWant (p.runRef r) := by
  cases r with
  | task t => exact h.afr0 (afr_stepTask p t)
  | spawner m => exact h.afr0 (afr_stepMeta p m)
  | api a => exact api_stepApi h a
  | gchild g i => exact api_gatherChildDone h g i

theorem api_addApi {p : Pool} (h : ApiOK E p) (k : ApiKind) : ApiOK E (p.addApi k) :=
  addApi_eq p k ▸ api_mk (fun b B hB hE => by
    rcases getElem?_append_one (l := p.apis) hB with hB | ⟨_, rfl⟩
    · exact h.call hB hE
    · exact ⟨fun _ => rfl, ⟨nofun, nofun⟩, fun g hf => hf.elim nofun nofun, nofun⟩) h.cl h.rg h.mc h.ch

theorem api_applyOp {p : Pool} (h : ApiOK E p) (op : Op) : ApiOK E (p.applyOp op).1 := by
  cases hs : op.starts with
  | none => exact h.afr0 (afr_applyOp p hs)
  | some k => exact applyOp_starts p hs ▸ api_addApi h k

end Pool

theorem apiInvariant : PoolInvariant (fun _ p => Pool.ApiWant p) allOps where
  init := fun _ _ _ => ⟨fun _ _ h => (nomatch h), fun _ _ h => (nomatch h), fun _ _ _ h => (nomatch h),
    fun _ _ _ h => (nomatch h), fun _ _ h => (nomatch h), fun _ => rfl,
    fun _ ht => ht.elim (nomatch ·) (·.elim (nomatch ·) (nomatch ·)), fun _ h => (nomatch h), fun _ _ h => (nomatch h)⟩
  op := by
    intro c p orders o _ h
    exact Pool.api_applyOp (h.afr0 (q := ({ p with orders := orders } : Pool)) (Pool.afr_of _ _)) o
  run := by
    intro c p orders r h
    exact Pool.api_runRef (h.afr0 (q := ({ p with orders := orders } : Pool)) (Pool.afr_of _ _)) r
  drain := by
    intro c p h
    exact h.afr0 (q := ({ p with emit := [] } : Pool)) (Pool.afr_of _ _)

end Taskpool
