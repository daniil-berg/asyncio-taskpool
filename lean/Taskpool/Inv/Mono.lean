import Taskpool.Inv.Steps
import Taskpool.Inv.Loops
import Taskpool.Inv.Wrapper
import Taskpool.Inv.ApiStages
import Taskpool.Inv.Write
/-! Every step of the pool machine is monotone (`Mono`, `Inv/Tame.lean`): tasks and requests are only appended, a
finished task stays finished, progress counters never decrease, a cancellation snapshot is never rewritten, a request
keeps its outcome, a closed pool stays closed.  This is a relation between the state before and after a step: reflexive,
transitive, and it holds of every single write (`monoX_write`, by cases on `Write`; a tame write gets it from
`Tame.mono`), hence of every step by `Steps.frame`.  The one write that breaks it is the wrapper of task `x` rewriting
the record of `x`: `MonoX x` exempts that task, and `MonoX.close` / `mono_steps` remove the exemption. -/
namespace Taskpool

/-- `Mono`, with the task that is being stepped exempt from "finished stays finished" -/
structure MonoX (x : Nat) (p q : Pool) : Prop where
  tl : p.tasks.length ≤ q.tasks.length
  fin : ∀ (t : Nat) (tk : PTask), t ≠ x → p.tasks[t]? = some tk → tk.phase = .finished →
        ∃ tk', q.tasks[t]? = some tk' ∧ tk'.phase = .finished
  rl : p.reqs.length ≤ q.reqs.length
  rq : ∀ (m : Nat) (r : Req), p.reqs[m]? = some r → ∃ r', q.reqs[m]? = some r' ∧ r.created ≤ r'.created ∧
        r.pulled ≤ r'.pulled ∧ (∀ s, r.cancelSnap = some s → r'.cancelSnap = some s) ∧
        (r.outcome.isSome = true → r'.outcome.isSome = true)
  cl : p.closed = true → q.closed = true

theorem Mono.toX {p q : Pool} (h : Mono p q) (x : Nat) : MonoX x p q :=
  ⟨h.tl, fun t tk _ a b => h.fin t tk a b, h.rl, h.rq, h.cl⟩

theorem MonoX.refl (x : Nat) (p : Pool) : MonoX x p p := (Mono.refl p).toX x

theorem MonoX.trans {x : Nat} {p q r : Pool} (h1 : MonoX x p q) (h2 : MonoX x q r) : MonoX x p r := by
  refine ⟨Nat.le_trans h1.tl h2.tl, ?_, Nat.le_trans h1.rl h2.rl, ?_, fun h => h2.cl (h1.cl h)⟩
  · intro t tk hne a b
    obtain ⟨tk', a', b'⟩ := h1.fin t tk hne a b
    exact h2.fin t tk' hne a' b'
  · intro m y a
    obtain ⟨y', a', c1, c2, c3, c4⟩ := h1.rq m y a
    obtain ⟨y'', a'', d1, d2, d3, d4⟩ := h2.rq m y' a'
    exact ⟨y'', a'', Nat.le_trans c1 d1, Nat.le_trans c2 d2, fun s hs => d3 s (c3 s hs), fun h => d4 (c4 h)⟩

/-- the exempted task was not finished to begin with: nothing is exempt -/
theorem MonoX.close {x : Nat} {p q : Pool} {tk : PTask} {ph : Phase} (h : MonoX x p q) (htk : p.tasks[x]? = some tk)
    (e : tk.phase = ph) (hne : ph ≠ .finished := by decide) : Mono p q :=
  ⟨h.tl, fun t tk' a b => by
      by_cases e' : t = x
      · subst e'; rw [htk] at a; cases a; exact absurd (e ▸ b) hne
      · exact h.fin t tk' e' a b, h.rl, h.rq, h.cl⟩

namespace Pool

variable {p₀ p : Pool} {t : Nat}

/-! The lemmas down to `m_newTask` have the form `Mono p₀ p → Mono p₀ (f p)` (`MonoX t p₀ p → MonoX t p₀ (f p)` for a
rewrite of the exempt task `t`), so that a composite step is an application. -/

theorem _root_.Taskpool.MonoX.mono (h : MonoX t p₀ p) {q : Pool} (hq : Mono p q) : MonoX t p₀ q := h.trans (hq.toX t)

theorem _root_.Taskpool.Mono.tame (h : Mono p₀ p) {q : Pool} (hq : Tame p q) : Mono p₀ q := h.trans hq.mono

theorem _root_.Taskpool.Mono.same (h : Mono p₀ p) (q : Pool) (ht : q.tasks = p.tasks := by rfl) (hr : q.reqs = p.reqs := by rfl)
    (hc : p.closed = true → q.closed = true := by exact id) : Mono p₀ q :=
  ⟨ht ▸ h.tl, by rw [ht]; exact h.fin, hr ▸ h.rl, by rw [hr]; exact h.rq, fun e => hc (h.cl e)⟩

theorem mx_modTask (h : MonoX t p₀ p) (f : PTask → PTask) : MonoX t p₀ (p.modTask t f) := by
  refine h.trans ⟨by simp only [modTask_tasks, List.length_modify]; exact Nat.le_refl _, ?_, Nat.le_refl _,
    fun _ r a => ⟨r, a, Nat.le_refl _, Nat.le_refl _, fun _ h => h, fun h => h⟩, fun h => h⟩
  intro i tk hne a b
  exact ⟨tk, (getElem?_modify_of a t f).trans (congrArg some (if_neg fun e => hne e.symm)), b⟩

theorem m_mapReqs (h : Mono p₀ p) (q : Pool) (f : Req → Req) (hr : q.reqs = p.reqs.map f)
    (hf : ∀ x, (f x).created = x.created ∧ (f x).pulled = x.pulled ∧ (f x).cancelSnap = x.cancelSnap ∧ (f x).outcome = x.outcome)
    (ht : q.tasks = p.tasks := by rfl) (hc : q.closed = p.closed := by rfl) : Mono p₀ q := by
  refine h.trans (Mono.of_parts p q (by rw [ht]; exact Nat.le_refl _) (fun t tk a b => ⟨tk, by rw [ht]; exact a, b⟩)
    (by rw [hr, List.length_map]; exact Nat.le_refl _) (fun m r a => ?_) hc)
  obtain ⟨c, u, s, o⟩ := hf r
  exact ⟨f r, hr ▸ getElem?_map_of a, c, u, fun _ e => s.trans e, fun e => o.symm ▸ e⟩

/-- the one place where a task is appended and `created` moves -/
theorem m_newTask (h : Mono p₀ p) (m : Nat) (k : PTask) (q : Pool) (ht : q.tasks = p.tasks ++ [k])
    (hr : q.reqs = p.reqs.modify m fun x => { x with created := x.created + 1 }) (hc : q.closed = p.closed := by rfl) :
    Mono p₀ q := by
  refine h.trans ⟨ht ▸ List.length_append ▸ Nat.le_add_right _ _, fun i tk a b => ⟨tk, ?_, b⟩,
    hr ▸ Nat.le_of_eq (List.length_modify ..).symm, ?_, fun e => hc ▸ e⟩
  · exact ht ▸ getElem?_append_of a _
  · rw [hr]
    exact (Mono.modReq p m (fun x => { x with created := x.created + 1 }) (fun _ => ⟨Nat.le_succ _, Nat.le_refl _⟩) (fun _ _ e => e) fun _ e => e).rq

/-- but for the wrapper, what is written into a task record are the fields `Task.cancel()` writes and `doneCbs` -/
theorem soft_taskW {w t k' k} (h : TaskW w t k' k) (hw : w ≠ .wrap t) : k'.soft = k.soft := by
  cases h with
  | soft h => obtain ⟨_, _, _, e⟩ := h; rw [e]; rfl
  | own => exact absurd rfl hw
  | reg _ h => rw [h]; rfl

theorem mono_reqW {w m r' r} (h : ReqW w m r' r) : (r.created ≤ r'.created ∧ r.pulled ≤ r'.pulled) ∧
    (∀ s, r.cancelSnap = some s → r'.cancelSnap = some s) ∧ (r.outcome.isSome = true → r'.outcome.isSome = true) := by
  cases h with
  | soft h => obtain ⟨_, _, _, e, hz⟩ := h; rw [e]; exact ⟨⟨Nat.le_refl _, Nat.le_refl _⟩, hz, id⟩
  | own h => exact ⟨⟨h.created, h.pulled⟩, fun _ e => h.snap.trans e, fun e => h.outcome.symm ▸ e⟩
  | reg _ h => rw [h]; exact ⟨⟨Nat.le_refl _, Nat.le_refl _⟩, fun _ e => e, id⟩

/-- every write of the machine (`Inv/Write.lean`); the wrapper of task `x` rewrites the record of `x` only, which
`MonoX x` does not read -/
theorem monoX_write {w : Who} {p q : Pool} (x : Nat) (h : Write w p q) (hx : ∀ t, w = .wrap t → t = x) : MonoX x p q := by
  have r := Mono.refl p
  cases h with
  | rest | emit | lost | runToEnded | canToEnded | runToCan | modGather | newGather | modApi | forget | waitClosed | flagApi
    | newApi => exact (r.same _).toX x
  | close =>
    refine Mono.toX ?_ x
    exact r.same _ rfl rfl fun _ => rfl
  | req _ m f hf =>
    exact (Mono.modReq p m f (fun y => (mono_reqW (hf y)).1) (fun y => (mono_reqW (hf y)).2.1) fun y => (mono_reqW (hf y)).2.2).toX x
  | flagReq _ m =>
    exact ((Mono.modReq p m (fun y => { y with sched := true }) (fun _ => ⟨Nat.le_refl _, Nat.le_refl _⟩) (fun _ _ e => e)
      fun _ e => e).same _).toX x
  | flagTask _ t => exact (((tame_modTask p t fun y => { y with sched := true }).mono).same _).toX x
  | task _ t f hf =>
    by_cases e : w = .wrap t
    · exact hx t e ▸ mx_modTask (.refl t p) f
    · exact (tame_modTask p t f fun y => soft_taskW (hf y) e).mono.toX x
  | completeTask _ t => exact hx t rfl ▸ (mx_modTask (.refl t p) _).mono (.same (.refl _) _)
  | fileCancelled _ f ms hf hm | unfiled _ f ms hf hm =>
    refine (m_mapReqs r _ f rfl fun y => ?_).toX x
    obtain ⟨_, _, _, e, _⟩ := hf y
    rw [e]
    exact ⟨rfl, rfl, rfl, rfl⟩
  | newReq =>
    refine Mono.toX ?_ x
    refine Mono.of_parts p _ (Nat.le_refl _) (fun _ tk a b => ⟨tk, a, b⟩) (List.length_append ▸ Nat.le_add_right _ _)
      (fun i y a => ⟨y, ?_, rfl, rfl, fun _ e => e, id⟩) rfl
    exact getElem?_append_of a _
  | finishMeta _ m _ _ o =>
    exact ((Mono.modReq p m (fun y => { y with frame := .done, outcome := some o, sched := false, mustCancel := false })
      (fun _ => ⟨Nat.le_refl _, Nat.le_refl _⟩) (fun _ _ e => e) fun _ _ => rfl).same _).toX x
  | newTask _ m => exact (m_newTask r m _ _ rfl rfl).toX x

theorem monoX_steps {S : Who → Prop} {x : Nat} (hS : ∀ t, S (.wrap t) → t = x) {p q : Pool} (h : Steps S p q) : MonoX x p q :=
  h.frame (MonoX.refl x) MonoX.trans fun _ _ _ hs w => monoX_write x w fun t e => hS t (e ▸ hs)

/-- nobody's wrapper takes part: nothing is exempt (exempt one task, then another) -/
theorem mono_steps {S : Who → Prop} (hS : ∀ t, ¬ S (.wrap t)) {p q : Pool} (h : Steps S p q) : Mono p q := by
  have h0 : MonoX 0 p q := monoX_steps (fun t a => (hS t a).elim) h
  have h1 : MonoX 1 p q := monoX_steps (fun t a => (hS t a).elim) h
  refine ⟨h0.tl, fun t tk a b => ?_, h0.rl, h0.rq, h0.cl⟩
  cases t with
  | zero => exact h1.fin 0 tk nofun a b
  | succ n => exact h0.fin _ tk nofun a b

theorem monoX_workerCancelled (p : Pool) (t : Nat) (tk : PTask) : MonoX t p (p.workerCancelled t tk) :=
  monoX_steps (fun | _, .inr rfl => rfl) (steps_workerCancelled p t tk)

/-- one step of a pool task's wrapper is monotone: a finished task is not stepped at all, so the exemption of the
task that is stepped costs nothing -/
theorem mono_stepTask (p : Pool) (t : Nat) : Mono p (p.stepTask t) := by
  have hx : MonoX t p (p.stepTask t) := monoX_steps (fun | _, .inr rfl => rfl) (steps_runRef p (.task t))
  cases htk : p.tasks[t]? with
  | none => exact ⟨hx.tl, fun i tk a b => hx.fin i tk (fun e => by rw [e, htk] at a; cases a) a b, hx.rl, hx.rq, hx.cl⟩
  | some tk =>
    by_cases hf : tk.phase = .finished
    · unfold stepTask
      rw [htk]
      dsimp only
      refine ite_keeps (Mono.refl p) ?_
      rw [hf]
      exact (tame_modTask p t _).mono
    · exact hx.close htk rfl hf

theorem mono_finishAfterModReq (p : Pool) (m : Nat) (f : Req → Req) (o : Outcome)
    (h : Mono p (p.modReq m f)) : Mono p ((p.modReq m f).finishMeta m o) := h.tame (tame_finishMeta _ m o)

theorem mono_runRef (p : Pool) (r : Ref) : Mono p (p.runRef r) := by
  cases r with
  | task t => exact mono_stepTask p t
  | spawner m => exact mono_steps (fun _ => nofun) (steps_runRef p (.spawner m))
  | api a => exact mono_steps (fun _ => nofun) (steps_runRef p (.api a))
  | gchild g i => exact mono_steps (fun _ => nofun) (steps_runRef p (.gchild g i))

theorem mono_applyOp (p : Pool) (op : Op) : Mono p (p.applyOp op).1 :=
  mono_steps (fun _ => nofun) (steps_applyOp p op)

end Pool
end Taskpool

namespace Taskpool

/-- `w'` is a later world than `w`: every pool of `w` is still there (at its index) and has only moved forward -/
def World.Later (w w' : World) : Prop :=
  ∀ (i : Nat) (p : Pool), w.pools[i]? = some p → ∃ p', w'.pools[i]? = some p' ∧ Mono p p'

theorem World.Later.refl (w : World) : w.Later w := fun _ p h => ⟨p, h, Mono.refl p⟩

theorem World.Later.trans {a b c : World} (h1 : a.Later b) (h2 : b.Later c) : a.Later c := fun i p h => by
  obtain ⟨p', a', m1⟩ := h1 i p h
  obtain ⟨p'', a'', m2⟩ := h2 i p' a'
  exact ⟨p'', a'', m1.trans m2⟩

theorem World.later_set (w : World) (i : Nat) (p q : Pool) (hp : w.pools[i]? = some p) (hm : Mono p q) (w' : World)
    (hps : w'.pools = w.pools.set i q) : w.Later w' := by
  intro j x hx
  rw [hps, List.getElem?_set]
  split
  · rename_i e; subst e
    rw [hp] at hx; cases hx
    have : i < w.pools.length := lt_of_getElem?_some hp
    simp [this]
    exact hm
  · exact ⟨x, hx, Mono.refl x⟩

theorem World.later_step (w : World) (x : WOp) : w.Later (w.step x).1 := by
  cases x with
  | mkpool size simple name =>
    simp only [World.step, World.mkpool]
    split
    · exact World.Later.refl w
    · split
      · exact fun i p h => ⟨p, h, Mono.refl p⟩
      · intro i p h
        refine ⟨p, ?_, Mono.refl p⟩
        simp only
        exact getElem?_append_of h _
  | on i orders op =>
    simp only [World.step]
    split
    · exact World.Later.refl w
    · rename_i p hp
      refine World.later_set w i p _ hp ?_ _ rfl
      exact (Pool.tame_setOrders p orders).mono.trans (Pool.mono_applyOp _ op)
  | run k orders =>
    simp only [World.step]
    split
    · exact World.Later.refl w
    · split
      · exact fun i p h => ⟨p, h, Mono.refl p⟩
      · rename_i p hp
        refine World.later_set w _ p _ hp ?_ _ rfl
        exact (Pool.tame_setOrders p orders).mono.trans (Pool.mono_runRef _ _)

theorem World.later_drain (w : World) : w.Later w.drain := by
  intro i p h
  refine ⟨{ p with emit := [] }, by simp [World.drain, List.getElem?_map, h], Mono.of_eq _ _ rfl rfl rfl⟩

theorem World.later_next (w : World) (x : WOp) : w.Later (w.next x) :=
  (World.later_step w x).trans (World.later_drain _)

/-- **whatever happens next**: after any further inputs every pool has only moved forward -/
theorem World.later_run (w : World) (h : History) : w.Later (w.run h) :=
  foldl_rel World.Later.refl World.Later.trans _ h (fun w x _ => World.later_next w x) w

end Taskpool

