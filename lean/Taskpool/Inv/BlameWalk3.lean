import Taskpool.Inv.BlameWalk2
import Taskpool.Inv.Steps
/-! `BlameX` through the gathers and the background calls.  A step that writes the outer future of a gather or the outcome
of a call names the source (`Src`: a task or spawner of the pool that ended so, `BlameL.step` with `GOK` / `AOK`); `BxAt`
carries the source of what a call has in hand from one stage to the next. -/
namespace Taskpool
namespace Pool

def SrcE (p : Pool) (e : Err) : Prop :=
  (∃ (t : Nat) (k : PTask), p.tasks[t]? = some k ∧ k.outcome = some (.exc e)) ∨
  (∃ (m : Nat) (r : Req), p.reqs[m]? = some r ∧ r.outcome = some (.exc e))

def SrcC (p : Pool) : Prop := ∃ (t : Nat) (k : PTask), p.tasks[t]? = some k ∧ k.outcome = some .cancelled

/-- the outcome `o` of a background call is accounted for -/
def Src (p : Pool) : Outcome → Prop
  | .ok => True
  | .exc e => SrcE p e
  | .cancelled => SrcC p

def TaskKids (p : Pool) (g : Nat) : Prop := ∃ G : Gather, p.gathers[g]? = some G ∧ ∀ c ∈ G.children, ∃ t : Nat, c = .task t

theorem srcE_of_coL {p : Pool} {c : Child} {e : Err} (h : coL p.tasks p.reqs c = some (.exc e)) : SrcE p e := by
  cases c with
  | task t =>
    simp only [coL] at h
    cases hk : p.tasks[t]? with
    | none => simp [hk] at h
    | some k => simp only [hk] at h; exact Or.inl ⟨t, k, hk, h⟩
  | spawner m =>
    simp only [coL] at h
    cases hk : p.reqs[m]? with
    | none => simp [hk] at h
    | some r => simp only [hk] at h; exact Or.inr ⟨m, r, hk, h⟩

theorem srcC_of_coL {p : Pool} {t : Nat} (h : coL p.tasks p.reqs (.task t) = some .cancelled) : SrcC p := by
  simp only [coL] at h
  cases hk : p.tasks[t]? with
  | none => simp [hk] at h
  | some k => simp only [hk] at h; exact ⟨t, k, hk, h⟩

theorem bw_gatherOuter_some {p : Pool} {g : Nat} {o : Outcome} (h : p.gatherOuter g = some o) :
    ∃ G, p.gathers[g]? = some G ∧ G.outer = some o := by
  unfold gatherOuter at h
  split at h
  · rename_i G hG; exact ⟨G, hG, h⟩
  · cases h

theorem srcE_of_gatherOuter {p : Pool} {g : Nat} {e : Err} (h : BlameX p) (ho : p.gatherOuter g = some (.exc e)) :
    SrcE p e := by
  obtain ⟨G, hG, hGo⟩ := bw_gatherOuter_some ho
  obtain ⟨c, _, hco⟩ := h.ge g G e hG hGo
  exact srcE_of_coL hco

theorem src_of_gatherOuter {p : Pool} {g : Nat} {o : Outcome} (h : BlameX p) (ho : p.gatherOuter g = some o)
    (hk : TaskKids p g) : Src p o := by
  cases o with
  | ok => trivial
  | exc e => exact srcE_of_gatherOuter h ho
  | cancelled =>
    obtain ⟨G, hG, hGo⟩ := bw_gatherOuter_some ho
    obtain ⟨G', hG', hkids⟩ := hk
    rw [hG] at hG'; cases hG'
    obtain ⟨_, c, hc, hco⟩ := h.gc g G hG hGo
    obtain ⟨t, rfl⟩ := hkids c hc
    exact srcC_of_coL hco

theorem bx_modApi (p : Pool) (a : Nat) (f : Api → Api) (h : BlameX p)
    (hf : ∀ x, p.apis[a]? = some x →
      (∀ e, (f x).outcome = some (.exc e) → SrcE p e) ∧ ((f x).outcome = some .cancelled → SrcC p) ∧
      (∀ g, (f x).frame = .gather2 g → TaskKids p g)) : BlameX (p.modApi a f) := by
  refine BlameL.step h (Wit.refl _ _) (fun _ G' a => .inr ⟨G', a, rfl, rfl, rfl⟩) (fun b B hB => ?_) (fun _ G a => ⟨G, a, rfl⟩)
    h.to h.ro
  rcases getElem?_modify_split hB with ⟨rfl, x, hx, rfl⟩ | ⟨_, hx⟩
  · exact .inl (hf x hx)
  · exact .inr ⟨B, hx, rfl, rfl⟩

theorem bx_keepApi (p : Pool) (a : Nat) (f : Api → Api) (hf : ∀ x, (f x).outcome = x.outcome ∧ (f x).frame = x.frame)
    (h : BlameX p) : BlameX (p.modApi a f) := by
  refine bx_modApi p a f h (fun x hx => ⟨fun e ho => ?_, fun ho => ?_, fun g hfr => ?_⟩)
  · rw [(hf x).1] at ho; exact h.ae a x e hx ho
  · rw [(hf x).1] at ho; exact h.ac a x hx ho
  · rw [(hf x).2] at hfr; exact h.g2 a x g hx hfr

theorem bx_schedApi (p : Pool) (a : Nat) (h : BlameX p) : BlameX (p.schedApi a) := by
  unfold schedApi
  exact bx_keepApi p a _ (fun _ => ⟨rfl, rfl⟩) h

theorem bx_finishApi (p : Pool) (a : Nat) (o : Outcome) (h : BlameX p) (hs : Src p o) : BlameX (p.finishApi a o) := by
  unfold finishApi
  refine bx_modApi p a _ h (fun x _ => ⟨fun e ho => ?_, fun ho => ?_, fun g hfr => ?_⟩)
  · simp only [Option.some.injEq] at ho; subst ho; exact hs
  · simp only [Option.some.injEq] at ho; subst ho; exact hs
  · cases hfr

theorem bx_setFrame (p : Pool) (a : Nat) (fr : AFrame) (h : BlameX p) (hk : ∀ g, fr = .gather2 g → TaskKids p g) :
    BlameX (p.modApi a fun x => { x with frame := fr }) := by
  refine bx_modApi p a _ h (fun x hx => ⟨fun e ho => h.ae a x e hx ho, fun ho => h.ac a x hx ho, fun g hfr => hk g hfr⟩)

theorem bx_modGather (p : Pool) (g : Nat) (f : Gather → Gather) (h : BlameX p)
    (hf : ∀ G, p.gathers[g]? = some G → (f G).children = G.children ∧ (f G).retExc = G.retExc ∧
      (∀ e, (f G).outer = some (.exc e) → ∃ c ∈ G.children, coL p.tasks p.reqs c = some (.exc e)) ∧
      ((f G).outer = some .cancelled → G.retExc = false ∧ ∃ c ∈ G.children, coL p.tasks p.reqs c = some .cancelled)) :
    BlameX (p.modGather g f) := by
  refine BlameL.step h (Wit.refl _ _) (fun j G' hG' => ?_) (fun _ A' a => .inr ⟨A', a, rfl, rfl⟩) (fun j G hG => ?_) h.to h.ro
  · rcases getElem?_modify_split hG' with ⟨rfl, x, hx, rfl⟩ | ⟨_, hx⟩
    · obtain ⟨c1, c2, c3, c4⟩ := hf x hx
      exact .inl ⟨c1 ▸ c3, c1 ▸ c2 ▸ c4⟩
    · exact .inr ⟨G', hx, rfl, rfl, rfl⟩
  · refine ⟨_, getElem?_modify_of hG g f, ?_⟩
    split
    · rename_i e; subst e; exact (hf G hG).1
    · rfl

theorem bx_gatherChildDone (p : Pool) (g i : Nat) (v : Bool) (h : BlameX p) : BlameX (p.gatherChildDone g i v) := by
  have h1 : BlameX (p.modGather g fun x => { x with nfinished := x.nfinished + 1 }) :=
    bx_modGather p g _ h (fun G0 hG0 => ⟨rfl, rfl, fun e ho => h.ge g G0 e hG0 ho, fun ho => h.gc g G0 hG0 ho⟩)
  -- the verdict `o` is written: an exception or a cancellation is child `i`'s own
  have h2 : ∀ G c o, p.gathers[g]? = some G → G.children[i]? = some c → gatherVerdict G (p.childOutcome c) = some o →
      BlameX ((p.modGather g fun x => { x with nfinished := x.nfinished + 1 }).modGather g
        fun x => { x with outer := some o }) := by
    intro G c o hG hc ho
    refine bx_modGather _ g _ h1 (fun G1 hG1 => ?_)
    obtain ⟨x, hx, rfl⟩ := getElem?_modify_self hG1
    rw [hG] at hx; cases hx
    have hmem : c ∈ G.children := List.mem_of_getElem? hc
    rw [childOutcome_coL] at ho
    refine ⟨rfl, rfl, fun e he => ?_, fun he => ?_⟩
    · cases he
      exact ⟨c, hmem, gatherVerdict_exc ho⟩
    · cases he
      exact ⟨(gatherVerdict_cancelled ho).1, c, hmem, (gatherVerdict_cancelled ho).2⟩
  exact gatherChildDone_elim p g i v _ rfl (fun _ => h) (fun _ _ _ => h) (fun _ _ _ _ _ => h1) (fun _ _ _ _ _ _ => h1)
    (fun _ _ _ _ _ _ _ _ => h1) (fun G c o hG hc _ ho _ _ => bx_schedApi _ _ (h2 G c o hG hc ho))
    (fun G c o hG hc _ ho _ _ => h2 G c o hG hc ho)

theorem bx_gatherScan (g : Nat) (cs : List Child) (i : Nat) (p : Pool) (h : BlameX p) : BlameX (gatherScan g cs i p) := by
  induction cs generalizing i p with
  | nil => exact h
  | cons c cs ih =>
    unfold gatherScan
    exact ih _ _ (ite_keeps (bx_gatherChildDone p g i false h) (h.bfr (bfr_registerChild p c g i)))

theorem bx_gatherStart (p : Pool) (children : List Child) (re : Bool) (owner n : Nat) (h : BlameX p) :
    BlameX (p.gatherStart children re owner n).1 := by
  refine bx_gatherScan _ _ _ _ (BlameL.step h (Wit.refl _ _) (fun j G hG => ?_) (fun _ A' a => .inr ⟨A', a, rfl, rfl⟩)
    (fun j G hG => ⟨G, getElem?_append_of hG _, rfl⟩) h.to h.ro)
  rcases getElem?_append_one (l := p.gathers) hG with hG | ⟨_, rfl⟩
  · exact .inr ⟨G, hG, rfl, rfl, rfl⟩
  · -- the new gather has not failed
    refine .inl ⟨fun e he => ?_, fun he => ?_⟩ <;> (dsimp only at he; split at he <;> cases he)

theorem allTasks_map (l : List Nat) : ∀ c ∈ l.map Child.task, ∃ t : Nat, c = .task t := by
  intro c hc
  obtain ⟨t, _, e⟩ := List.mem_map.mp hc
  exact ⟨t, e.symm⟩

theorem taskKids_gatherStart (q : Pool) (cs : List Child) (re : Bool) (a n : Nat) (hk : ∀ c ∈ cs, ∃ t : Nat, c = .task t) :
    TaskKids (q.gatherStart cs re a n).1 (q.gatherStart cs re a n).2 := by
  obtain ⟨_, G, hG, e, _⟩ := gatherStart_new q cs re a n
  exact ⟨G, hG, by rw [e]; exact hk⟩

theorem firstExc_some (p : Pool) (cs : List Child) (e : Err) (h : p.firstExc cs = some e) :
    ∃ c, p.childOutcome c = some (.exc e) := by
  induction cs with
  | nil => unfold firstExc at h; cases h
  | cons c cs ih =>
    unfold firstExc at h
    split at h
    · rename_i e' hc
      simp only [Option.some.injEq] at h
      subst h
      exact ⟨c, hc⟩
    · exact ih h

/-- `BlameX` while a background call runs, with what it has in hand accounted for: an exception of its first gather,
any failure of its second -/
def BxAt (c : Hand) (p : Pool) : Prop :=
  BlameX p ∧ match c with
    | .none => True
    | .got false _ o => ∀ e, o = .exc e → SrcE p e
    | .got true _ o => Src p o

theorem bx_start {q : Pool} (hq : BlameX q) {cs : List Child} {re : Bool} {a n : Nat} {b : Bool}
    (hk : b = true → ∀ c ∈ cs, ∃ t : Nat, c = .task t) :
    BlameX (q.gatherStart cs re a n).1 ∧ (b = true → TaskKids (q.gatherStart cs re a n).1 (q.gatherStart cs re a n).2) :=
  ⟨bx_gatherStart _ _ _ _ _ hq, fun e => taskKids_gatherStart q cs re a n (hk e)⟩

/-- what a head writes before it starts its gather is a write of `bfr_write` (a background call that leaves `apis` as
it is) -/
theorem bx_staged (a : Nat) : ApiStaged (fun _ => BxAt) (fun _ b q => BlameX q.1 ∧ (b = true → TaskKids q.1 q.2)) BlameX a where
  headF1 := fun _ p _ h => bx_start (h.1.bfr (bfr_write (.unfile p) (.inr (.inr ⟨rfl, rfl⟩)))) nofun
  headF2 := fun _ p _ _ h =>
    bx_start (bx_keepApi _ a (fun x => { x with snapE := p.ended, snapC := p.cancelledR }) (fun _ => ⟨rfl, rfl⟩)
      (h.1.bfr (bfr_write (.uncancel p) (.inr (.inr ⟨rfl, rfl⟩))))) fun _ => List.forall_mem_append.mpr ⟨allTasks_map _, allTasks_map _⟩
  headG1 := fun _ p h => bx_start (h.1.same _) nofun
  headG2 := fun _ p _ _ h =>
    bx_start (h.1.bfr (bfr_write (.clearMetas p) (.inr (.inr ⟨rfl, rfl⟩))))
      fun _ => List.forall_mem_append.mpr ⟨List.forall_mem_append.mpr ⟨allTasks_map _, allTasks_map _⟩, allTasks_map _⟩
  go := fun _ b q o h ho => ⟨h.1, by
    cases b
    · exact fun e he => srcE_of_gatherOuter h.1 (he ▸ ho)
    · exact src_of_gatherOuter h.1 ho (h.2 rfl)⟩
  suspend := fun _ b q _ h _ => bx_setFrame _ a _ h.1 fun g e => by cases b <;> cases e; exact h.2 rfl
  finish := fun _ b _ o p h _ hb _ => bx_finishApi p a o h.1 (by
    cases b
    · obtain ⟨_, e, rfl⟩ := hb rfl
      exact h.2 e rfl
    · exact h.2)
  forget := fun _ p _ h => bx_finishApi _ a .ok (h.1.same _) trivial
  seenClosed := fun p h _ => bx_finishApi p a .ok h.1 trivial
  waitClosed := fun p h _ => bx_setFrame _ a _ (h.1.same _) (fun g e => by cases e)
  raised := fun _ p _ _ e h he => by
    obtain ⟨c, hc⟩ := firstExc_some p _ e he
    rw [childOutcome_coL] at hc
    exact bx_finishApi p a _ h.1 (srcE_of_coL hc)
  closing := fun _ p _ h =>
    bx_finishApi _ a .ok (foldl_keeps (P := BlameX) _ (fun p w h => bx_schedApi p w h) _ _ (h.1.same _)) trivial

theorem bx_stepApi (p : Pool) (a : Nat) (h : BlameX p) : BlameX (p.stepApi a) :=
  have h1 : BlameX (p.modApi a fun x => { x with sched := false }) := bx_keepApi p a _ (fun _ => ⟨rfl, rfl⟩) h
  (bx_staged a).stepApi _ rfl h (fun _ _ _ _ _ _ => h1) (fun _ _ _ _ => ⟨h1, trivial⟩)
    (fun A b g o hA _ hf _ ho => (bx_staged a).go A.kind b (_, g) o
      ⟨h1, fun e => h1.g2 a _ g (modify_get_self hA _) (by cases e; exact hf)⟩ ho)
    fun _ _ _ _ => bx_finishApi _ a .ok h1 trivial

theorem bx_runRef (p : Pool) (r : Ref) (h : BlameX p) : BlameX (p.runRef r) := by
  cases r with
  | task t => exact bx_stepTask p t h
  | spawner m => exact bx_stepMeta p m h
  | api a => exact bx_stepApi p a h
  | gchild g i => exact bx_gatherChildDone p g i true h

theorem bx_addApi (p : Pool) (k : ApiKind) (h : BlameX p) : BlameX (p.addApi k) := by
  refine BlameL.step h (Wit.refl _ _) (fun _ G' a => .inr ⟨G', a, rfl, rfl, rfl⟩) (fun b B hB => ?_) (fun _ G a => ⟨G, a, rfl⟩)
    h.to h.ro
  rcases getElem?_append_one (l := p.apis) hB with hB | ⟨_, rfl⟩
  · exact .inr ⟨B, hB, rfl, rfl⟩
  · exact .inl ⟨nofun, nofun, nofun⟩

theorem bx_applyOp (p : Pool) (op : Op) (h : BlameX p) : BlameX (p.applyOp op).1 := by
  cases hs : op.starts with
  | none => exact h.bfr (bfr_steps (steps_applyOp_sync p hs))
  | some k => exact applyOp_starts p hs ▸ bx_addApi p k h

theorem bx_init (size : Cap) (simple : Option SpawnSpec) : BlameX (Pool.init size simple) :=
  ⟨fun _ _ _ a => (nomatch a), fun _ _ a => (nomatch a), fun _ _ _ a => (nomatch a), fun _ _ a => (nomatch a),
    fun _ _ a => (nomatch a), fun _ _ a => (nomatch a), fun _ _ _ a => (nomatch a)⟩

theorem blameInvariant : PoolInvariant (fun _ p => BlameX p) allOps where
  init := fun c simple _ => bx_init c.size0 simple
  op := fun _ _ _ o _ h => bx_applyOp _ o (h.same _)
  run := fun _ _ _ r h => bx_runRef _ r (h.same _)
  drain := fun _ _ h => h.same _

end Pool

/-- `BlameOK` in every pool of every reachable world, whatever the history -/
theorem World.blame_run {base : Nat} {h : History} {c : Cfg} {p : Pool} (r : Reached base h c p) : p.BlameOK :=
  (r.all Pool.blameInvariant).ok

end Taskpool
