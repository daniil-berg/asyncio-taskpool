import Taskpool.Inv.Loops
/-! **Whoever is flagged as scheduled has a handle.**  Every entity of the pool machine that the event loop can wake
(pool task, spawner, background call) carries a flag `sched`.  This file defines the relation `Sch p q` between the
state before and after a piece of a step — handles are only ever *added* to the pool's out-queue `emit`, and an entity
flagged in `q` was flagged in `p` or got a handle in between — and the one lemma every step is an instance of
(`Sch.lists`).  `Inv/SchedWalk.lean` shows that every write of the machine is such a step; `Inv/SchedWorld.lean` lifts
it to the ready queue of the loop. -/
namespace Taskpool
namespace Pool

/-- handles for `r` queued by the pool during the current step -/
def cnt (p : Pool) (r : Ref) : Nat := p.emit.count r

/-- the scheduling flag of the entity a handle refers to (a gather callback has none) -/
def flag (p : Pool) : Ref → Bool
  | .task t => match p.tasks[t]? with | some k => k.sched | none => false
  | .spawner m => match p.reqs[m]? with | some r => r.sched | none => false
  | .api a => match p.apis[a]? with | some x => x.sched | none => false
  | .gchild _ _ => false

/-- the flag of the `i`-th record of a list: `flag` is this on `tasks`, `reqs` and `apis` -/
def flagAt {α} (s : α → Bool) (l : List α) (i : Nat) : Bool :=
  match l[i]? with | some k => s k | none => false

section flagAt
variable {α : Type} {s : α → Bool} {l : List α} {i t : Nat} {f : α → α}

theorem flagAt_eq_true : flagAt s l i = true ↔ ∃ k, l[i]? = some k ∧ s k = true := by
  unfold flagAt
  cases l[i]? <;> simp

/-- a record update that may set the flag: of the record whose handle (`c t`) is queued with it -/
theorem flagAt_modify (c : Nat → Ref) (h : flagAt s (l.modify t f) i = true) : flagAt s l i = true ∨ c i ∈ [c t] := by
  obtain ⟨y, hy, hs⟩ := flagAt_eq_true.mp h
  obtain ⟨x, hx, rfl⟩ := getElem?_modify_some l t i f y hy
  by_cases e : t = i
  · exact Or.inr (List.mem_singleton.mpr (congrArg c e.symm))
  · rw [if_neg e] at hs
    exact Or.inl (flagAt_eq_true.mpr ⟨x, hx, hs⟩)

theorem flagAt_modify_keep (h : flagAt s (l.modify t f) i = true) (hf : ∀ k, s (f k) = true → s k = true) :
    flagAt s l i = true := by
  obtain ⟨y, hy, hs⟩ := flagAt_eq_true.mp h
  obtain ⟨x, hx, rfl⟩ := getElem?_modify_some l t i f y hy
  refine flagAt_eq_true.mpr ⟨x, hx, ?_⟩
  split at hs
  · exact hf x hs
  · exact hs

theorem flagAt_append {a : α} (c : Nat → Ref) (h : flagAt s (l ++ [a]) i = true) : flagAt s l i = true ∨ c i ∈ [c l.length] := by
  obtain ⟨y, hy, hs⟩ := flagAt_eq_true.mp h
  rcases getElem?_append_one hy with hx | ⟨e, _⟩
  · exact Or.inl (flagAt_eq_true.mpr ⟨y, hx, hs⟩)
  · exact Or.inr (List.mem_singleton.mpr (congrArg c e))

theorem flagAt_map (hf : ∀ k, s (f k) = s k) : flagAt s (l.map f) i = flagAt s l i := by
  unfold flagAt
  rw [List.getElem?_map]
  cases l[i]? with
  | none => rfl
  | some k => exact hf k

end flagAt

theorem flag_eq (p : Pool) (r : Ref) : p.flag r = match r with
    | .task t => flagAt PTask.sched p.tasks t
    | .spawner m => flagAt Req.sched p.reqs m
    | .api a => flagAt Api.sched p.apis a
    | .gchild _ _ => false := by
  cases r with
  | task t =>
    simp only [flag, flagAt]
    cases p.tasks[t]? <;> rfl
  | spawner m =>
    simp only [flag, flagAt]
    cases p.reqs[m]? <;> rfl
  | api a =>
    simp only [flag, flagAt]
    cases p.apis[a]? <;> rfl
  | gchild _ _ => rfl

/-- `q` comes after `p` within one step of the machine -/
structure Sch (p q : Pool) : Prop where
  em : ∀ r, p.cnt r ≤ q.cnt r
  fl : ∀ r, q.flag r = true → p.flag r = true ∨ p.cnt r < q.cnt r

theorem Sch.refl (p : Pool) : Sch p p := ⟨fun _ => Nat.le_refl _, fun _ h => Or.inl h⟩

theorem Sch.trans {p q s : Pool} (h1 : Sch p q) (h2 : Sch q s) : Sch p s := by
  refine ⟨fun r => Nat.le_trans (h1.em r) (h2.em r), fun r h => ?_⟩
  rcases h2.fl r h with a | a
  · exact (h1.fl r a).imp_right fun b => Nat.lt_of_lt_of_le b (h2.em r)
  · exact Or.inr (Nat.lt_of_le_of_lt (h1.em r) a)

/-- running the handle of `r` takes `p` to `q` through a state in which `r` is not flagged and has no more handles
than in `p`: a step begins by clearing the flag -/
def Stepped (p q : Pool) (r : Ref) : Prop := ∃ p', Sch p p' ∧ p'.flag r = false ∧ p'.cnt r = p.cnt r ∧ Sch p' q

theorem Stepped.sch {p q : Pool} {r : Ref} (h : Stepped p q r) : Sch p q :=
  let ⟨_, a, _, _, b⟩ := h
  a.trans b

theorem Stepped.self {p q : Pool} {r : Ref} (h : Stepped p q r) (a : q.flag r = true) : p.cnt r < q.cnt r := by
  obtain ⟨p', _, hf, hc, b⟩ := h
  rcases b.fl r a with c | c
  · rw [hf] at c
    cases c
  · exact hc ▸ c

variable {p₀ p : Pool}

/-- every piece of a step: the handles `l` are queued, and a record flagged afterwards was flagged before or has its
handle among them (`ht`, `hr`, `ha`: the default serves a list that is not written) -/
theorem Sch.lists (h : Sch p₀ p) (q : Pool) (l : List Ref) (he : q.emit = p.emit ++ l)
    (ht : ∀ i, flagAt PTask.sched q.tasks i = true → flagAt PTask.sched p.tasks i = true ∨ .task i ∈ l := by
      exact fun _ => Or.inl)
    (hr : ∀ i, flagAt Req.sched q.reqs i = true → flagAt Req.sched p.reqs i = true ∨ .spawner i ∈ l := by
      exact fun _ => Or.inl)
    (ha : ∀ i, flagAt Api.sched q.apis i = true → flagAt Api.sched p.apis i = true ∨ .api i ∈ l := by
      exact fun _ => Or.inl) : Sch p₀ q := by
  have hc : ∀ r, q.cnt r = p.cnt r + l.count r := fun r => by simp only [cnt, he, List.count_append]
  have hf : ∀ r, q.flag r = true → p.flag r = true ∨ r ∈ l := fun r => by
    rw [flag_eq, flag_eq]
    cases r with
    | task i => exact ht i
    | spawner i => exact hr i
    | api i => exact ha i
    | gchild _ _ => exact fun a => nomatch a
  refine ⟨fun r => ?_, fun r a => ?_⟩
  · rw [hc]
    exact Nat.le_trans (h.em r) (Nat.le_add_right _ _)
  · have := h.em r
    rw [hc]
    rcases hf r a with b | b
    · exact (h.fl r b).imp_right fun c => Nat.lt_of_lt_of_le c (Nat.le_add_right _ _)
    · have := List.count_pos_iff.mpr b
      exact Or.inr (by omega)

theorem Sch.same (h : Sch p₀ p) (q : Pool) (he : q.emit = p.emit := by rfl) (ht : q.tasks = p.tasks := by rfl)
    (hr : q.reqs = p.reqs := by rfl) (ha : q.apis = p.apis := by rfl) : Sch p₀ q :=
  h.lists q [] (by rw [he, List.append_nil]) (fun _ a => Or.inl (ht ▸ a)) (fun _ a => Or.inl (hr ▸ a))
    (fun _ a => Or.inl (ha ▸ a))

theorem Sch.mapReqs (h : Sch p₀ p) (q : Pool) (f : Req → Req) (hr : q.reqs = p.reqs.map f)
    (hf : ∀ r, (f r).sched = r.sched) (he : q.emit = p.emit := by rfl) (ht : q.tasks = p.tasks := by rfl)
    (ha : q.apis = p.apis := by rfl) : Sch p₀ q :=
  h.lists q [] (by rw [he, List.append_nil]) (fun _ a => Or.inl (ht ▸ a))
    (fun _ a => Or.inl (by rw [hr, flagAt_map hf] at a; exact a)) (fun _ a => Or.inl (ha ▸ a))

end Pool
end Taskpool
