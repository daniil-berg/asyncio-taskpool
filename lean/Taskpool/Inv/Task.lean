import Taskpool.Inv.MapSem
/-! The wrapper of a pool task preserves `Good` in every phase, user code included (`good_stepTask`).

The proof is a symbolic execution of the wrapper whose state is one record, `AtTask`: `Good`, the exact soft profile `s`
of the task `t` being stepped (`Cur`), and the ghost bit `lost = l`. Each primitive of the wrapper has one lemma that takes
the `AtTask` before it to the `AtTask` after it. Every change of the profile goes through the generic leaf `good_cur`
(`AtTask.mod`) with an explicit profile transformer `g : SoftP → SoftP` and the obligation `OKs l (g s)` — except those
that move a slot (the release, `good_moveRelease`; the return of the map slot, `good_releaseMapSlot`) or a registry
entry (`AtTask.regCancel`, `good_setLost`), which rebuild `Good`; everything else is `Tame`.

The obligations `OKs l (g s)` are the lemmas `OKs.finished`, `OKs.incEnd`, …, each of the form `{ h with … }` over the
clauses of `OKs` (Tame.lean): a clause that is not listed reads no field `g` writes and is inherited from `h`. -/
namespace Taskpool
namespace Pool

/-- the task the wrapper's step is about ("current"): `t` exists in `p` and has soft profile `s` -/
def Cur (p : Pool) (t : Nat) (s : SoftP) : Prop := ∃ x : PTask, p.tasks[t]? = some x ∧ x.soft = s

theorem _root_.Taskpool.Tame0.cur {p q : Pool} (h : Tame0 p q) {t : Nat} {s : SoftP} (hc : p.Cur t s) : q.Cur t s := by
  obtain ⟨x, hx, hs⟩ := hc
  obtain ⟨y, hy, e⟩ := getElem?_fwd h.len h.soft hx
  exact ⟨y, hy, e.trans hs⟩

theorem Cur.ok {cap : Cap} {L R : Bool} {p : Pool} {t : Nat} {s : SoftP} (hc : p.Cur t s) (hg : Good cap L R p) : OKs p.lost s := by
  obtain ⟨x, hx, hs⟩ := hc
  rw [← hs]; exact hg.life t x hx

theorem Cur.nyr {cap : Cap} {L R : Bool} {p : Pool} {t : Nat} {s : SoftP} (hc : p.Cur t s) (hg : Good cap L R p)
    (hn : NYR s.phase = true) : s.released = false := by
  obtain ⟨x, hx, hs⟩ := hc
  have := hg.phase t x hx (by rw [← hs] at hn; exact hn)
  rw [← hs]; exact this

theorem Cur.notCan {cap : Cap} {L R : Bool} {p : Pool} {t : Nat} {s : SoftP} (hc : p.Cur t s) (hg : Good cap L R p)
    (hph : s.phase = .created ∨ s.phase = .inWorker) : t ∉ p.cancelledR := by
  intro hmem
  obtain ⟨x, hx, rfl⟩ := hc
  obtain ⟨y, hy, _, h1, h2⟩ := hg.reg.can t hmem
  cases hx.symm.trans hy
  exact hph.elim h1 h2

theorem _root_.Taskpool.PhaseOK.modify {p q : Pool} (hp : PhaseOK p) {t : Nat} {f : PTask → PTask} {x : PTask}
    (ht : q.tasks = p.tasks.modify t f) (hx : p.tasks[t]? = some x)
    (h : NYR (f x).phase = true → (f x).released = false) : PhaseOK q := by
  intro i tk' hi hn
  rw [ht] at hi
  rcases getElem?_modify_cases hx hi with ⟨_, rfl⟩ | ⟨_, hi'⟩
  · exact h hn
  · exact hp i tk' hi' hn

theorem _root_.Taskpool.LifeOK.modify {p q : Pool} (hl : LifeOK p) {t : Nat} {f : PTask → PTask} {x : PTask}
    (ht : q.tasks = p.tasks.modify t f) (hx : p.tasks[t]? = some x) (hlost : q.lost = p.lost)
    (h : OKs p.lost (f x).soft) : LifeOK q := by
  intro i tk' hi
  rw [ht] at hi
  rw [hlost]
  rcases getElem?_modify_cases hx hi with ⟨_, rfl⟩ | ⟨_, hi'⟩
  · exact h
  · exact hl i tk' hi'

theorem taskFin_modify {p q : Pool} {t : Nat} {f : PTask → PTask} {x : PTask}
    (ht : q.tasks = p.tasks.modify t f) (hx : p.tasks[t]? = some x)
    (h : x.phase = .finished → (f x).phase = .finished) : ∀ i, TaskFin p i → TaskFin q i := by
  intro i ⟨y, hy, hyf⟩
  refine ⟨_, by rw [ht]; exact getElem?_modify_of hy t f, ?_⟩
  split
  · rename_i e; subst e
    cases hx.symm.trans hy
    exact h hyf
  · exact hyf

theorem good0_cur {cap : Cap} {L R : Bool} (p : Pool) (t : Nat) (f : PTask → PTask) (g : SoftP → SoftP)
    (hfg : ∀ x, (f x).soft = g x.soft) (hg : Good0 cap L R p) (s : SoftP) (hc : p.Cur t s)
    (hrel : (g s).released = s.released)
    (hnyr : NYR (g s).phase = true → s.released = false)
    (hcan : t ∈ p.cancelledR → (g s).phase ≠ .created ∧ (g s).phase ≠ .inWorker)
    (hok : OKs p.lost (g s))
    (hfin : s.phase = .finished → (g s).phase = .finished) :
    Good0 cap L R (p.modTask t f) ∧ (p.modTask t f).Cur t (g s) := by
  obtain ⟨x, hx, rfl⟩ := hc
  have hfx : (f x).soft = g x.soft := hfg x
  have hrelx : (f x).released = x.released := (congrArg SoftP.released hfx).trans hrel
  have hphx : (f x).phase = (g x.soft).phase := congrArg SoftP.phase hfx
  refine ⟨⟨?_, hg.phase.modify rfl hx (fun hn => hrelx.trans (hnyr (hphx ▸ hn))),
    hg.reg.modTaskAt t f x hx hrelx (fun hm => hphx ▸ hcan hm), hg.grp.of_eq rfl (List.length_modify f p.tasks t),
    hg.life.modify rfl hx rfl (hfx ▸ hok), hg.fl.frame rfl rfl (taskFin_modify rfl hx (fun h => hphx.trans (hfin h))),
    hg.wk.of_eq rfl rfl, hg.rz, hg.ll, hg.al⟩, ⟨f x, modify_get_self hx _, hfx⟩⟩
  cases cap with
  | fin n =>
    obtain ⟨v, hv, hsum⟩ := hg.slot
    exact ⟨v, hv, (congrArg (v + · + _) (heldL_modify_at _ _ _ x hx hrelx)).trans hsum⟩
  | inf => exact hg.slot

/-- the generic leaf: an update of task `t` whose effect on the soft profile is `g`, keeping `released` and the map slot -/
theorem good_cur {cap : Cap} {L R : Bool} (p : Pool) (t : Nat) (f : PTask → PTask) (g : SoftP → SoftP)
    (hfg : ∀ x, (f x).soft = g x.soft) (hg : Good cap L R p) (s : SoftP) (hc : p.Cur t s)
    (hrel : (g s).released = s.released)
    (hnyr : NYR (g s).phase = true → s.released = false)
    (hcan : t ∈ p.cancelledR → (g s).phase ≠ .created ∧ (g s).phase ≠ .inWorker)
    (hok : OKs p.lost (g s))
    (hmap : (g s).mapHeld = s.mapHeld ∧ (g s).req = s.req := by exact ⟨rfl, rfl⟩)
    (hfin : s.phase = .finished → (g s).phase = .finished := by intro h; first | exact h | rfl | simp_all) :
    Good cap L R (p.modTask t f) ∧ (p.modTask t f).Cur t (g s) := by
  obtain ⟨h0, hc'⟩ := good0_cur p t f g hfg hg.toGood0 s hc hrel hnyr hcan hok hfin
  obtain ⟨x, hx, rfl⟩ := hc
  have hmf : MapFrame p (p.modTask t f) := by
    refine MapFrame.modify p (p.modTask t f) t f rfl rfl fun y hy => ?_
    cases hx.symm.trans hy
    exact ⟨(congrArg SoftP.mapHeld (hfg x)).trans hmap.1, (congrArg SoftP.req (hfg x)).trans hmap.2⟩
  exact ⟨⟨h0, hmf.map hg.map, hmf.acc hg.acc, hg.canc.of_eq rfl rfl⟩, hc'⟩

def _root_.Taskpool.SoftP.setPhase (s : SoftP) (ph : Phase) : SoftP := { s with phase := ph }
def _root_.Taskpool.SoftP.incCb (s : SoftP) (isEnd : Bool) : SoftP := if isEnd then { s with nEC := s.nEC + 1 } else { s with nCC := s.nCC + 1 }

theorem nonNYR_ne (ph : Phase) (h : NYR ph = false) : ph ≠ .created ∧ ph ≠ .inWorker :=
  ⟨fun e => by rw [e] at h; exact absurd h (by decide), fun e => by rw [e] at h; exact absurd h (by decide)⟩

theorem _root_.Taskpool.OKs.setPhase_free {lost : Bool} {s : SoftP} (h : OKs lost s) (ph : Phase)
    (hph : ph = .wrapUp ∨ (ph = .finished ∧ lost = true)) (hnf : s.phase ≠ .finished) : OKs lost (s.setPhase ph) := by
  rcases hph with rfl | ⟨rfl, rfl⟩
  · exact { h with c0 := nofun, cc := nofun, ec := nofun, fin := nofun, s0 := nofun, out := fun ho => absurd (h.out ho) hnf }
  · exact { h with c0 := nofun, cc := nofun, ec := nofun, fin := fun _ => nofun, s0 := nofun, out := fun _ => rfl }

/-- only `phase` is written: the clauses about another phase (`c0`, `cc`, `ec`, `s0`) become void, `out` trivial, and `fin`
is the one to establish — `nCC` from `hA` and `cn` if the task was cancelled; if not, `nCC = 1` would force `wasCancelled`
(`cw`) -/
theorem _root_.Taskpool.OKs.finished {lost : Bool} {s : SoftP} (h : OKs lost s) (hr : s.released = true)
    (hne : s.nEC = if s.endCb = .none then 0 else 1)
    (hA : s.wasCancelled = true → s.cancelCb ≠ .none → s.nCC = 1) : OKs lost (s.setPhase .finished) :=
  { h with
    c0 := nofun, cc := nofun, ec := nofun, s0 := nofun, out := fun _ => rfl
    fin := fun _ _ => ⟨hr, hne,
      fun hw => show s.nCC = if s.cancelCb = .none then 0 else 1 by
        by_cases hn : s.cancelCb = .none
        · rw [if_pos hn]; exact h.cn hn
        · rw [if_neg hn]; exact hA hw hn,
      fun hw => show s.nCC = 0 by
        rcases Nat.eq_zero_or_pos s.nCC with h0 | hp
        · exact h0
        · exact absurd (h.cw (Nat.le_antisymm h.c1 hp)) (by rw [show s.wasCancelled = false from hw]; exact Bool.noConfusion)⟩ }

theorem good_setLost {cap : Cap} (p : Pool) (hg : Good cap true R p) : Good cap true R ({ p with lost := true } : Pool) :=
  { hg with
    reg := hg.reg.setLost, grp := hg.grp.of_eq rfl rfl, life := fun t tk h => (hg.life t tk h).toLost
    fl := hg.fl.frame rfl rfl (fun _ h => h), ll := nofun, al := nofun
    map := hg.map.of_eq rfl rfl, acc := hg.acc.of_eq rfl rfl }

/-- in the strict variant the registries are complete, so `_task_ending` finds the id (no `KeyError`) -/
theorem strict_moveToEnded {cap : Cap} (p : Pool) (t : Nat) (hg : Good cap false R p) (s : SoftP) (hc : p.Cur t s)
    (hrel : s.released = false) : p.moveToEnded t ≠ none := by
  obtain ⟨x, hx, hs⟩ := hc
  have hr : x.released = false := by rw [← hs] at hrel; exact hrel
  have := hg.reg.cpl (hg.ll rfl) t x hx hr
  unfold moveToEnded
  rcases this with h | h
  · simp [h]
  · by_cases h' : t ∈ p.running
    · simp [h']
    · simp [h', h]

/-- the profile after the wrapped end callback of a map task has given back the map slot -/
def _root_.Taskpool.SoftP.dropMapIf (s : SoftP) : SoftP := { s with mapHeld := s.mapHeld && !s.isMap }

theorem _root_.Taskpool.OKs.dropMapIf {lost : Bool} {s : SoftP} (h : OKs lost s) (hr : s.released = true) :
    OKs lost s.dropMapIf :=
  { h with mh := fun _ hc => nomatch hr.symm.trans hc }

theorem releaseMap_tasks (p : Pool) (m : Nat) : (p.releaseMap m).tasks = p.tasks := by
  unfold releaseMap
  split
  · rfl
  · exact schedOpt_tasks _ _

/-- the wrapped end callback of a map task: the map slot goes back to the call's own semaphore — exactly once,
because the task still held it -/
theorem good_releaseMapSlot {cap : Cap} {L R : Bool} (p : Pool) (t : Nat) (tk : PTask) (hg : Good cap L R p) (s : SoftP)
    (hc : p.Cur t s) (hr : s.released = true) (hph : s.phase = .wrapUp) (hmh : s.isMap = true → s.mapHeld = true)
    (hi : tk.isMap = s.isMap) (hq : tk.req = s.req) :
    Good cap L R (p.releaseMapSlot t tk) ∧ (p.releaseMapSlot t tk).Cur t s.dropMapIf ∧
      (p.releaseMapSlot t tk).lost = p.lost := by
  unfold releaseMapSlot
  split
  · rename_i him
    have hsm : s.isMap = true := by rw [← hi]; exact him
    -- everything but the map books: a tame change, then the generic leaf
    have t0 := tame0_releaseMap p tk.req
    have hg0 := t0.good0 hg.toGood0
    have hc0 : (p.releaseMap tk.req).Cur t s := t0.cur hc
    have hok : OKs (p.releaseMap tk.req).lost s := by rw [t0.lost]; exact hc.ok hg
    have hdm : s.dropMapIf = { s with mapHeld := false } := by
      unfold SoftP.dropMapIf; rw [hsm, Bool.not_true, Bool.and_false]
    have hnw : NYR s.phase = false := by rw [hph]; rfl
    obtain ⟨h1, hc1⟩ := good0_cur (p.releaseMap tk.req) t (fun k => { k with mapHeld := false })
      (fun s => { s with mapHeld := false }) (fun _ => rfl)
      hg0 s hc0 rfl (fun h => nomatch hnw.symm.trans h) (fun _ => nonNYR_ne _ hnw) (by rw [← hdm]; exact hok.dropMapIf hr) id
    have hacc : AccOK ((p.releaseMap tk.req).modTask t fun k => { k with mapHeld := false }) :=
      (((accFrame_releaseMap' p tk.req).2 (hg.acc.atReq tk.req)).ok fun _ _ x => x).modTask t _ fun _ => rfl
    refine ⟨⟨h1, ?_, hacc, (cancOK_releaseMap p tk.req hg.canc).of_eq rfl rfl⟩, by rw [hdm]; exact hc1, t0.lost⟩
    -- the map books: the task drops its slot, the call's semaphore takes it back
    obtain ⟨x, hx, hs⟩ := hc
    have hxh : x.mapHeld = true := by have := hmh hsm; rw [← hs] at this; exact this
    have hxq : x.req = tk.req := by rw [hq, ← hs]; rfl
    have hlt : tk.req < p.reqs.length := by rw [← hxq]; exact hg.map.ref t x hx hxh
    have m1 : MapMid (p.releaseMap tk.req) tk.req (-1) := mapMid_releaseMap (hg.map.mid tk.req) hlt
    exact (m1.dropTask t (fun k => { k with mapHeld := false }) x (by rw [releaseMap_tasks]; exact hx) hxh hxq rfl rfl).ok
  · rename_i him
    have hsm : s.isMap = false := by rw [← hi]; exact Bool.eq_false_iff.mpr him
    have hdm : s.dropMapIf = s := by
      have : (s.mapHeld && !s.isMap) = s.mapHeld := by rw [hsm, Bool.not_false, Bool.and_true]
      unfold SoftP.dropMapIf; rw [this]
    rw [hdm]
    exact ⟨hg, hc, rfl⟩

theorem good_suspend {cap : Cap} {L R : Bool} (p : Pool) (t : Nat) (ph : Phase) (hg : Good cap L R p) (s : SoftP) (hc : p.Cur t s)
    (hnyr : NYR ph = true → s.released = false)
    (hcan : t ∈ p.cancelledR → ph ≠ .created ∧ ph ≠ .inWorker)
    (hok : OKs p.lost (s.setPhase ph)) (hnf : s.phase ≠ .finished) :
    Good cap L R (p.suspendTask t ph) ∧ (p.suspendTask t ph).Cur t (s.setPhase ph) := by
  unfold suspendTask
  obtain ⟨x, hx, hs⟩ := hc
  simp only [hx]
  split
  · have h1 := good_cur p t (fun k => { k with phase := ph, fut := .cancelled, mustCancel := false })
      (fun s => s.setPhase ph) (fun _ => rfl) hg s ⟨x, hx, hs⟩ rfl hnyr hcan hok ⟨rfl, rfl⟩ (fun h => absurd h hnf)
    exact ⟨(tame_schedTask _ t).good h1.1, (tame_schedTask _ t).cur h1.2⟩
  · exact good_cur p t (fun k => { k with phase := ph, fut := .pending })
      (fun s => s.setPhase ph) (fun _ => rfl) hg s ⟨x, hx, hs⟩ rfl hnyr hcan hok ⟨rfl, rfl⟩ (fun h => absurd h hnf)

/-- the callback-accounting facts about a task that is about to run `_task_ending` -/
structure Ending (s : SoftP) : Prop where
  rel : s.released = false
  ph : s.phase = .wrapUp
  acc : s.wasCancelled = true → s.cancelCb ≠ .none → s.nCC = 1

def _root_.Taskpool.SoftP.release (s : SoftP) : SoftP := { s with released := true }

theorem _root_.Taskpool.OKs.release {lost : Bool} {s : SoftP} (h : OKs lost s) (hph : s.phase = .wrapUp) :
    OKs lost s.release :=
  { h with
    e0 := nofun, mh := fun _ => nofun
    ec := fun hc => nomatch hph.symm.trans hc
    fin := fun hc => nomatch hph.symm.trans hc }

/-- entering the end callback, `nEC` goes from 0 to 1: the profile stays in `wrapUp`, where no clause about a phase
applies (`hph` voids `c0`, `cc`, `ec`, `fin`, `s0`, `out`); of the others those that read `nEC` are `e0` (void: released),
`e1` (`hne`), `ord` (it is `hA`) and `en` (void: `hecb`) -/
theorem _root_.Taskpool.OKs.incEnd {lost : Bool} {s : SoftP} (h : OKs lost s) (hr : s.released = true)
    (hph : s.phase = .wrapUp) (hne : s.nEC = 0) (hA : s.wasCancelled = true → s.cancelCb ≠ .none → s.nCC = 1)
    (hecb : s.endCb ≠ .none) : OKs lost (s.incCb true) :=
  { h with
    e0 := fun hc => nomatch hr.symm.trans hc
    e1 := Nat.le_of_eq (congrArg (· + 1) hne)
    c0 := fun hc => hc.elim (fun hc => nomatch hph.symm.trans hc) (fun hc => nomatch hph.symm.trans hc)
    cc := fun hc => nomatch hph.symm.trans hc
    ec := fun hc => nomatch hph.symm.trans hc
    ord := fun _ => hA
    en := fun hc => absurd hc hecb
    fin := fun hc => nomatch hph.symm.trans hc
    s0 := fun hc => hc.elim (fun hc => nomatch hph.symm.trans hc) (fun hc => nomatch hph.symm.trans hc)
    out := fun ho => nomatch hph.symm.trans (h.out ho) }

theorem _root_.Taskpool.OKs.toEndCb {lost : Bool} {s : SoftP} (h : OKs lost s) (hr : s.released = true)
    (hne : s.nEC = 1) (hecb : s.endCb = .coro) (hnf : s.phase ≠ .finished) : OKs lost (s.setPhase .inEndCb) :=
  { h with c0 := nofun, cc := nofun, ec := fun _ => ⟨hne, hecb, hr⟩, fin := nofun, s0 := nofun,
           out := fun ho => absurd (h.out ho) hnf }

/-- conservation when a task hands its slot back: the tasks hold one less (`H' + 1 = H`), the semaphore's value and grants
together one more -/
theorem slot_release {v v' H H' G G' n : Nat} (hsum : v + H + G = n) (hsem : v' + G' = v + 1 + G) (hheld : H' + 1 = H) :
    v' + H' + G' = n := by omega

/-- the id is filed as ended, the slot is given back and the task marked released — one leaf for the three writes, because
`Good` fails in between: an ended id must be released (`RegOK.fin`), and a slot is counted once, with the task or with
the semaphore (`SlotOK`) -/
theorem good_moveRelease {cap : Cap} {L R : Bool} (p p1 : Pool) (t : Nat) (hg : Good cap L R p) (s : SoftP) (hc : p.Cur t s)
    (he : Ending s) (hm : p.moveToEnded t = some p1) :
    Good cap L R ((p1.releasePool).modTask t fun k => { k with released := true }) ∧
    ((p1.releasePool).modTask t fun k => { k with released := true }).Cur t s.release := by
  obtain ⟨tk, a, rfl⟩ := hc
  have b : tk.released = false := he.rel
  have e1 := releasePool_tasks p1
  have e2 := releasePool_sem p1
  obtain ⟨r1, r2, r3, r4⟩ := releasePool_regs p1
  have hgr := releasePool_groups p1
  have hap := releasePool_apis p1
  have hga := releasePool_gathers p1
  have hrz := releasePool_resized p1
  have hmf := mapFrame_releasePool p1
  have hcn : CancOK p1 → CancOK p1.releasePool := cancOK_releasePool p1
  have hwk := wakeOK_releasePool p1
  -- from here on `p1.releasePool` is an arbitrary pool `p2` with the properties collected above: nothing else about
  -- `releasePool` enters the argument
  generalize p1.releasePool = p2 at *
  have hreg := hg.reg.moveRelease t hm (p2.modTask t fun k => { k with released := true }) r1 r2 r3
  have hmf0 := fun h : MapFrame p p1 =>
    (h.trans hmf).trans (MapFrame.modify p2 (p2.modTask t fun k => { k with released := true }) t _ rfl rfl (fun _ _ => ⟨rfl, rfl⟩))
  -- `p1` is `p` with the id moved
  obtain ⟨run, can, rfl⟩ := moveToEnded_eq p p1 t hm
  have ht : (p2.modTask t fun k => { k with released := true }).tasks = p.tasks.modify t fun k => { k with released := true } :=
    congrArg (fun l : List PTask => l.modify t fun k => { k with released := true }) e1
  have hmf' := hmf0 (MapFrame.of_tasks p _ rfl rfl fun _ tk' h => ⟨tk', h, rfl, rfl⟩)
  have hst : Strict L R (p2.modTask t fun k => { k with released := true }) := hg.strict.of_eq r4 hap hrz
  refine ⟨⟨⟨?_, hg.phase.modify ht a (fun hn => ?_), hreg r4 ht, hg.grp.of_eq hgr (by rw [ht]; exact List.length_modify _ _ _),
    hg.life.modify ht a r4 ((hg.life t tk a).release he.ph), hg.fl.frame hga hap (taskFin_modify ht a id), hwk.of_eq rfl rfl,
    hst.rz, hst.ll, hst.al⟩, hmf'.map hg.map, hmf'.acc hg.acc, (hcn (hg.canc.of_eq rfl rfl)).of_eq rfl rfl⟩,
    ⟨_, by rw [ht]; exact modify_get_self a _, rfl⟩⟩
  · -- the slot goes from the task back to the semaphore
    have hheld := heldL_modify_release p.tasks t tk (fun k => { k with released := true }) a b (fun _ => rfl)
    cases cap with
    | fin n =>
      obtain ⟨v, hv, hsum⟩ := hg.slot
      obtain ⟨v', h1, h2⟩ := Sem.release_effect p.sem v hv
      refine ⟨v', by rw [modTask_sem, e2]; exact h1, ?_⟩
      rw [modTask_sem, e2, ht]
      exact slot_release hsum h2 hheld
    | inf =>
      show (p2.modTask t _).sem.value = .inf ∧ (p2.modTask t _).sem.waiters = []
      rw [modTask_sem, e2]; exact Sem.release_inf p.sem hg.slot.1 hg.slot.2
  · have : tk.phase = .wrapUp := he.ph
    rw [show ({ tk with released := true } : PTask).phase = tk.phase from rfl, this] at hn
    cases hn

def _root_.Taskpool.SoftP.markCancelled (s : SoftP) : SoftP := { s with wasCancelled := true }

theorem _root_.Taskpool.OKs.markCancelled {lost : Bool} {s : SoftP} (h : OKs lost s) (hph : s.phase = .wrapUp)
    (hrel : s.released = false) : OKs lost s.markCancelled :=
  { h with
    c0 := fun hc => hc.elim (fun hc => nomatch hph.symm.trans hc) (fun hc => nomatch hph.symm.trans hc)
    cw := fun _ => rfl
    ord := fun hc => nomatch (h.e0 hrel).symm.trans hc
    fin := fun hc => nomatch hph.symm.trans hc }

/-- as `incEnd`, for `nCC` from 0 to 1: `c1` (`hn`), `cw` (it is `hw`), `cn` (void: `hccb`); `ord` is void because a task
that still holds its slot has `nEC = 0` (`e0`) -/
theorem _root_.Taskpool.OKs.incCancel {lost : Bool} {s : SoftP} (h : OKs lost s) (hph : s.phase = .wrapUp)
    (hrel : s.released = false) (hn : s.nCC = 0) (hw : s.wasCancelled = true) (hccb : s.cancelCb ≠ .none) :
    OKs lost (s.incCb false) :=
  { h with
    c1 := Nat.le_of_eq (congrArg (· + 1) hn)
    c0 := fun hc => hc.elim (fun hc => nomatch hph.symm.trans hc) (fun hc => nomatch hph.symm.trans hc)
    cw := fun _ => hw
    cc := fun hc => nomatch hph.symm.trans hc
    ec := fun hc => nomatch hph.symm.trans hc
    ord := fun hc => nomatch (h.e0 hrel).symm.trans hc
    cn := fun hc => absurd hc hccb
    fin := fun hc => nomatch hph.symm.trans hc
    s0 := fun hc => hc.elim (fun hc => nomatch hph.symm.trans hc) (fun hc => nomatch hph.symm.trans hc)
    out := fun ho => nomatch hph.symm.trans (h.out ho) }

theorem _root_.Taskpool.OKs.toCancelCb {lost : Bool} {s : SoftP} (h : OKs lost s) (hn : s.nCC = 1)
    (hccb : s.cancelCb = .coro) (hnf : s.phase ≠ .finished) : OKs lost (s.setPhase .inCancelCb) :=
  { h with c0 := nofun, cc := fun _ => ⟨hn, hccb⟩, ec := nofun, fin := nofun, s0 := nofun,
           out := fun ho => absurd (h.out ho) hnf }

theorem _root_.Taskpool.OKs.toInWorker {lost : Bool} {s : SoftP} (h : OKs lost s)
    (hc : s.phase = .created ∨ s.phase = .inWorker) : OKs lost (s.setPhase .inWorker) :=
  { h with c0 := fun _ => h.c0 hc, cc := nofun, ec := nofun, fin := nofun, s0 := fun _ => h.s0 hc
           out := fun ho => hc.elim (fun hc => nomatch hc.symm.trans (h.out ho)) (fun hc => nomatch hc.symm.trans (h.out ho)) }

/-- facts about a task that still is in (or before) its worker -/
structure InWork (s : SoftP) : Prop where
  rel : s.released = false
  ncc : s.nCC = 0
  wc : s.wasCancelled = false
  nf : s.phase ≠ .finished

theorem inWork_of {cap : Cap} {L R : Bool} {p : Pool} {t : Nat} {s : SoftP} (hc : p.Cur t s) (hg : Good cap L R p)
    (hph : s.phase = .created ∨ s.phase = .inWorker) : InWork s :=
  ⟨hc.nyr hg (by rcases hph with h | h <;> rw [h] <;> rfl), ((hc.ok hg).c0 hph).1, ((hc.ok hg).c0 hph).2,
    by rcases hph with h | h <;> rw [h] <;> simp⟩

def _root_.Taskpool.SoftP.sawCancel (s : SoftP) : SoftP := { s with phase := .wrapUp, nSaw := s.nSaw + 1 }

theorem _root_.Taskpool.OKs.sawCancel {lost : Bool} {s : SoftP} (h : OKs lost s) (hn : s.nSaw = 0)
    (hnf : s.phase ≠ .finished) : OKs lost s.sawCancel :=
  { h with c0 := nofun, cc := nofun, ec := nofun, fin := nofun, s1 := Nat.le_of_eq (congrArg (· + 1) hn), s0 := nofun,
           out := fun ho => absurd (h.out ho) hnf }

/-- the state of the symbolic execution of the wrapper of task `t`: the invariant, the exact soft profile `s` of `t`, and the
ghost bit `l` — constant along the step, only a `KeyError` sets it (`AtTask.setLost`), so the `OKs l …` obligations of a step are
all stated with one `l` -/
structure AtTask (cap : Cap) (L R l : Bool) (t : Nat) (s : SoftP) (p : Pool) : Prop where
  good : Good cap L R p
  cur : p.Cur t s
  lost : p.lost = l

namespace AtTask
variable {cap : Cap} {L R l : Bool} {t : Nat} {s : SoftP} {p q : Pool}

theorem ok (h : AtTask cap L R l t s p) : OKs l s := h.lost ▸ h.cur.ok h.good

theorem tame (h : AtTask cap L R l t s p) (ht : Tame p q) : AtTask cap L R l t s q :=
  ⟨ht.good h.good, ht.cur h.cur, ht.lost.trans h.lost⟩

theorem mod (h : AtTask cap L R l t s p) (f : PTask → PTask) (g : SoftP → SoftP) (hfg : ∀ x, (f x).soft = g x.soft)
    (hrel : (g s).released = s.released) (hnyr : NYR (g s).phase = true → s.released = false)
    (hcan : t ∈ p.cancelledR → (g s).phase ≠ .created ∧ (g s).phase ≠ .inWorker) (hok : OKs l (g s))
    (hmap : (g s).mapHeld = s.mapHeld ∧ (g s).req = s.req := by exact ⟨rfl, rfl⟩)
    (hfin : s.phase = .finished → (g s).phase = .finished := by intro h; first | exact h | rfl | simp_all) :
    AtTask cap L R l t (g s) (p.modTask t f) :=
  let ⟨a, b⟩ := good_cur p t f g hfg h.good s h.cur hrel hnyr hcan (h.lost ▸ hok) hmap hfin
  ⟨a, b, h.lost⟩

theorem suspend (h : AtTask cap L R l t s p) (ph : Phase) (hnyr : NYR ph = true → s.released = false)
    (hcan : t ∈ p.cancelledR → ph ≠ .created ∧ ph ≠ .inWorker) (hok : OKs l (s.setPhase ph)) (hnf : s.phase ≠ .finished) :
    Good cap L R (p.suspendTask t ph) :=
  (good_suspend p t ph h.good s h.cur hnyr hcan (h.lost ▸ hok) hnf).1

theorem moveRelease (h : AtTask cap L R l t s p) (he : Ending s) {p1 : Pool} (hm : p.moveToEnded t = some p1) :
    AtTask cap L R l t s.release ((p1.releasePool).modTask t fun k => { k with released := true }) :=
  let ⟨a, b⟩ := good_moveRelease p p1 t h.good s h.cur he hm
  ⟨a, b, ((releasePool_regs p1).2.2.2.trans (moveToEnded_lost p p1 t hm)).trans h.lost⟩

theorem releaseMapSlot (h : AtTask cap L R l t s p) (tk : PTask) (hr : s.released = true) (hph : s.phase = .wrapUp)
    (hmh : s.isMap = true → s.mapHeld = true) (hi : tk.isMap = s.isMap) (hq : tk.req = s.req) :
    AtTask cap L R l t s.dropMapIf (p.releaseMapSlot t tk) :=
  let ⟨a, b, c⟩ := good_releaseMapSlot p t tk h.good s h.cur hr hph hmh hi hq
  ⟨a, b, c.trans h.lost⟩

theorem completeTask (h : AtTask cap L R l t s p) (o : Outcome) (hfin : OKs l (s.setPhase .finished)) :
    Good cap L R (p.completeTask t o) := by
  unfold Pool.completeTask
  obtain ⟨x, hx, _⟩ := h.cur
  simp only [hx]
  exact ((h.mod _ (fun s => { s.setPhase .finished with hasOut := true }) (fun _ => rfl) rfl nofun (fun _ => ⟨nofun, nofun⟩)
    { hfin with out := fun _ => rfl }).tame (tame_emitChildren _ _)).good

theorem finishTask (h : AtTask cap L R l t s p) (hfin : OKs l (s.setPhase .finished)) : Good cap L R (p.finishTask t) := by
  unfold Pool.finishTask
  obtain ⟨x, hx, _⟩ := h.cur
  simp only [hx]
  exact h.completeTask _ hfin

theorem setLost (h : AtTask cap true R l t s p) : AtTask cap true R true t s ({ p with lost := true } : Pool) :=
  ⟨good_setLost p h.good, h.cur, rfl⟩

theorem keyErrorFinish (h : AtTask cap true R l t s p) (hph : s.phase = .wrapUp) : Good cap true R (p.keyErrorFinish t) :=
  (h.setLost.tame (tame_modTask _ t fun k => { k with pendingExc := some .keyError })).finishTask
    (h.ok.toLost.setPhase_free .finished (Or.inr ⟨rfl, rfl⟩) (by rw [hph]; intro c; cases c))

theorem cbBegin (h : AtTask cap L R l t s p) (tk : PTask) (isEnd : Bool) (hnot : s.phase = .wrapUp) (hok : OKs l (s.incCb isEnd)) :
    AtTask cap L R l t (s.incCb isEnd) (p.cbBegin t tk isEnd) := by
  have hph : (s.incCb isEnd).phase = .wrapUp := by cases isEnd <;> exact hnot
  exact (h.mod (cbCount isEnd) (fun s => s.incCb isEnd) (fun x => by cases isEnd <;> rfl)
    (by cases isEnd <;> rfl) (fun h => by rw [hph] at h; cases h) (fun _ => by rw [hph]; exact ⟨nofun, nofun⟩)
    hok (by cases isEnd <;> exact ⟨rfl, rfl⟩) (fun h => nomatch hnot.symm.trans h)).tame
      ((tame_logEv _ _).trans (tame_runHooks _ _ _))

/-- a callback of spec `c`: suspended inside it (`.2 = true`), or through — with the counter up by one unless there is none -/
theorem runCb (h : AtTask cap L R l t s p) (tk : PTask) (isEnd : Bool) (c : CbSpec)
    (hc : (if isEnd then tk.endCb else tk.cancelCb) = c) (hph : s.phase = .wrapUp)
    (hin : c ≠ .none → OKs l (s.incCb isEnd)) (hrel : isEnd = false → s.released = false)
    (hco : c = .coro → OKs l ((s.incCb isEnd).setPhase (if isEnd then .inEndCb else .inCancelCb))) :
    ((p.runCb t tk isEnd).2 = true → Good cap L R (p.runCb t tk isEnd).1) ∧
    ((p.runCb t tk isEnd).2 = false → (c = .none ∧ (p.runCb t tk isEnd).1 = p) ∨
      (c ≠ .none ∧ AtTask cap L R l t (s.incCb isEnd) (p.runCb t tk isEnd).1)) := by
  have hnf : (s.incCb isEnd).phase ≠ .finished := fun e => by cases isEnd <;> exact nomatch hph.symm.trans e
  have hb := fun hne => h.cbBegin tk isEnd hph (hin hne)
  unfold Pool.runCb
  rw [hc]
  cases c with
  | none => exact ⟨nofun, fun _ => Or.inl ⟨rfl, rfl⟩⟩
  | plain => exact ⟨nofun, fun _ => Or.inr ⟨nofun, (hb nofun).tame (tame_logEv _ _)⟩⟩
  | raises x => exact ⟨nofun, fun _ => Or.inr ⟨nofun, (hb nofun).tame ((tame_logEv _ _).trans (tame_modTask _ t _))⟩⟩
  | coro =>
    refine ⟨fun _ => (hb nofun).suspend _ (fun hn => ?_) (fun _ => ?_) (hco rfl) hnf, nofun⟩
    · cases isEnd
      · exact hrel rfl
      · cases hn
    · cases isEnd <;> exact ⟨nofun, nofun⟩

theorem endCallbackTail (h : AtTask cap L R l t s p) (tk : PTask) (hr : s.released = true) (hph : s.phase = .wrapUp)
    (hne : s.nEC = 0) (hA : s.wasCancelled = true → s.cancelCb ≠ .none → s.nCC = 1) (hspec : tk.endCb = s.endCb) :
    Good cap L R (if (p.runCb t tk true).2 = true then (p.runCb t tk true).1 else (p.runCb t tk true).1.finishTask t) := by
  have hin : s.endCb ≠ .none → OKs l (s.incCb true) := h.ok.incEnd hr hph hne hA
  obtain ⟨h1, h2⟩ := h.runCb tk true s.endCb hspec hph hin nofun fun hecb =>
    (hin (by rw [hecb]; exact nofun)).toEndCb hr (congrArg (· + 1) hne) hecb (fun e => nomatch hph.symm.trans e)
  refine dite_keeps h1 fun hf => ?_
  rcases h2 (Bool.eq_false_iff.mpr hf) with ⟨hn, e⟩ | ⟨hn, h'⟩
  · rw [e]; exact h.finishTask (h.ok.finished hr (by rw [hne, hn]; rfl) hA)
  · exact h'.finishTask ((hin hn).finished hr (show s.nEC + 1 = if s.endCb = .none then 0 else 1 by rw [hne, if_neg hn]) hA)

theorem endCallback (h : AtTask cap L R l t s p) (tk : PTask) (hr : s.released = true) (hph : s.phase = .wrapUp)
    (hne : s.nEC = 0) (hA : s.wasCancelled = true → s.cancelCb ≠ .none → s.nCC = 1) (hspec : tk.endCb = s.endCb)
    (hmh : s.isMap = true → s.mapHeld = true) (hi : tk.isMap = s.isMap) (hq : tk.req = s.req) :
    Good cap L R (p.endCallback t tk) :=
  (h.releaseMapSlot tk hr hph hmh hi hq).endCallbackTail tk hr hph hne hA hspec

theorem taskEnding (h : AtTask cap L R l t s p) (he : Ending s) : Good cap L R (p.taskEnding t) := by
  unfold Pool.taskEnding
  obtain ⟨x, hx, hs⟩ := h.cur
  simp only [hx]
  split
  · rename_i hm
    cases L with
    | false => exact absurd hm (strict_moveToEnded p t h.good s h.cur he.rel)
    | true => exact h.keyErrorFinish he.ph
  · rename_i p1 hm
    exact (h.moveRelease he hm).endCallback x rfl he.ph (h.ok.e0 he.rel) he.acc (hs ▸ rfl) (fun hm => h.ok.mh hm he.rel)
      (hs ▸ rfl) (hs ▸ rfl)

theorem cancelCallback (h : AtTask cap L R l t s p) (tk : PTask) (hph : s.phase = .wrapUp) (hrel : s.released = false)
    (hn : s.nCC = 0) (hw : s.wasCancelled = true) (hspec : tk.cancelCb = s.cancelCb) :
    Good cap L R (p.cancelCallback t tk) := by
  have hin : s.cancelCb ≠ .none → OKs l (s.incCb false) := h.ok.incCancel hph hrel hn hw
  obtain ⟨h1, h2⟩ := h.runCb tk false s.cancelCb hspec hph hin (fun _ => hrel) fun hccb =>
    (hin (by rw [hccb]; exact nofun)).toCancelCb (congrArg (· + 1) hn) hccb (fun e => nomatch hph.symm.trans e)
  unfold Pool.cancelCallback
  refine dite_keeps h1 fun hf => ?_
  rcases h2 (Bool.eq_false_iff.mpr hf) with ⟨hc, e⟩ | ⟨_, h'⟩
  · rw [e]; exact h.taskEnding ⟨hrel, hph, fun _ hne => absurd hc hne⟩
  · exact h'.taskEnding ⟨hrel, hph, fun _ _ => congrArg (· + 1) hn⟩

/-- `_task_cancellation`: the id moves from the running to the cancelled registry -/
theorem regCancel (h : AtTask cap L R l t s p) (ht : t ∈ p.running) (hnw : NYR s.phase = false) :
    AtTask cap L R l t s ({ p with running := p.running.erase t, cancelledR := p.cancelledR ++ [t] } : Pool) := by
  have hg := h.good
  refine ⟨⟨⟨hg.slot, hg.phase, hg.reg.regCancel t ht fun tk' h' => ?_, hg.grp.of_eq rfl rfl, hg.life,
    hg.fl.frame rfl rfl (fun _ h => h), hg.wk.of_eq rfl rfl, hg.rz, hg.ll, hg.al⟩,
    hg.map.of_eq rfl rfl, hg.acc.of_eq rfl rfl, hg.canc.of_eq rfl rfl⟩, h.cur, h.lost⟩
  obtain ⟨x, hx, rfl⟩ := h.cur
  cases hx.symm.trans h'
  exact nonNYR_ne _ hnw

theorem taskCancellation (h : AtTask cap L R l t s p) (tk : PTask) (hph : s.phase = .wrapUp) (hrel : s.released = false)
    (hn : s.nCC = 0) (hwf : s.wasCancelled = false) (hspec : tk.cancelCb = s.cancelCb) (hnc : t ∉ p.cancelledR) :
    Good cap L R (p.taskCancellation t tk) := by
  unfold Pool.taskCancellation
  have hnw : NYR s.phase = false := by rw [hph]; rfl
  refine dite_keeps (fun hrun => ?_) (fun hrun => ?_)
  · exact ((h.regCancel (List.contains_iff_mem.mp hrun) hnw).mod (fun k => { k with wasCancelled := true })
      (fun s => s.markCancelled) (fun _ => rfl) rfl (fun h => nomatch hnw.symm.trans h) (fun _ => nonNYR_ne _ hnw)
      (h.ok.markCancelled hph hrel)).cancelCallback tk hph hrel hn rfl hspec
  · cases L with
    | false =>
      obtain ⟨x, hx, hs⟩ := h.cur
      rcases h.good.reg.cpl (h.good.ll rfl) t x hx ((congrArg SoftP.released hs).trans hrel) with h' | h'
      · exact absurd (List.contains_iff_mem.mpr h') hrun
      · exact absurd h' hnc
    | true =>
      exact (h.setLost.tame (tame_modTask _ t fun k => { k with pendingExc := some .keyError })).taskEnding
        ⟨hrel, hph, fun hw => nomatch hwf.symm.trans hw⟩

theorem inWork (h : AtTask cap L R l t s p) (hph : s.phase = .created ∨ s.phase = .inWorker) : InWork s :=
  inWork_of h.cur h.good hph

theorem toWrapUp (h : AtTask cap L R l t s p) (f : PTask → PTask) (hf : ∀ x, (f x).soft = x.soft.setPhase .wrapUp)
    (hnf : s.phase ≠ .finished) : AtTask cap L R l t (s.setPhase .wrapUp) (p.modTask t f) :=
  h.mod f (fun s => s.setPhase .wrapUp) hf rfl nofun (fun _ => ⟨nofun, nofun⟩)
    (h.ok.setPhase_free .wrapUp (Or.inl rfl) hnf) ⟨rfl, rfl⟩ (fun h => absurd h hnf)

theorem afterWorker (h : AtTask cap L R l t s p) (e : Option Err) (hw : InWork s) : Good cap L R (p.afterWorker t e) := by
  have he : Ending (s.setPhase .wrapUp) := ⟨hw.rel, rfl, fun h => nomatch hw.wc.symm.trans h⟩
  unfold Pool.afterWorker
  split
  · exact ((h.tame (tame_logEv p _)).toWrapUp _ (fun _ => rfl) hw.nf).taskEnding he
  · exact ((h.tame (tame_logEv p _)).toWrapUp _ (fun _ => rfl) hw.nf).taskEnding he

theorem stepCreated (h : AtTask cap L R l t s p) (tk : PTask) (hph : s.phase = .created) (hnc : t ∉ p.cancelledR)
    (hspec : tk.cancelCb = s.cancelCb) : Good cap L R (p.stepCreated t tk) := by
  have hw := h.inWork (Or.inl hph)
  unfold Pool.stepCreated
  refine dite_keeps (fun _ => ?_) (fun _ => ?_)
  · exact (h.toWrapUp _ (fun _ => rfl) hw.nf).taskCancellation tk rfl hw.rel hw.ncc hw.wc hspec hnc
  · simp only
    have t2 := tame_runHooks ((p.logEv (Ev.started t tk.arg)).modTask t
      (fun k => { k with phase := .inWorker, fut := .ok, unstarted := false })) tk.req (p.reqOf tk).hooks.start
    have h2 := (((h.tame (tame_logEv p (Ev.started t tk.arg))).mod
      (fun k => { k with phase := .inWorker, fut := .ok, unstarted := false }) (fun s => s.setPhase .inWorker) (fun _ => rfl)
      rfl (fun _ => hw.rel) (fun h => absurd h hnc) (h.ok.toInWorker (Or.inl hph)) (hfin := fun h => absurd h hw.nf)).tame t2)
    have hw2 : InWork (s.setPhase .inWorker) := ⟨hw.rel, hw.ncc, hw.wc, nofun⟩
    split
    · exact h2.afterWorker _ hw2
    · exact h2.afterWorker _ hw2
    · -- the first suspension point: the number of awaits still to come is noted (no invariant talks about it)
      have t3 := tame_modTask (((p.logEv (Ev.started t tk.arg)).modTask t
        (fun k => { k with phase := .inWorker, fut := .ok, unstarted := false })).runHooks tk.req (p.reqOf tk).hooks.start) t
        (fun k => { k with awaitsLeft := (p.reqOf tk).wspec.awaits })
      exact (h2.tame t3).suspend .inWorker (fun _ => hw.rel) (fun h => absurd (t2.can ▸ t3.can ▸ h) hnc)
        (h2.ok.toInWorker (Or.inr rfl)) nofun

/-- a `CancelledError` reaches the worker for the first and only time (`hsaw`; afterwards `nSaw = 1`, and `OKs.s1` bounds it) -/
theorem workerCancelled (h : AtTask cap L R l t s p) (tk : PTask) (hw : InWork s) (hsaw : s.nSaw = 0)
    (hspec : tk.cancelCb = s.cancelCb) (hnc : t ∉ p.cancelledR) (hph : s.phase = .inWorker) :
    Good cap L R (p.workerCancelled t tk) := by
  unfold Pool.workerCancelled
  refine dite_keeps (fun _ => ?_) (fun _ => ?_)
  · -- the worker catches the `CancelledError` and goes on: nothing the invariants talk about changes
    have t1 : Tame p ((p.logEv (Ev.resumed t)).modTask t fun k => { k with sawCancel := true }) :=
      (tame_logEv p (Ev.resumed t)).trans (tame_modTask _ t _)
    exact (h.tame t1).suspend .inWorker (fun _ => hw.rel) (fun h => absurd (t1.can ▸ h) hnc)
      ((show s.setPhase .inWorker = s by rw [← hph]; rfl) ▸ h.ok) hw.nf
  have h1 := (h.tame (tame_logEv p (Ev.sawCancel t))).mod
    (fun k => { k with sawCancel := true, phase := .wrapUp, nSaw := k.nSaw + 1 }) (fun s => s.sawCancel) (fun _ => rfl)
    rfl nofun (fun _ => ⟨nofun, nofun⟩) (h.ok.sawCancel hsaw hw.nf) ⟨rfl, rfl⟩ (fun h => absurd h hw.nf)
  refine dite_keeps (fun _ => ?_) (fun _ => ?_)
  · exact h1.afterWorker _ ⟨hw.rel, hw.ncc, hw.wc, nofun⟩
  · exact h1.taskCancellation tk rfl hw.rel hw.ncc hw.wc hspec hnc

theorem workerNext (h : AtTask cap L R l t s p) (tk : PTask) (hw : InWork s) (hnc : t ∉ p.cancelledR) (hph : s.phase = .inWorker) :
    Good cap L R (p.workerNext t tk) := by
  unfold Pool.workerNext
  have t1 : Tame p (((p.logEv (Ev.next t)).modTask t fun k => { k with awaitsLeft := k.awaitsLeft - 1 }).runHooks tk.req
      (p.reqOf tk).hooks.next) :=
    ((tame_logEv p (Ev.next t)).trans (tame_modTask _ t _)).trans (tame_runHooks _ _ _)
  exact (h.tame t1).suspend .inWorker (fun _ => hw.rel) (fun h => absurd (t1.can ▸ h) hnc)
    ((show s.setPhase .inWorker = s by rw [← hph]; rfl) ▸ h.ok) hw.nf

theorem stepInWorker (h : AtTask cap L R l t s p) (tk : PTask) (hph : s.phase = .inWorker) (hspec : tk.cancelCb = s.cancelCb) :
    Good cap L R (p.stepInWorker t tk) := by
  have hw := h.inWork (Or.inr hph)
  have hnc := h.cur.notCan h.good (Or.inr hph)
  unfold Pool.stepInWorker
  refine dite_keeps (fun _ => ?_) (fun _ => ?_)
  · exact (h.tame (tame_modTask p t fun k => { k with mustCancel := false })).workerCancelled tk hw (h.ok.s0 (Or.inr hph))
      hspec hnc hph
  · split
    · exact dite_keeps (fun _ => h.workerNext tk hw hnc hph) (fun _ => h.afterWorker _ hw)
    · exact h.afterWorker _ hw
    · exact h.good

theorem stepInCancelCb (h : AtTask cap L R l t s p) (tk : PTask) (hph : s.phase = .inCancelCb) :
    Good cap L R (p.stepInCancelCb t tk) := by
  have fin : ∀ (q : Pool) (f : PTask → PTask), (∀ x, (f x).soft = x.soft.setPhase .wrapUp) → Tame p q →
      Good cap L R ((q.modTask t f).taskEnding t) := fun q f hf tq =>
    ((h.tame tq).toWrapUp f hf (by rw [hph]; simp)).taskEnding
      ⟨h.cur.nyr h.good (by rw [hph]; rfl), rfl, fun _ _ => (h.ok.cc hph).1⟩
  unfold Pool.stepInCancelCb
  split
  · exact fin _ _ (fun _ => rfl) (tame_logEv p _)
  · exact fin _ _ (fun _ => rfl) (tame_logEv p _)
  · exact fin _ _ (fun _ => rfl) (tame_logEv p _)
  · exact h.good

theorem stepInEndCb (h : AtTask cap L R l t s p) (tk : PTask) (hph : s.phase = .inEndCb) :
    Good cap L R (p.stepInEndCb t tk) := by
  obtain ⟨hne, hecb, hrel⟩ := h.ok.ec hph
  have hfin : OKs l (s.setPhase .finished) :=
    h.ok.finished hrel (by rw [hne, hecb]; simp) (fun hw hn => h.ok.ord hne hw hn)
  unfold Pool.stepInEndCb
  split
  · exact (h.tame (tame_logEv p _)).finishTask hfin
  · exact (h.tame ((tame_logEv p _).trans (tame_modTask _ t _))).finishTask hfin
  · exact (h.tame ((tame_logEv p _).trans (tame_modTask _ t _))).finishTask hfin
  · exact h.good

end AtTask

theorem good_workerCancelled {cap : Cap} {L R : Bool} (p : Pool) (t : Nat) (tk : PTask) (hg : Good cap L R p) (s : SoftP) (hc : p.Cur t s)
    (hw : InWork s) (hsaw : s.nSaw = 0) (hspec : tk.cancelCb = s.cancelCb) (hnc : t ∉ p.cancelledR)
    (hph : s.phase = .inWorker) :
    Good cap L R (p.workerCancelled t tk) :=
  AtTask.workerCancelled ⟨hg, hc, rfl⟩ tk hw hsaw hspec hnc hph

theorem good_workerNext {cap : Cap} {L R : Bool} (p : Pool) (t : Nat) (tk : PTask) (hg : Good cap L R p) (s : SoftP) (hc : p.Cur t s)
    (hw : InWork s) (hnc : t ∉ p.cancelledR) (hph : s.phase = .inWorker) :
    Good cap L R (p.workerNext t tk) :=
  AtTask.workerNext ⟨hg, hc, rfl⟩ tk hw hnc hph

theorem good_stepTask {cap : Cap} {L R : Bool} (p : Pool) (t : Nat) (hg : Good cap L R p) : Good cap L R (p.stepTask t) := by
  unfold stepTask
  split
  · exact hg
  · rename_i tk htk
    split
    · exact hg
    · simp only
      have h0 : AtTask cap L R p.lost t tk.soft (p.modTask t fun k => { k with sched := false }) :=
        AtTask.tame ⟨hg, ⟨tk, htk, rfl⟩, rfl⟩ (tame_modTask p t _)
      split
      · rename_i hph
        exact h0.stepCreated tk hph (h0.cur.notCan h0.good (Or.inl hph)) rfl
      · exact h0.good
      · rename_i hph; exact h0.stepInWorker tk hph rfl
      · rename_i hph; exact h0.stepInCancelCb tk hph
      · rename_i hph; exact h0.stepInEndCb tk hph
      · exact h0.good

end Pool
end Taskpool
