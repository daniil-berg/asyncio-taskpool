import Taskpool.Inv.Task
/-! Request accounting while a spawner runs: the books of request `m` are described by a predicate `P` on its counters
(a loop invariant in terms of the loop's own position), all other requests balance as usual. -/
namespace Taskpool

theorem AccAt.weaken {p : Pool} {m : Nat} {P Q : Cnt → MFrame → Prop} (h : AccAt p m P)
    (hPQ : ∀ r, p.reqs[m]? = some r → P r.cnt r.frame → Q r.cnt r.frame) : AccAt p m Q :=
  ⟨h.ref, h.tk, h.rq, fun r hr => hPQ r hr (h.here r hr)⟩

theorem AccAt.addTask {p : Pool} {m : Nat} {P P' : Cnt → MFrame → Prop} (h : AccAt p m P) (x : PTask) (hq : x.req = m)
    (hlt : m < p.reqs.length) (f : Req → Req) (hc : ∀ r, (f r).created = r.created + 1)
    (hf : ∀ r, p.reqs[m]? = some r → P r.cnt r.frame → P' (f r).cnt (f r).frame)
    (q : Pool) (ht : q.tasks = p.tasks ++ [x]) (hr : q.reqs = p.reqs.modify m f) : AccAt q m P' := by
  refine ⟨?_, ?_, ?_, ?_⟩
  · intro i tk hi
    rw [hr, List.length_modify]
    rcases getElem?_append_one (ht ▸ hi) with hi | ⟨_, rfl⟩
    · exact h.ref i tk hi
    · rw [hq]; exact hlt
  · have hap : ∀ m', tasksOf (p.tasks ++ [x]) m' = tasksOf p.tasks m' + if (m == m') = true then 1 else 0 := fun m' => by
      rw [tasksOf, List.countP_append, List.countP_singleton, ← tasksOf, hq]
    rw [hr, ht]
    refine forall_modify h.tk (fun y _ e => ?_) fun m' r' ne e => ?_
    · rw [hap, e, hc, beq_self_eq_true, if_pos rfl]
    · rw [hap, e, beq_false_of_ne (fun e' => ne e'.symm), if_neg Bool.false_ne_true]; rfl
  · exact hr ▸ forall_modify h.rq (fun _ _ _ ne => absurd rfl ne) fun _ _ _ e => e
  · intro r' hr'
    obtain ⟨y, hy, rfl⟩ := getElem?_modify_self (hr ▸ hr')
    exact hf y hy (h.here y hy)

end Taskpool

namespace Taskpool

/-- apply/start loop at position `n` (invocations still to start; the `remaining` field may be stale) -/
def PA (n : Nat) : Cnt → MFrame → Prop := fun c _ => c.kind = .apply ∧ c.created + c.skipped + n = c.n0

/-- apply/start loop with the `remaining` field set to `n` -/
def PAf (n : Nat) : Cnt → MFrame → Prop :=
  fun c _ => c.kind = .apply ∧ c.created + c.skipped + n = c.n0 ∧ c.remaining = n

/-- map loop: `left` elements not yet pulled, `hand` (0/1) elements pulled that are neither a task nor skipped -/
def PM (left hand : Nat) : Cnt → MFrame → Prop :=
  fun c _ => c.kind = .map ∧ c.pulled + c.left = c.n0 ∧ c.pulled = c.created + c.skipped + hand ∧ c.left = left

theorem AccReq.applyEq {c : Cnt} {fr : MFrame} (h : AccReq c fr 0) (hk : c.kind = .apply) :
    c.created + c.skipped + c.remaining = c.n0 :=
  Int.ofNat_inj.mp ((h.1 hk).1.trans (Int.add_zero _))

theorem PAf.next {n : Nat} {c c' : Cnt} {fr fr' : MFrame} (h : PAf (n + 1) c fr) (hk : c'.kind = c.kind)
    (h0 : c'.n0 = c.n0) (hs : c'.created + c'.skipped = c.created + c.skipped + 1) : PA n c' fr' :=
  ⟨hk.trans h.1, by rw [hs, h0, Nat.add_assoc, Nat.add_comm 1]; exact h.2.1⟩

theorem PM.pull {l : Nat} {c c' : Cnt} {fr fr' : MFrame} (h : PM (l + 1) 0 c fr) (hk : c'.kind = c.kind) (h0 : c'.n0 = c.n0)
    (hp : c'.pulled = c.pulled + 1) (hl : c'.left = l) (hc : c'.created = c.created) (hs : c'.skipped = c.skipped) :
    PM l 1 c' fr' :=
  ⟨hk.trans h.1, by rw [hp, hl, h0, Nat.add_assoc, Nat.add_comm 1, ← h.2.2.2]; exact h.2.1,
    by rw [hp, hc, hs]; exact congrArg (· + 1) h.2.2.1, hl⟩

theorem PM.next {l : Nat} {c c' : Cnt} {fr fr' : MFrame} (h : PM l 1 c fr) (hk : c'.kind = c.kind) (h0 : c'.n0 = c.n0)
    (hp : c'.pulled = c.pulled) (hl : c'.left = c.left) (hs : c'.created + c'.skipped = c.created + c.skipped + 1) :
    PM l 0 c' fr' :=
  ⟨hk.trans h.1, by rw [hp, hl, h0]; exact h.2.1, by rw [hp, hs]; exact h.2.2.1, hl.trans h.2.2.2⟩

theorem PAf.acc {n : Nat} {c : Cnt} {fr fr' : MFrame} (h : PAf n c fr) (hw : fr' = .waitRoom → 1 ≤ n)
    (hm : fr' ≠ .waitMapSem := by simp) : AccReq c fr' 0 := by
  obtain ⟨a, b, e⟩ := h
  refine ⟨fun _ => ⟨by rw [e]; omega, fun x => by rw [e]; exact hw x, hm⟩, fun hk => ?_⟩
  rw [a] at hk; cases hk

theorem PM.acc0 {l : Nat} {c : Cnt} {fr fr' : MFrame} (h : PM l 0 c fr)
    (hf : fr' ≠ .waitRoom ∧ fr' ≠ .waitMapSem) : AccReq c fr' 0 := by
  obtain ⟨a, b, e, _⟩ := h
  refine ⟨fun hk => ?_, fun _ => ⟨b, by omega, by omega, fun hx => ?_, fun _ => by omega⟩⟩
  · rw [a] at hk; cases hk
  · rcases hx with x | x
    · exact absurd x hf.1
    · exact absurd x hf.2

theorem PM.acc1 {l : Nat} {c : Cnt} {fr fr' : MFrame} (h : PM l 1 c fr) (hf : fr' ≠ .notStarted) : AccReq c fr' 0 := by
  obtain ⟨a, b, e, _⟩ := h
  refine ⟨fun hk => ?_, fun _ => ⟨b, by omega, by omega, fun _ => e, fun x => absurd x hf⟩⟩
  rw [a] at hk; cases hk

namespace Pool

theorem accOK_finishMeta {p : Pool} {m : Nat} {P : Cnt → MFrame → Prop} (o : Outcome) (h : AccAt p m P)
    (hP : ∀ c fr, P c fr → AccReq c .done 0) : AccOK (p.finishMeta m o) := by
  unfold finishMeta
  split
  · rename_i hn
    exact (h.weaken (Q := fun c fr => AccReq c fr 0) fun r hr => nomatch hn.symm.trans hr).ok fun _ _ x => x
  · rename_i r hr
    refine (tame_emitChildren _ _).acc ?_
    refine AccAt.ok (m := m) (P := fun c fr => AccReq c fr 0) ?_ (fun _ _ x => x)
    refine h.modReq _ (fun _ => rfl) ?_
    intro x hx hp
    exact hP _ _ hp

end Pool
end Taskpool

namespace Taskpool

/-- the state of the pool while the spawner of request `m` runs: everything but the books of the map semaphores and
the request accounting is `Good0`; `k` map slots of `m` are in flight; the counters of `m` satisfy `P` -/
structure SpSt (cap : Cap) (L R : Bool) (p : Pool) (m : Nat) (k : Int) (P : Cnt → MFrame → Prop) : Prop where
  g0 : Good0 cap L R p
  mp : MapMid p m k
  ac : AccAt p m P
  lt : m < p.reqs.length
  nw : ∀ r, p.reqs[m]? = some r → r.frame ≠ .waitRoom
  cn : CancEx (· = m) p

theorem CancEx.modReqSelf {p : Pool} {m : Nat} (h : CancEx (· = m) p) (f : Req → Req)
    (hcs : ∀ r, p.reqs[m]? = some r → (f r).cancelSnap = r.cancelSnap ∧
      (((f r).created = r.created ∧ (f r).pulled = r.pulled) ∨ r.cancelSnap = none)) : CancEx (· = m) (p.modReq m f) :=
  h.frameEx fun i r' a => by
    rcases getElem?_modify_split a with ⟨rfl, x, hx, rfl⟩ | ⟨_, hx⟩
    · obtain ⟨e1, e2⟩ := hcs x hx
      exact e2.elim (fun e => .inl ⟨x, hx, .inr ⟨rfl, e1, e⟩⟩) fun e => .inr (e1.trans e)
    · exact .inl ⟨r', hx, .inl ⟨.refl r', id⟩⟩

theorem Req.pend_zero {r : Req} (h : r.frame ≠ .waitRoom) : r.pend = 0 := by
  unfold Req.pend
  cases hf : r.frame <;> simp_all

theorem Req.pend_waitRoom {r : Req} (h : r.frame = .waitRoom) :
    r.pend = if (r.kind == .map && r.acquired) = true then 1 else 0 := by
  unfold Req.pend
  rw [h, beq_self_eq_true, Bool.and_true]

def FrameFree (P : Cnt → MFrame → Prop) : Prop := ∀ c fr fr', P c fr → P c fr'

theorem PA.ff (n : Nat) : FrameFree (PA n) := fun _ _ _ h => h
theorem PAf.ff (n : Nat) : FrameFree (PAf n) := fun _ _ _ h => h
theorem PM.ff (l h : Nat) : FrameFree (PM l h) := fun _ _ _ h => h

theorem Good.sp {cap : Cap} {L R : Bool} {p : Pool} (hg : Good cap L R p) (m : Nat) (hlt : m < p.reqs.length)
    (hnw : ∀ r, p.reqs[m]? = some r → r.frame ≠ .waitRoom) :
    SpSt cap L R p m 0 (fun c fr => AccReq c fr 0) :=
  ⟨hg.toGood0, hg.map.mid m, hg.acc.atReq m, hlt, hnw, hg.canc.ex _⟩

theorem SpSt.good {cap : Cap} {L R : Bool} {p : Pool} {m : Nat} {k : Int} {P : Cnt → MFrame → Prop}
    (h : SpSt cap L R p m k P) (hk : k = 0) (hP : ∀ c fr, P c fr → AccReq c fr 0)
    (hcm : ∀ r c u, p.reqs[m]? = some r → r.cancelSnap = some (c, u) → r.frame = .done ∨ DoomedAt p m r) : Good cap L R p :=
  ⟨h.g0, h.mp.ok hk, h.ac.ok hP, h.cn.close hcm⟩

theorem SpSt.weaken {cap : Cap} {L R : Bool} {p : Pool} {m : Nat} {k : Int} {P Q : Cnt → MFrame → Prop}
    (h : SpSt cap L R p m k P) (hPQ : ∀ r, p.reqs[m]? = some r → P r.cnt r.frame → Q r.cnt r.frame) :
    SpSt cap L R p m k Q :=
  ⟨h.g0, h.mp, h.ac.weaken hPQ, h.lt, h.nw, h.cn⟩

theorem SpSt.frame {cap : Cap} {L R : Bool} {p q : Pool} {m : Nat} {k : Int} {P : Cnt → MFrame → Prop}
    (h : SpSt cap L R p m k P) (t : Tame p q) (hac : AccAt q m P) : SpSt cap L R q m k P :=
  ⟨t.toTame0.good0 h.g0, t.mapFrame.mid h.mp h.lt, hac, Nat.lt_of_lt_of_le h.lt t.rql, fun r' hr' => by
      rcases t.rq m r' hr' with ⟨r, a, b⟩ | ⟨hge, _⟩
      · rcases b.fr with e | e
        · rw [e]; exact h.nw r a
        · rw [e]; intro x; cases x
      · have := h.lt; omega, t.cok _ h.cn⟩

theorem SpSt.tame {cap : Cap} {L R : Bool} {p q : Pool} {m : Nat} {k : Int} {P : Cnt → MFrame → Prop}
    (h : SpSt cap L R p m k P) (t : Tame p q) (hP : FrameFree P) : SpSt cap L R q m k P :=
  h.frame t (t.mapFrame.atReq h.ac h.lt fun c fr fr' x _ => hP c fr fr' x)

theorem SpSt.modReq {cap : Cap} {L R : Bool} {p : Pool} {m : Nat} {k : Int} {P : Cnt → MFrame → Prop}
    (h : SpSt cap L R p m k P) (f : Req → Req) (k' : Int) (P' : Cnt → MFrame → Prop)
    (hsem : ∀ r v, p.reqs[m]? = some r → r.mapSem.value = .fin v →
        ∃ v', (f r).mapSem.value = .fin v' ∧
          ((v' + grantsL (f r).mapSem.waiters + (f r).pend : Nat) : Int) + k' = (v + grantsL r.mapSem.waiters + r.pend : Nat) + k)
    (hout : ∀ r, p.reqs[m]? = some r → (f r).outcome = none → r.outcome = none)
    (hnc : ∀ r, (f r).nc = r.nc) (hacq : ∀ r, p.reqs[m]? = some r → r.AcqOK → (f r).AcqOK)
    (hc : ∀ r, (f r).created = r.created)
    (hf : ∀ r, p.reqs[m]? = some r → P r.cnt r.frame → P' (f r).cnt (f r).frame)
    (hnw : ∀ r, r.frame ≠ .waitRoom → (f r).frame ≠ .waitRoom)
    (hwk : ∀ r, p.reqs[m]? = some r → r.mapSem.WakeInv → (f r).mapSem.WakeInv)
    (hcs : ∀ r, p.reqs[m]? = some r → (f r).cancelSnap = r.cancelSnap ∧
      (((f r).created = r.created ∧ (f r).pulled = r.pulled) ∨ r.cancelSnap = none) := by
        intro r _; exact ⟨rfl, Or.inl ⟨rfl, rfl⟩⟩) :
    SpSt cap L R (p.modReq m f) m k' P' :=
  ⟨(Pool.tame0_modReq p m f).good0 h.g0, h.mp.modReq f k' hsem hout hnc hacq hwk, h.ac.modReq f hc hf,
    by simpa [Pool.modReq] using h.lt, fun r' hr' => by
      obtain ⟨x, hx, rfl⟩ := getElem?_modify_self hr'
      exact hnw x (h.nw x hx), h.cn.modReqSelf f hcs⟩

theorem SpSt.modReq' {cap : Cap} {L R : Bool} {p : Pool} {m : Nat} {k : Int} {P : Cnt → MFrame → Prop}
    (h : SpSt cap L R p m k P) (f : Req → Req) (P' : Cnt → MFrame → Prop)
    (hs : ∀ r, (f r).mapSem = r.mapSem ∧ (f r).nc = r.nc ∧ ((f r).frame = r.frame ∨ (f r).frame = .running) ∧
      ((f r).outcome = none → r.outcome = none))
    (hacq : ∀ r, p.reqs[m]? = some r → r.AcqOK → (f r).AcqOK)
    (hc : ∀ r, (f r).created = r.created)
    (hf : ∀ r, p.reqs[m]? = some r → P r.cnt r.frame → P' (f r).cnt (f r).frame)
    (hcs : ∀ r, p.reqs[m]? = some r → (f r).cancelSnap = r.cancelSnap ∧
      (((f r).created = r.created ∧ (f r).pulled = r.pulled) ∨ r.cancelSnap = none) := by
        intro r _; exact ⟨rfl, Or.inl ⟨rfl, rfl⟩⟩) :
    SpSt cap L R (p.modReq m f) m k P' := by
  have hfw : ∀ r, r.frame ≠ .waitRoom → (f r).frame ≠ .waitRoom := fun r hr => by
    rcases (hs r).2.2.1 with e | e
    · rw [e]; exact hr
    · rw [e]; nofun
  refine h.modReq f k P' ?_ (fun r _ => (hs r).2.2.2) (fun r => (hs r).2.1) hacq hc hf hfw
    (fun r _ hw => by rw [(hs r).1]; exact hw) hcs
  intro r v hr hv
  exact ⟨v, by rw [(hs r).1]; exact hv, by rw [(hs r).1, Req.pend_zero (hfw r (h.nw r hr)), Req.pend_zero (h.nw r hr)]⟩

end Taskpool

namespace Taskpool
namespace Pool

theorem _root_.Taskpool.SpSt.schedOpt {cap : Cap} {L R : Bool} {p : Pool} {m : Nat} {k : Int} {P : Cnt → MFrame → Prop}
    (h : SpSt cap L R p m k P) (o : Option Nat) : SpSt cap L R (p.schedOpt o) m k P :=
  h.frame (tame_schedOpt p o) (h.ac.schedOpt o)

end Pool
end Taskpool
