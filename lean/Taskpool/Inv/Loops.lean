import Taskpool.Inv.UserCode
/-! A spawner's two loops (`_apply_spawner` / `_start_num`, `_arg_consumer`) are made of a handful of state changes.
A predicate `P` kept by each change while the spawner is under way, and carried over to `Q` by each change that ends
the step (`finishMeta`, queueing up in `waitRoom` / `waitMapSem`), gives `P p → Q (applyLoop m n p)` and so on — proved
here once, for every walk (`LoopKept`).  For an invariant without an exempt mode, `Q = P`.

`MetaKept` adds what a spawner's step does besides the loops, when it wakes up inside `_enough_room.acquire()` or inside
`acquire()` of the call's own semaphore: the waiter entry is dropped, a slot in hand is passed on or given back, the task
the slot was granted for is created — without a look at `closed`, which not every predicate survives: `G` says that it
may happen whatever the state of the pool; otherwise `stepMeta` asks for a proof that the spawner wakes up cancelled. -/
namespace Taskpool
namespace Pool

structure LoopKept (P Q : Pool → Prop) (m : Nat) : Prop where
  remaining : ∀ p n, P p → P (p.modReq m fun x => { x with remaining := n })
  skipped : ∀ p, P p → P (p.modReq m fun x => { x with skipped := x.skipped + 1 })
  itemsNil : ∀ p, P p → P (p.modReq m fun x => { x with items := [] })
  acquired : ∀ p, P p → P (p.modReq m fun x => { x with acquired := true, frame := .running })
  pullItem : ∀ p rest, P p → P (p.pullItem m rest)
  takeMapSlot : ∀ p, P p → P (p.takeMapSlot m)
  /-- `_start_task` creates a task only in a pool that is not closed -/
  takeSlotAndCreate : ∀ (p : Pool) isMap, P p → p.closed = false → P (p.takeSlotAndCreate m isMap)
  finishMeta : ∀ p o, P p → Q (p.finishMeta m o)
  waitRoom : ∀ p, P p → Q (p.waitRoom m)
  waitMapSem : ∀ p, P p → Q (p.waitMapSem m)

section
variable {P Q : Pool → Prop} {m : Nat} (k : LoopKept P Q m) {p : Pool}
include k

theorem LoopKept.applyLoop (n : Nat) (p : Pool) (h : P p) : Q (applyLoop m n p) := by
  induction n generalizing p with
  | zero => exact k.finishMeta _ _ (k.remaining p 0 h)
  | succ n ih =>
    have h1 := k.remaining p (n + 1) h
    exact applyLoop_succ_elim m n p _ rfl (fun _ => ih _ (k.skipped _ h1)) (fun _ => k.finishMeta _ _ h1)
      (fun _ _ => k.finishMeta _ _ h1) (fun _ _ _ => k.waitRoom _ h1) (fun c _ _ => ih _ (k.takeSlotAndCreate _ false h1 c))

/-- `_start_task` for a map element: the task was created and the spawner goes on, or the step is over -/
theorem LoopKept.mapStartTask (h : P p) :
    ((p.mapStartTask m).2 = true → P (p.mapStartTask m).1) ∧ ((p.mapStartTask m).2 = false → Q (p.mapStartTask m).1) := by
  unfold Pool.mapStartTask
  refine dite_keeps (P := fun r : Pool × Bool => (r.2 = true → P r.1) ∧ (r.2 = false → Q r.1))
    (fun _ => ⟨(fun e => nomatch e), fun _ => k.finishMeta _ _ h⟩) fun c => ?_
  exact ite_keeps (P := fun r : Pool × Bool => (r.2 = true → P r.1) ∧ (r.2 = false → Q r.1))
    ⟨(fun e => nomatch e), fun _ => k.waitRoom _ h⟩
    ⟨fun _ => k.takeSlotAndCreate _ true h (Bool.eq_false_iff.mpr c), (fun e => nomatch e)⟩

theorem LoopKept.mapLoop (items : List Item) (p : Pool) (h : P p) : Q (mapLoop m items p) := by
  induction items generalizing p with
  | nil => exact k.finishMeta _ _ (k.itemsNil p h)
  | cons it rest ih =>
    have h1 := k.pullItem p rest h
    have h2 := k.mapStartTask (k.takeMapSlot _ h1)
    exact mapLoop_cons_elim m it rest p _ rfl (fun _ => k.finishMeta _ _ h1) (fun _ _ => ih _ (k.skipped _ h1))
      (fun _ _ _ => k.waitMapSem _ h1) (fun _ _ _ c => ih _ (h2.1 c)) (fun _ _ _ c => h2.2 c)

theorem LoopKept.continueSpawner (h : P p) : Q (p.continueSpawner m) := by
  unfold Pool.continueSpawner
  dsimp only
  split
  · exact k.applyLoop _ p h
  · exact k.mapLoop _ p h

theorem LoopKept.stepMetaNotStarted (h : P p) (r : Req) : Q (p.stepMetaNotStarted m r) := by
  unfold Pool.stepMetaNotStarted
  refine ite_keeps (k.finishMeta _ _ h) ?_
  split
  · exact k.applyLoop _ p h
  · exact k.mapLoop _ p h

theorem LoopKept.mapSemGranted (h : P p) (r : Req) : Q (p.mapSemGranted m r) :=
  have h1 := k.mapStartTask (k.acquired p h)
  dite_keeps (fun c => k.mapLoop _ _ (h1.1 c)) fun c => h1.2 (Bool.eq_false_iff.mpr c)

end

/-- `G` guards the one task creation that does not look at `closed` (the spawner woke up with a slot in hand).  Pick
`True` for a predicate that `createTask` keeps in any pool; else the condition under which it keeps it, and `stepMeta`
then asks (`hd`) for a proof that without `G` the spawner wakes up cancelled and creates nothing. -/
structure MetaKept (P Q : Pool → Prop) (G : Prop) (m : Nat) : Prop extends LoopKept P Q m where
  releasePool : ∀ p, P p → P p.releasePool
  releaseMap : ∀ p, P p → P (p.releaseMap m)
  /-- the waiter entry in `_enough_room` is dropped (`ws`), `must_cancel` is consumed -/
  dropWaiter : ∀ (p : Pool) ws, P p →
    P (({ p with sem := { p.sem with waiters := ws } } : Pool).modReq m fun x => { x with mustCancel := false })
  running : ∀ p, P p → P (p.modReq m fun x => { x with frame := .running })
  /-- `_wake_up_next()` on `_enough_room` -/
  wakeNext : ∀ (p : Pool) s o, P p → P (({ p with sem := s } : Pool).schedOpt o)
  /-- the task a slot was waited for: no look at `closed` -/
  createTask : G → ∀ p isMap, P p → P (p.createTask m isMap)
  /-- the call's own semaphore after the wake-up (`s`), `must_cancel` is consumed -/
  mapWake : ∀ (p : Pool) s o, P p → P ((p.modReq m fun x => { x with mapSem := s, mustCancel := false }).schedOpt o)

section
variable {P Q : Pool → Prop} {G : Prop} {m : Nat} (k : MetaKept P Q G m) {p : Pool}
include k

theorem MetaKept.roomWaitCancelled (h : P p) (r : Req) (st : Option WaitSt) : Q (p.roomWaitCancelled m r st) := by
  unfold Pool.roomWaitCancelled
  have h1 : P (if st == some .granted then p.releasePool else p) := ite_keeps (k.releasePool p h) h
  exact k.finishMeta _ _ (ite_keeps (k.releaseMap _ h1) h1)

theorem MetaKept.roomGranted (h : P p) (r : Req) (hg : G) : Q (p.roomGranted m r) := by
  unfold Pool.roomGranted
  have h1 := k.running p h
  exact k.toLoopKept.continueSpawner (k.createTask hg _ _ (ite_keeps (k.wakeNext _ _ _ h1) h1))

/-- `hd`: unless `G`, the spawner wakes up cancelled -/
theorem MetaKept.wakeWaitRoom (h : P p) (hq : Q p) (r : Req)
    (hd : ¬ G → (removeWaiterL m p.sem.waiters).1 = some .cancelled ∨ r.mustCancel = true) : Q (p.wakeWaitRoom m r) :=
  have h1 := k.dropWaiter p (removeWaiterL m p.sem.waiters).2 h
  wakeWaitRoom_elim p m r _ _ rfl rfl (fun _ _ _ => hq) (fun _ => k.roomWaitCancelled h1 r _) fun n1 n2 _ =>
    k.roomGranted h1 r (Classical.not_not.mp fun ng => (hd ng).elim n1 fun e => nomatch n2.symm.trans e)

theorem MetaKept.wakeWaitMapSem (h : P p) (hq : Q p) (r : Req) : Q (p.wakeWaitMapSem m r) :=
  wakeWaitMapSem_elim p m r _ _ _ _ rfl rfl rfl rfl (fun _ _ _ => hq)
    (fun _ => k.finishMeta _ _ (k.mapWake p _ _ h)) fun _ _ _ => k.toLoopKept.mapSemGranted (k.mapWake p _ _ h) r

/-- one step of spawner `m`; `h`: the handle finds no flag to clear; `h1`, `hl`: after the flag has been cleared — `hl`
serves the frames in which the coroutine is resumed -/
theorem MetaKept.stepMeta (h : (∀ r, p.reqs[m]? = some r → r.sched = false) → Q p)
    (h1 : Q (p.modReq m fun x => { x with sched := false }))
    (hl : ∀ r, p.reqs[m]? = some r → r.frame ≠ .done → r.frame ≠ .running →
      P (p.modReq m fun x => { x with sched := false }))
    (hd : ¬ G → ∀ r, p.reqs[m]? = some r → r.frame = .waitRoom →
      (removeWaiterL m p.sem.waiters).1 = some .cancelled ∨ r.mustCancel = true) : Q (p.stepMeta m) :=
  stepMeta_elim p m _ rfl (fun e => h fun _ a => nomatch e.symm.trans a)
    (fun _ e hs => h fun _ a => Option.some.inj (e.symm.trans a) ▸ hs) (fun _ _ _ _ _ => h1)
    (fun r hr e => k.toLoopKept.stepMetaNotStarted (hl r hr (e ▸ nofun) (e ▸ nofun)) r)
    (fun r hr e => k.wakeWaitRoom (hl r hr (e ▸ nofun) (e ▸ nofun)) h1 r fun ng => hd ng r hr e)
    fun r hr e => k.wakeWaitMapSem (hl r hr (e ▸ nofun) (e ▸ nofun)) h1 r

end

end Pool
end Taskpool
