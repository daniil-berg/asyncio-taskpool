import Taskpool.Model.Control.Server
import Taskpool.Inv.Lists
/-! Invariant of the server life cycle (C19). -/
namespace Taskpool.Control

/-- holds before `settle` has looked at the state -/
structure SrvPre (s : Srv) : Prop where
  running : s.stopRequested = false → s.listening = true ∧ s.serveDone = false ∧ s.socketFile = s.unix
  stopped : s.stopRequested = true → s.listening = false
  done_only : s.serveDone = true → s.stopRequested = true ∧ s.allGone = true
  file : s.serveDone = true → s.socketFile = false
  fileUnix : s.socketFile = true → s.unix = true

structure SrvInv (s : Srv) : Prop extends SrvPre s where
  done_if : s.stopRequested = true → s.allGone = true → s.serveDone = true

theorem srvInv_start (u : Bool) : SrvInv (Srv.start u) :=
  ⟨⟨fun _ => ⟨rfl, rfl, rfl⟩, (fun h => nomatch h), (fun h => nomatch h), (fun h => nomatch h), id⟩, (fun h => nomatch h)⟩

theorem all_set_false (l : List Bool) (i : Nat) (h : l.all (fun c => !c) = true) :
    (l.set i false).all (fun c => !c) = true := by
  rw [List.all_eq_true] at h ⊢
  intro x hx
  rcases List.mem_or_eq_of_mem_set hx with hx | rfl
  · exact h x hx
  · rfl

theorem settle_fields (s : Srv) :
    s.settle = { s with serveDone := s.settle.serveDone, socketFile := s.settle.socketFile } := by
  unfold Srv.settle
  split
  · rfl
  · rfl

theorem srvInv_settle {s : Srv} (h : SrvPre s) : SrvInv s.settle := by
  unfold Srv.settle
  split
  · rename_i hc
    have ⟨h1, h2⟩ := Bool.and_eq_true_iff.mp hc
    exact ⟨⟨(fun h0 => nomatch h1.symm.trans h0), fun _ => h.stopped h1, fun _ => ⟨h1, h2⟩, fun _ => rfl,
      (fun h0 => nomatch h0)⟩, fun _ _ => rfl⟩
  · rename_i hc
    exact ⟨h, fun h1 h2 => absurd (Bool.and_eq_true_iff.mpr ⟨h1, h2⟩) hc⟩

theorem srvPre_drop {s : Srv} (h : SrvPre s) (i : Nat) : SrvPre (s.drop i) :=
  ⟨h.running, h.stopped, fun hd => ⟨(h.done_only hd).1, all_set_false _ i (h.done_only hd).2⟩, h.file, h.fileUnix⟩

theorem srvInv_step {s : Srv} (h : SrvInv s) (x : SIn) : SrvInv (s.step x) :=
  match x with
  | .connect =>
    -- a listening server has not been asked to stop, so is not done: what speaks of `conns` is void
    dite_keeps (P := SrvInv) (fun hl =>
      have hn : s.stopRequested = true → False := fun hs => nomatch hl.symm.trans (h.stopped hs)
      ⟨⟨h.running, h.stopped, fun hd => (hn (h.done_only hd).1).elim, h.file, h.fileUnix⟩, fun hs => (hn hs).elim⟩)
      fun _ => h
  | .line i =>
    have h1 : SrvPre { s with commands := s.commands + 1 } := ⟨h.running, h.stopped, h.done_only, h.file, h.fileUnix⟩
    dite_keeps (P := SrvInv) (fun _ => dite_keeps (P := SrvInv) (fun _ => srvInv_settle (srvPre_drop h1 i)) fun _ => ⟨h1, h.done_if⟩)
      fun _ => h
  | .clientClose i => srvInv_settle (srvPre_drop h.toSrvPre i)
  | .exitCmd i => srvInv_settle (srvPre_drop h.toSrvPre i)
  | .stop =>
    srvInv_settle ⟨(fun h0 => nomatch h0), fun _ => rfl, fun hd => ⟨rfl, (h.done_only hd).2⟩, h.file, h.fileUnix⟩
  | .restart =>
    dite_keeps (P := SrvInv) (fun _ => ⟨⟨fun _ => ⟨rfl, rfl, rfl⟩, (fun h0 => nomatch h0), (fun h0 => nomatch h0),
      (fun h0 => nomatch h0), id⟩, (fun h0 => nomatch h0)⟩) fun _ => h

theorem srvInv_run (ins : List SIn) {s : Srv} (h : SrvInv s) : SrvInv (s.run ins) :=
  foldl_keeps (P := SrvInv) Srv.step (fun _ x h => srvInv_step h x) ins s h

theorem settle_unix (s : Srv) : s.settle.unix = s.unix := (congrArg Srv.unix (settle_fields s) :)

theorem step_unix (s : Srv) (x : SIn) : (s.step x).unix = s.unix :=
  match x with
  | .connect => dite_keeps (P := fun x : Srv => x.unix = s.unix) (fun _ => rfl) fun _ => rfl
  | .line _ => dite_keeps (P := fun x : Srv => x.unix = s.unix) (fun _ => dite_keeps (P := fun x : Srv => x.unix = s.unix) (fun _ => settle_unix _) fun _ => rfl)
      fun _ => rfl
  | .clientClose _ => settle_unix _
  | .exitCmd _ => settle_unix _
  | .stop => settle_unix _
  | .restart => dite_keeps (P := fun x : Srv => x.unix = s.unix) (fun _ => rfl) fun _ => rfl

theorem run_unix (ins : List SIn) (s : Srv) : (s.run ins).unix = s.unix :=
  foldl_keeps (P := fun t => t.unix = s.unix) Srv.step (fun t x h => (step_unix t x).trans h) ins s rfl

end Taskpool.Control
