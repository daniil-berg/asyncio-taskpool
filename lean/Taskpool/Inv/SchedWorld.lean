import Taskpool.Inv.SchedWalk
import Taskpool.Inv.Lift
/-! **Whoever is flagged as scheduled has a handle — every reachable world.**  The relation `Pool.Sch` of
`Inv/Sched.lean` (it holds of every write of the machine, `Inv/SchedWalk.lean`) is lifted to the loop's ready queue:
after any history, every flagged entity of every pool has a handle in the ready queue; if the loop is idle nobody is
flagged. -/
namespace Taskpool

/-- every flagged entity of every pool has a handle: in the loop's ready queue or in the pool's out-queue -/
def World.SchedOK (w : World) : Prop :=
  ∀ i p, w.pools[i]? = some p → ∀ r, p.flag r = true → 0 < w.ready.count (i, r) + p.cnt r

theorem Pool.flag_emit_nil (p : Pool) (r : Ref) : ({ p with emit := [] } : Pool).flag r = p.flag r := by
  cases r <;> rfl

theorem Pool.flag_init (cap : Cap) (simple : Option SpawnSpec) (r : Ref) : (Pool.init cap simple).flag r = false := by
  cases r <;> simp [Pool.flag, Pool.init]

/-- `SchedOK` for one pool; `R`: the handles the loop holds for it -/
def Pool.Handled (R : Ref → Nat) (p : Pool) : Prop := ∀ r, p.flag r = true → 0 < R r + p.cnt r

/-- what `Sch` is for: a handle in the ready queue or the out-queue before, or a new one in the out-queue -/
theorem Pool.Handled.sch {R : Ref → Nat} {p q : Pool} (h : p.Handled R) (hs : Pool.Sch p q) : q.Handled R := fun r hf => by
  have := hs.em r
  rcases hs.fl r hf with a | a
  · have := h r a
    omega
  · omega

theorem handledInvariant : ReadyInvariant Pool.Handled fun _ _ => True where
  init := fun _ _ r hf => nomatch (Pool.flag_init _ _ r).symm.trans hf
  op := fun _ p _ _ o _ h => h.sch (((Pool.Sch.refl p).same _).trans (Pool.sch_steps (Pool.steps_applyOp _ o)))
  run := fun _ p R orders r0 _ h r hf => by
    have st := Pool.stepped_runRef ({ p with orders := orders } : Pool) r0
    by_cases er : r0 = r
    · -- the handle that is run is gone from the queue: its entity is flagged again only with a new handle
      subst er
      exact Nat.lt_of_lt_of_le (Nat.lt_of_le_of_lt (Nat.zero_le _) (st.self hf)) (Nat.le_add_left _ _)
    · have : 0 < R r + (if r0 = r then 1 else 0) + _ := h.sch (((Pool.Sch.refl p).same _).trans st.sch) r hf
      rwa [if_neg er] at this
  drain := fun p R h r hf => Nat.lt_of_lt_of_le (h r ((Pool.flag_emit_nil p r).symm.trans hf)) (Nat.le_add_right _ _)

theorem World.schedOK_run (base : Nat) (h : History) : ((World.init base).run h).SchedOK :=
  (World.ready_run handledInvariant (ok := allOps) ⟨fun _ _ _ => trivial, fun _ _ _ _ _ _ => trivial,
    fun _ _ _ _ _ => trivial, fun _ _ _ => trivial⟩ base h fun x _ => admits_all x).inv

def World.EmitNil (w : World) : Prop := ∀ (i : Nat) (p : Pool), w.pools[i]? = some p → p.emit = []

theorem World.emitNil_drain (w : World) : w.drain.EmitNil := by
  intro i p hp
  obtain ⟨q, _, rfl⟩ := getElem?_map_some (l := w.pools) hp
  rfl

theorem World.EmitNil.run {w : World} (h : w.EmitNil) (hs : History) : (w.run hs).EmitNil :=
  foldl_keeps _ (fun _ _ _ => World.emitNil_drain _) hs w h

theorem World.emit_nil_run (base : Nat) (h : History) (i : Nat) (p : Pool)
    (hp : ((World.init base).run h).pools[i]? = some p) : p.emit = [] := by
  have h0 : (World.init base).EmitNil := by
    intro i p hp
    simp [World.init] at hp
  exact h0.run h i p hp

theorem World.flagged_in_ready (base : Nat) (h : History) (i : Nat) (p : Pool)
    (hp : ((World.init base).run h).pools[i]? = some p) (r : Ref) (hf : p.flag r = true) :
    (i, r) ∈ ((World.init base).run h).ready := by
  have h1 := World.schedOK_run base h i p hp r hf
  have h2 := World.emit_nil_run base h i p hp
  simp only [Pool.cnt, h2, List.count_nil, Nat.add_zero] at h1
  exact List.count_pos_iff.mp h1

/-- if the loop is idle, nobody is flagged -/
theorem World.idle_no_flag (base : Nat) (h : History) (hidle : ((World.init base).run h).ready = []) (i : Nat) (p : Pool)
    (hp : ((World.init base).run h).pools[i]? = some p) (r : Ref) : p.flag r = false := by
  cases hf : p.flag r with
  | false => rfl
  | true =>
    have := World.flagged_in_ready base h i p hp r hf
    rw [hidle] at this
    cases this

#print axioms World.idle_no_flag

end Taskpool
