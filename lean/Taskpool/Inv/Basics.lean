import Taskpool.Model.World
import Taskpool.Inv.Lists
/-! Facts the invariant proofs of the pool machine share beyond `Lists`: look-ups into `modReq`, the indices
`indicesWhere` returns, what `snapReq` writes. -/
namespace Taskpool

theorem Pool.modReq_get_self (p : Pool) (m : Nat) (f : Req → Req) (r : Req) (hp : p.reqs[m]? = some r) :
    (p.modReq m f).reqs[m]? = some (f r) :=
  modify_get_self hp f

theorem mem_indicesWhere_iff {l : List Req} {f : Req → Bool} {m : Nat} :
    m ∈ Pool.indicesWhere l f ↔ ∃ r, l[m]? = some r ∧ f r = true := by
  unfold Pool.indicesWhere
  simp only [List.mem_map, List.mem_filter]
  constructor
  · rintro ⟨⟨r, i⟩, ⟨hm, hf⟩, rfl⟩
    exact ⟨r, List.mem_zipIdx_iff_getElem?.mp hm, hf⟩
  · rintro ⟨r, h, hf⟩
    exact ⟨(r, m), ⟨List.mem_zipIdx_iff_getElem?.mpr h, hf⟩, rfl⟩

theorem mem_indicesWhere_lt {l : List Req} {f : Req → Bool} {m : Nat} (h : m ∈ Pool.indicesWhere l f) : m < l.length :=
  let ⟨_, hr, _⟩ := mem_indicesWhere_iff.mp h
  (lt_of_getElem?_some hr)

theorem Pool.snapReq_eq (x : Req) : Pool.snapReq x = { x with cancelSnap := (Pool.snapReq x).cancelSnap } := by
  unfold Pool.snapReq
  split <;> rfl

end Taskpool
