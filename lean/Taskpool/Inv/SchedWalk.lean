import Taskpool.Inv.Sched
import Taskpool.Inv.ApiStages
import Taskpool.Inv.Wrapper
import Taskpool.Inv.Write
/-! **Whoever is flagged as scheduled has a handle — every step.**  Every write of the machine is a step of `Sch`
(`sch_write`, by cases on `Write` of `Inv/Write.lean`): a flag is set only together with queueing the handle.  Running a
handle clears the flag of its entity and goes on by writes (`steps_unflag`, `steps_stepped` of `Inv/Write.lean`): that
is `Stepped` (`stepped_runRef`). -/
namespace Taskpool
namespace Pool

variable {p₀ p : Pool}

theorem sched_taskW {w t k' k} (h : TaskW w t k' k) (a : k'.sched = true) : k.sched = true := by
  cases h with
  | soft h => obtain ⟨_, _, _, e⟩ := h; rw [e] at a; exact a
  | own _ hs => exact hs a
  | reg _ h => rw [h] at a; exact a

theorem sched_reqW {w m r' r} (h : ReqW w m r' r) (a : r'.sched = true) : r.sched = true := by
  cases h with
  | soft h => obtain ⟨_, _, _, e, _⟩ := h; rw [e] at a; exact a
  | own h => exact h.sched a
  | reg _ h => rw [h] at a; exact a

/-- every write of the machine (`Inv/Write.lean`), each an instance of `Sch.lists`: a flag is set only together with
queueing the handle (by `modify`: `flagAt_modify`, in a new record: `flagAt_append`) -/
theorem sch_write {w : Who} {p q : Pool} (h : Write w p q) : Sch p q := by
  have r := Sch.refl p
  have nil := (List.append_nil p.emit).symm
  cases h with
  | rest | lost | runToEnded | canToEnded | runToCan | modGather | newGather | forget | close | waitClosed => exact r.same _
  | emit _ x => exact r.lists _ [x] rfl
  | task _ t f hf => exact r.lists _ [] nil (ht := fun _ a => .inl (flagAt_modify_keep a fun x => sched_taskW (hf x)))
  | req _ m f hf => exact r.lists _ [] nil (hr := fun _ a => .inl (flagAt_modify_keep a fun x => sched_reqW (hf x)))
  | modApi _ a f hf => exact r.lists _ [] nil (ha := fun _ a => .inl (flagAt_modify_keep a hf))
  | flagTask _ t => exact r.lists _ [.task t] rfl (ht := fun _ => flagAt_modify .task)
  | flagReq _ m => exact r.lists _ [.spawner m] rfl (hr := fun _ => flagAt_modify .spawner)
  | flagApi _ a => exact r.lists _ [.api a] rfl (ha := fun _ => flagAt_modify .api)
  | fileCancelled _ f ms hf hm | unfiled _ f ms hf hm =>
    refine r.mapReqs _ f rfl fun x => ?_
    obtain ⟨_, _, _, e, _⟩ := hf x
    rw [e]
  | newReq => exact r.lists _ [.spawner p.reqs.length] rfl (hr := fun _ => flagAt_append .spawner)
  | newApi => exact r.lists _ [.api p.apis.length] rfl (ha := fun _ => flagAt_append .api)
  | newTask =>
    exact r.lists _ [.task p.tasks.length] rfl (ht := fun _ => flagAt_append .task)
      (hr := fun _ a => .inl (flagAt_modify_keep a fun _ b => b))
  | completeTask _ t =>
    exact r.lists _ _ rfl (ht := fun _ a => .inl (flagAt_modify_keep a fun _ b => Bool.noConfusion b))
  | finishMeta _ m =>
    exact r.lists _ _ rfl (hr := fun _ a => .inl (flagAt_modify_keep a fun _ b => Bool.noConfusion b))

theorem sch_steps {S : Who → Prop} {p q : Pool} (h : Steps S p q) : Sch p q :=
  h.frame Sch.refl Sch.trans fun _ _ _ _ x => sch_write x

theorem stepped_runRef (p : Pool) (r : Ref) : Stepped p (p.runRef r) r := by
  refine ⟨p.unflag r, sch_steps (steps_unflag p r), ?_, ?_, sch_steps (steps_stepped p r)⟩
  · cases r with
    | task t => cases h : p.tasks[t]? <;> simp [unflag, flag, modTask, h]
    | spawner m => cases h : p.reqs[m]? <;> simp [unflag, flag, modReq, h]
    | api a => cases h : p.apis[a]? <;> simp [unflag, flag, modApi, h]
    | gchild g i => rfl
  · cases r <;> rfl

theorem sch_runRef_self (p : Pool) (r : Ref) : (p.runRef r).flag r = true → p.cnt r < (p.runRef r).cnt r :=
  (stepped_runRef p r).self

end Pool
end Taskpool
