import Taskpool.Model.Control.Session
/-! Ledger and buffer invariants of the session loop (C18). -/
namespace Taskpool.Control

theorem answerable_cons_some (t : List Tok) (ls : List Line) : answerable (some t :: ls) = answerable ls + 1 := rfl

theorem answerable_cons_none (ls : List Line) : answerable (none :: ls) = 0 := rfl

theorem hasBlank_cons_some (t : List Tok) (ls : List Line) : hasBlank (some t :: ls) = hasBlank ls := rfl

theorem hasBlank_cons_none (ls : List Line) : hasBlank (none :: ls) = true := rfl

theorem answerable_snoc (ls : List Line) (l : Line) :
    answerable (ls ++ [l]) = answerable ls + bif hasBlank ls || l.isNone then 0 else 1 := by
  induction ls with
  | nil => cases l with
    | none => rfl
    | some _ => rfl
  | cons a ls ih => cases a with
    | none => rfl
    | some t =>
      rw [List.cons_append, answerable_cons_some, answerable_cons_some, hasBlank_cons_some, ih, Nat.add_right_comm]

theorem hasBlank_snoc (ls : List Line) (l : Line) : hasBlank (ls ++ [l]) = (hasBlank ls || l.isNone) := by
  unfold hasBlank
  rw [List.any_append, List.any_cons, List.any_nil, Bool.or_false]

theorem unread_ended {ls : List Line} {s : Sess} (h : s.ended = true) : unread ls s = 0 := by
  unfold unread
  rw [h]
  rfl
theorem unread_live {ls : List Line} {s : Sess} (h : s.ended = false) : unread ls s = answerable ls := by
  unfold unread
  rw [h]
  rfl
theorem wcount_none {s : Sess} (h : s.waiting = none) : wcount s = 0 := by
  unfold wcount
  rw [h]
  rfl
theorem wcount_some {s : Sess} {a : Action} (h : s.waiting = some a) : wcount s = 1 := by
  unfold wcount
  rw [h]
  rfl

theorem ledger_snoc (ls : List Line) (l : Line) (s : Sess) :
    ledger (ls ++ [l]) s = ledger ls s + bif blankSeen ls s || l.isNone then 0 else 1 := by
  unfold ledger unread blankSeen
  cases s.ended
  · rw [cond_false, cond_false, answerable_snoc, Bool.false_or, ← Nat.add_assoc]
  · rfl

theorem blankSeen_snoc (ls : List Line) (l : Line) (s : Sess) :
    blankSeen (ls ++ [l]) s = (blankSeen ls s || l.isNone) := by
  unfold blankSeen
  rw [hasBlank_snoc, Bool.or_assoc]

theorem respond_replies {s : Sess} (hb : s.buf = []) (t : Str) : (respond s t).replies = s.replies ++ [t] := by
  unfold respond
  rw [hb]
  rfl

theorem respond_count (s : Sess) (t : Str) (hw : s.waiting = none) :
    (respond s t).replies.length + wcount (respond s t) = s.replies.length + 1 := by
  rw [wcount_none (s := respond s t) hw]
  exact List.length_append

theorem handle_spec {σ} (cfg : Cfg σ) (pool : σ) (s : Sess) (toks : List Tok) (hw : s.waiting = none) :
    (handle cfg pool s toks).2.replies.length + wcount (handle cfg pool s toks).2 = s.replies.length + 1
      ∧ (handle cfg pool s toks).2.ended = s.ended ∧ (s.buf = [] → (handle cfg pool s toks).2.buf = []) := by
  unfold handle
  split
  · exact ⟨respond_count s _ hw, rfl, fun _ => rfl⟩
  · exact ⟨respond_count s _ hw, rfl, fun _ => rfl⟩
  · split
    · exact ⟨rfl, rfl, id⟩
    · exact ⟨respond_count s _ hw, rfl, fun _ => rfl⟩

/-- a line that is no call is answered with argparse's message and nothing else happens -/
theorem handle_no_act {σ} (cfg : Cfg σ) (pool : σ) (s : Sess) (toks : List Tok)
    (h : ∀ a, resolve cfg.rt cfg.table toks ≠ .act a) :
    handle cfg pool s toks = (pool, respond s (cfg.rt.message toks)) := by
  unfold handle
  split
  · rfl
  · rfl
  · rename_i a ha
    exact absurd ha (h a)

theorem idle_of {s : Sess} (he : s.ended = false) (hw : s.waiting = none) : (s.ended || s.waiting.isSome) = false := by
  rw [he, hw]
  rfl

theorem pump_nil {σ} (cfg : Cfg σ) (pool : σ) (s : Sess) : pump cfg [] pool s = (pool, { s with inbox := [] }) := rfl

theorem pump_stuck {σ} (cfg : Cfg σ) (l : Line) (ls : List Line) (pool : σ) {s : Sess}
    (h : (s.ended || s.waiting.isSome) = true) : pump cfg (l :: ls) pool s = (pool, { s with inbox := l :: ls }) :=
  if_pos h

theorem pump_blank {σ} (cfg : Cfg σ) (ls : List Line) (pool : σ) {s : Sess}
    (h : (s.ended || s.waiting.isSome) = false) :
    pump cfg (none :: ls) pool s = (pool, { s with ended := true, inbox := ls }) :=
  if_neg (ne_true_of_eq_false h)

theorem pump_line {σ} (cfg : Cfg σ) (toks : List Tok) (ls : List Line) (pool : σ) {s : Sess}
    (h : (s.ended || s.waiting.isSome) = false) :
    pump cfg (some toks :: ls) pool s = pump cfg ls (handle cfg pool s toks).1 (handle cfg pool s toks).2 :=
  if_neg (ne_true_of_eq_false h)

theorem pump_spec {σ} (cfg : Cfg σ) (ls : List Line) (pool : σ) (s : Sess) :
    ledger (pump cfg ls pool s).2.inbox (pump cfg ls pool s).2 = ledger ls s
      ∧ blankSeen (pump cfg ls pool s).2.inbox (pump cfg ls pool s).2 = blankSeen ls s
      ∧ (s.buf = [] → (pump cfg ls pool s).2.buf = []) := by
  induction ls generalizing pool s with
  | nil => exact ⟨rfl, rfl, id⟩
  | cons l ls ih =>
    cases hc : s.ended || s.waiting.isSome with
    | true =>
      rw [pump_stuck cfg l ls pool hc]
      exact ⟨rfl, rfl, id⟩
    | false =>
      have ⟨he, hw⟩ : s.ended = false ∧ s.waiting = none := by simpa using hc
      cases l with
      | none =>
        -- the session ends: nothing is unread any more, and nothing of `none :: ls` was answerable
        rw [pump_blank cfg ls pool hc]
        refine ⟨?_, ?_, id⟩
        · unfold ledger unread
          rw [he]
          rfl
        · unfold blankSeen
          rw [he]
          rfl
      | some toks =>
        have hh := handle_spec cfg pool s toks hw
        have ih := ih (handle cfg pool s toks).1 (handle cfg pool s toks).2
        rw [pump_line cfg toks ls pool hc]
        refine ⟨ih.1.trans ?_, ih.2.1.trans ?_, fun hb => ih.2.2 (hh.2.2 hb)⟩
        · have h1 := hh.1
          unfold ledger unread
          rw [hh.2.1, he, cond_false, cond_false, answerable_cons_some, wcount_none hw]
          omega
        · unfold blankSeen
          rw [hh.2.1, hasBlank_cons_some]

theorem upd_same (f : Nat → Sess) (i : Nat) (s : Sess) : upd f i s i = s := if_pos rfl
theorem upd_other (f : Nat → Sess) {i j : Nat} (s : Sess) (h : j ≠ i) : upd f i s j = f j := if_neg h

theorem step_line_other {σ} (cfg : Cfg σ) (w : World σ) {i j : Nat} (h : j ≠ i) (l : Line) :
    (step cfg w (.line i l)).sess j = w.sess j := upd_other _ _ h

theorem step_done_other {σ} (cfg : Cfg σ) (w : World σ) {i j : Nat} (h : j ≠ i) (o : Outcome) :
    (step cfg w (.done i o)).sess j = w.sess j := by
  simp only [step]
  split
  · rfl
  · exact upd_other _ _ h

theorem step_line_sess {σ} (cfg : Cfg σ) (w : World σ) (i : Nat) (l : Line) :
    (step cfg w (.line i l)).sess i = (pump cfg ((w.sess i).inbox ++ [l]) w.pool (w.sess i)).2 := upd_same _ _ _

theorem step_line_pool {σ} (cfg : Cfg σ) (w : World σ) (i : Nat) (l : Line) :
    (step cfg w (.line i l)).pool = (pump cfg ((w.sess i).inbox ++ [l]) w.pool (w.sess i)).1 := rfl

theorem step_done_idle {σ} (cfg : Cfg σ) {w : World σ} {i : Nat} (hw : (w.sess i).waiting = none) (o : Outcome) :
    step cfg w (.done i o) = w := by
  simp only [step, hw]

theorem step_done_sess {σ} (cfg : Cfg σ) {w : World σ} {i : Nat} {a : Action} (hw : (w.sess i).waiting = some a)
    (o : Outcome) :
    (step cfg w (.done i o)).sess i
      = (pump cfg (w.sess i).inbox (cfg.sem.complete a w.pool)
          (respond { w.sess i with waiting := none } (replyText a o))).2 := by
  simp only [step, hw]
  exact upd_same _ _ _

/-- What a history does to session `i`, seen from that session: it is handed its lines in the order sent and the
completions of what it awaits; nothing else touches it.  So a property of (lines sent, session) kept by these two
moves holds along every history. -/
theorem sess_run {σ} (cfg : Cfg σ) (i : Nat) {P : List Line → Sess → Prop}
    (hline : ∀ sent s pool l, P sent s → P (sent ++ [l]) (pump cfg (s.inbox ++ [l]) pool s).2)
    (hdone : ∀ sent s pool a t, s.waiting = some a → P sent s →
      P sent (pump cfg s.inbox pool (respond { s with waiting := none } t)).2)
    (ins : List In) (w : World σ) (sent : List Line) (h : P sent (w.sess i)) :
    P (sent ++ sentTo i ins) ((run cfg w ins).sess i) := by
  induction ins generalizing w sent with
  | nil => exact (List.append_nil sent).symm ▸ h
  | cons x ins ih =>
    cases x with
    | env k => exact ih (step cfg w (.env k)) sent h
    | line j l =>
      unfold sentTo
      by_cases hj : j = i
      · subst hj
        rw [if_pos rfl, List.append_cons]
        refine ih (step cfg w (.line j l)) (sent ++ [l]) ?_
        rw [step_line_sess]
        exact hline _ _ _ l h
      · rw [if_neg hj]
        refine ih (step cfg w (.line j l)) sent ?_
        rw [step_line_other cfg w (Ne.symm hj)]
        exact h
    | done j o =>
      refine ih (step cfg w (.done j o)) sent ?_
      by_cases hj : j = i
      · subst hj
        cases hw : (w.sess j).waiting with
        | none =>
          rw [step_done_idle cfg hw]
          exact h
        | some a =>
          rw [step_done_sess cfg hw]
          exact hdone _ _ _ a _ hw h
      · rw [step_done_other cfg w (Ne.symm hj)]
        exact h

structure Booked (base : Nat) (sent : List Line) (s : Sess) : Prop where
  count : ledger s.inbox s = base + answerable sent
  blank : blankSeen s.inbox s = hasBlank sent

theorem booked_line {σ} (cfg : Cfg σ) (pool : σ) {base : Nat} {s : Sess} {sent : List Line} (h : Booked base sent s)
    (l : Line) : Booked base (sent ++ [l]) (pump cfg (s.inbox ++ [l]) pool s).2 :=
  ⟨(pump_spec cfg _ pool s).1.trans (by rw [ledger_snoc, answerable_snoc, h.count, h.blank, Nat.add_assoc]),
    (pump_spec cfg _ pool s).2.1.trans (by rw [blankSeen_snoc, hasBlank_snoc, h.blank])⟩

/-- the reply owed for the awaited command is written: one more reply, nothing awaited -/
theorem booked_done {σ} (cfg : Cfg σ) (pool : σ) {base : Nat} {s : Sess} {sent : List Line} (h : Booked base sent s)
    {a : Action} (hw : s.waiting = some a) (t : Str) :
    Booked base sent (pump cfg s.inbox pool (respond { s with waiting := none } t)).2 := by
  refine ⟨(pump_spec cfg s.inbox pool _).1.trans (Eq.trans ?_ h.count), (pump_spec cfg s.inbox pool _).2.1.trans h.blank⟩
  unfold ledger
  rw [wcount_some hw, show wcount (respond { s with waiting := none } t) = 0 from rfl]
  exact congrArg (· + unread s.inbox s) List.length_append

end Taskpool.Control
