import Taskpool.Inv.EndWalk
import Taskpool.Inv.Steps
/-! **A task inside its end callback stays filed as ended — the steps that are not frame steps** (`EStep`,
`Inv/EndWalk.lean`):

* the step of a pool task `t`.  No entity has to be exempt: the registry move (`moveToEnded`) comes *before* the task
  suspends inside its end callback, so `EndFiled` holds at every intermediate state.  Walking predicate before the move:
  `TK t p` — `EndFiled p`, and every `gather_and_close()` suspended in its second gather awaits `t` as long as `t` is filed
  as running or cancelled (from `SealOK.g2` at the start of the step; kept by frame steps because gathers keep their
  children, `running ++ cancelledR` only shrinks up to new tasks, and nobody enters a `gather2` frame).  After the move:
  `EndFiled p ∧ t ∈ p.ended`.  `EndAt t` is that predicate by stage of the wrapper, `end_wrap` the instance of `WrapStaged`
  (`Inv/Wrapper.lean`).
* the stages of `flush()` / `gather_and_close()`: `EfAt` / `EfG` are `EndFiled` on top of what `Good` knows at that stage
  (`GoodAt` / `GoodG`, `Inv/Steps.lean`), `ef_staged` is the instance of `ApiStaged` (`Inv/ApiStages.lean`).  The last stages
  forget only ids of finished tasks (`FlushOK.gth` for the gather that has just completed normally, with `fe` + `FlushOK.api`
  resp. `ge` for "the forgotten ids are children"), and the frame change into `gather2` happens right after a gather over
  (at least) the ended registry was started. -/
namespace Taskpool
namespace Pool

def GacAwaits (t : Nat) (p : Pool) : Prop :=
  ∀ (a : Nat) (A : Api) (g : Nat), p.apis[a]? = some A → A.frame = .gather2 g → A.kind.isGac = true →
    ∃ G : Gather, p.gathers[g]? = some G ∧ Child.task t ∈ G.children

theorem GacAwaits.step {t : Nat} {p q : Pool} (h : GacAwaits t p) (s : EStep p q) : GacAwaits t q := by
  intro a A' g hq hf hk
  obtain ⟨A, hp, f, k, _⟩ := s.apOld hq hf
  obtain ⟨G, hG, hc⟩ := h a A g hp f (by rw [k]; exact hk)
  obtain ⟨G', hG', e⟩ := s.ga.fwd hG
  exact ⟨G', hG', by rw [e]; exact hc⟩

/-- what the wrapper of task `t` walks with before the registry move (file header) -/
structure TK (t : Nat) (p : Pool) : Prop where
  ok : EndFiled p
  lt : t < p.tasks.length
  aw : t ∈ p.running ++ p.cancelledR → GacAwaits t p

theorem TK.step {t : Nat} {p q : Pool} (h : TK t p) (s : EStep p q) : TK t q :=
  ⟨h.ok.step s, Nat.lt_of_lt_of_le h.lt s.tl, fun hm => by
    rcases s.ru t hm with a | a
    · exact (h.aw a).step s
    · have := h.lt; omega⟩

theorem tk_of_seal {t : Nat} {p : Pool} {tk : PTask} (hs : Seal p) (he : EndFiled p) (ht : p.tasks[t]? = some tk) :
    TK t p :=
  ⟨he, (lt_of_getElem?_some ht), fun hm a A g hA hf hk => by
    obtain ⟨_, G, hG, hsub⟩ := hs.g2 a A g hA hk hf
    exact ⟨G, hG, hsub t hm⟩⟩

theorem endFiled_modTask_ended {t : Nat} {p : Pool} (he : EndFiled p) (ht : t ∈ p.ended) (f : PTask → PTask) :
    EndFiled (p.modTask t f) where
  ef := fun i k' hq _ hph => by
    obtain ⟨k, hk, e⟩ := getElem?_modify_some p.tasks _ _ _ _ hq
    by_cases c : t = i
    · subst c; exact ht
    · rw [if_neg c] at e; subst e; exact he.ef i _ hk (fun x => x) hph
  fe := fun a A g hq => he.fe a A g hq
  ge := fun a A g hq => he.ge a A g hq

theorem endFiled_file {t : Nat} {p : Pool} (he : EndFiled p) (hg : GacAwaits t p) (q : Pool)
    (h1 : q.ended = p.ended ++ [t]) (h2 : q.tasks = p.tasks := by rfl) (h3 : q.apis = p.apis := by rfl)
    (h4 : q.gathers = p.gathers := by rfl) : EndFiled q where
  ef := fun i k hq _ hph => by
    rw [h2] at hq
    rw [h1]; exact List.mem_append_left _ (he.ef i k hq (fun x => x) hph)
  fe := fun a A g hq hf hk => by
    rw [h3] at hq; rw [h4]; exact he.fe a A g hq hf hk
  ge := fun a A g hq hf hk => by
    rw [h3] at hq
    obtain ⟨G, hG, hsub⟩ := he.ge a A g hq hf hk
    obtain ⟨G', hG', hc⟩ := hg a A g hq hf hk
    rw [hG] at hG'; cases hG'
    rw [h4]
    refine ⟨G, hG, fun x hx => ?_⟩
    rw [h1] at hx
    rcases List.mem_append.mp hx with b | b
    · exact hsub x b
    · rw [List.mem_singleton] at b; subst b; exact hc

theorem estep_runToCan (p : Pool) (t : Nat) (c : p.running.contains t = true) :
    EStep p { p with running := p.running.erase t, cancelledR := p.cancelledR ++ [t] } :=
  { EStep.refl p with
    ru := fun x hx => by
      rcases List.mem_append.mp hx with a | a
      · exact Or.inl (List.mem_append_left _ (List.mem_of_mem_erase a))
      · rcases List.mem_append.mp a with b | b
        · exact Or.inl (List.mem_append_right _ b)
        · exact Or.inl (List.mem_append_left _ (List.mem_singleton.mp b ▸ List.contains_iff_mem.mp c)) }

/-- `EndFiled` along the wrapper of task `t`: before the registry move every closing `gather_and_close()` awaits `t`
(`TK`); after it `t` is filed as ended, so it may suspend inside its end callback -/
def EndAt (t : Nat) : WStage → Pool → Prop
  | .run, p => TK t p
  | .lost, p => EndFiled p
  | _, p => EndFiled p ∧ t ∈ p.ended

theorem EndAt.step {t : Nat} {s : WStage} {p q : Pool} (h : EndAt t s p) (e : EStep p q) : EndAt t s q := by
  cases s with
  | run => exact TK.step h e
  | lost => exact EndOK.step h e
  | ended | endCb => exact ⟨h.1.step e, e.en ▸ h.2⟩

theorem EndAt.ok {t : Nat} {s : WStage} {p : Pool} (h : EndAt t s p) : EndFiled p := by
  cases s with
  | run => exact TK.ok h
  | lost => exact h
  | ended | endCb => exact h.1

theorem end_body (t : Nat) : WrapBody (EndAt t) (fun _ => True) t where
  modTask := fun s p f hw h => by
    -- a task enters `inEndCb` only at stage `endCb`, where it is filed as ended
    have key : s ≠ .endCb → EndAt t s (p.modTask t f) := fun hs => h.step (estep_modTask p t f fun x hx => by
      rcases (hw x).ph with a | a | a | a | a
      · exact a ▸ hx
      · rw [a] at hx; cases hx
      · rw [a] at hx; cases hx
      · rw [a] at hx; cases hx
      · exact absurd a.1 hs)
    cases s with
    | endCb => exact ⟨endFiled_modTask_ended h.1 h.2 f, h.2⟩
    | run | lost | ended => exact key WStage.noConfusion
  logEv := fun _ p e h => h.step (estep_logEv p e)
  runHooks := fun _ p ctx hs _ h => h.step (estep_runHooks p ctx hs)
  adm := fun _ _ _ _ => ⟨trivial, trivial, trivial, trivial⟩
  lost := fun p h => EndAt.step (s := .run) h (estep_of_eq p _)
  toLost := fun p h => (EndAt.ok (s := .run) h).step (estep_of_eq p _)
  runToCan := fun p c h => EndAt.step (s := .run) h (estep_runToCan p t c)
  runToEnded := fun p c (h : TK t p) =>
    ⟨endFiled_file h.ok (h.aw (List.mem_append_left _ (List.contains_iff_mem.mp c))) _ rfl,
      List.mem_append_right _ (List.mem_singleton.mpr rfl)⟩
  canToEnded := fun p c (h : TK t p) =>
    ⟨endFiled_file h.ok (h.aw (List.mem_append_right _ (List.contains_iff_mem.mp c))) _ rfl,
      List.mem_append_right _ (List.mem_singleton.mpr rfl)⟩
  releasePool := fun p h => EndAt.step (s := .ended) h (estep_releasePool p)
  releaseMap := fun p m h => EndAt.step (s := .ended) h (estep_releaseMap p m)
  unhold := fun p h => ⟨endFiled_modTask_ended h.1 h.2 _, h.2⟩
  noMap := fun _ _ _ _ h => h

theorem end_wrap (t : Nat) : WrapStaged (EndAt t) EndFiled (fun _ => True) t :=
  (end_body t).ofWeaken (fun _ _ h => h.ok) (fun _ p h => h.step (estep_schedTask p t))
    (fun p o h => h.1.step (estep_completeTask p t o)) fun p o h => EndOK.step h (estep_completeTask p t o)

theorem endFiled_stepTask (p : Pool) (t : Nat) (hs : Seal p) (he : EndFiled p) : EndFiled (p.stepTask t) :=
  have e := estep_modTask p t fun k => { k with sched := false }
  (end_wrap t).stepTask (fun _ => he) (fun _ _ _ => he.step e) (fun _ htk _ => (tk_of_seal hs he htk).step e)
    (fun tk htk hph => ⟨he.step e, e.en ▸ he.ef t tk htk id hph⟩) fun _ _ _ _ => he.step e

theorem endFiled_forget {p : Pool} (he : EndFiled p) (q : Pool) (hs : ∀ t ∈ q.ended, t ∈ p.ended)
    (hfin : ∀ t ∈ p.ended, t ∈ q.ended ∨ TaskFin p t) (h2 : q.tasks = p.tasks := by rfl)
    (h3 : q.apis = p.apis := by rfl) (h4 : q.gathers = p.gathers := by rfl) : EndFiled q where
  ef := fun t k hq _ hph => by
    rw [h2] at hq
    rcases hfin t (he.ef t k hq (fun x => x) hph) with b | ⟨k', hk', hf⟩
    · exact b
    · rw [hq] at hk'; cases hk'; rw [hph] at hf; cases hf
  fe := fun a A g hq hf hk => by
    rw [h3] at hq; rw [h4]; exact he.fe a A g hq hf hk
  ge := fun a A g hq hf hk => by
    rw [h3] at hq; rw [h4]
    obtain ⟨G, hG, hsub⟩ := he.ge a A g hq hf hk
    exact ⟨G, hG, fun t ht => hsub t (hs t ht)⟩

/-- call `a` enters frame `gather2 g`: clause `fe` (`b = false`, `L x = x.snapE`) or `ge` (`b = true`,
`L _ = p.ended`) of `EndOK` -/
theorem enterGather2 {p : Pool} {a g : Nat} {G : Gather} (hG : p.gathers[g]? = some G) (b : Bool) (L : Api → List Nat)
    (hL : ∀ x fr, L { x with frame := fr } = L x)
    (h : ∀ (i : Nat) (A : Api) (g' : Nat), p.apis[i]? = some A → A.frame = .gather2 g' → A.kind.isGac = b →
      ∃ G : Gather, p.gathers[g']? = some G ∧ ∀ t ∈ L A, Child.task t ∈ G.children)
    (hn : ApiAt p a fun x => x.kind.isGac = b → ∀ t ∈ L x, Child.task t ∈ G.children)
    (i : Nat) (A' : Api) (g' : Nat) (hq : (p.modApi a fun x => { x with frame := .gather2 g }).apis[i]? = some A')
    (hf : A'.frame = .gather2 g') (hk : A'.kind.isGac = b) :
    ∃ G : Gather, p.gathers[g']? = some G ∧ ∀ t ∈ L A', Child.task t ∈ G.children := by
  rcases getElem?_modify_split hq with ⟨rfl, A, hA, rfl⟩ | ⟨_, hA⟩
  · cases hf
    exact ⟨G, hG, hL A _ ▸ hn A hA hk⟩
  · exact h i _ g' hA hf hk

/-- `EndFiled` while call `a` of kind `k` runs, on top of what `Good` knows at that stage (`GoodAt`, `Inv/Steps.lean`): once
the second gather has completed normally, the ended tasks the call is about to forget have finished -/
structure EfAt (cap : Cap) (a : Nat) (k : ApiKind) (c : Hand) (p : Pool) : Prop where
  ef : EndFiled p
  good : GoodAt cap true false a k c p
  fin : ∀ g, c = .got true g .ok → (∀ re, k = .flush re → ∀ t ∈ (p.apis[a]?.getD default).snapE, TaskFin p t) ∧
    ∀ re, k = .gac re → ∀ t ∈ p.ended, TaskFin p t

/-- right after a gather was started; the second one awaits the tasks of the ended-registry snapshot (`flush`) resp. every
task filed as ended (`gather_and_close`) -/
structure EfG (cap : Cap) (a : Nat) (k : ApiKind) (b : Bool) (q : Pool × Nat) : Prop where
  ef : EndFiled q.1
  good : GoodG cap true false a k b q
  ch : b = true → ∃ G : Gather, q.1.gathers[q.2]? = some G ∧
    (∀ re, k = .flush re → ApiAt q.1 a fun x => ∀ t ∈ x.snapE, Child.task t ∈ G.children) ∧
    ∀ re, k = .gac re → ∀ t ∈ q.1.ended, Child.task t ∈ G.children

theorem ef_staged {cap : Cap} (a : Nat) : ApiStaged (EfAt cap a) (EfG cap a) EndFiled a where
  headF1 := fun re p n h =>
    ⟨h.ef.step ((estep_of_eq _ _).trans (estep_gatherStart _ _ re a n)), (good_staged a).headF1 re p n h.good, nofun⟩
  headF2 := fun re p g o h => by
    have s1 : EStep p (({ p with metaCancelled := [], reqs := p.reqs.map fun (r : Req) => { r with inCancelled := false } } : Pool).modApi a fun x => { x with snapE := p.ended, snapC := p.cancelledR }) :=
      (estep_of_eq _ _).trans (estep_modApi _ a _ fun x hx g e => absurd e ((h.good.rc x hx).2 rfl g))
    have s := s1.trans (estep_gatherStart _ (p.ended.map Child.task ++ p.cancelledR.map Child.task) re a 0)
    obtain ⟨hap, G, hG, hch, _⟩ := gatherStart_new (({ p with metaCancelled := [], reqs := p.reqs.map fun (r : Req) => { r with inCancelled := false } } : Pool).modApi a fun x => { x with snapE := p.ended, snapC := p.cancelledR })
      (p.ended.map Child.task ++ p.cancelledR.map Child.task) re a 0
    refine ⟨h.ef.step s, (good_staged a).headF2 re p g o h.good, fun _ => ⟨G, hG, fun _ _ x hx t ht => ?_, nofun⟩⟩
    rw [hap] at hx
    obtain ⟨y, _, rfl⟩ := getElem?_modify_self hx
    exact hch ▸ List.mem_append_left _ (List.mem_map_of_mem ht)
  go := fun k b q o h ho => ⟨h.ef, (good_staged a).go k b q o h.good ho, fun g e => by
    cases e
    obtain ⟨G, hG, hf, hgc⟩ := h.ch rfl
    have hfin := h.good.good.fl.gth _ G hG ((gatherOuter_eq hG).symm.trans ho)
    refine ⟨fun re hk t ht => ?_, fun re hk t ht => hfin t (hgc re hk t ht)⟩
    cases hx : q.1.apis[a]? with
    | none => rw [hx] at ht; cases ht
    | some x => rw [hx] at ht; exact hfin t (hf re hk x hx t ht)⟩
  suspend := fun k b q hk h ho => by
    cases b with
    | false => exact h.ef.step (estep_modApi_out _ a _ fun _ _ e => nomatch e)
    | true =>
      obtain ⟨G, hG, hf, hgc⟩ := h.ch rfl
      have hkd : ∀ x, q.1.apis[a]? = some x → x.kind = k := fun x hx => (h.good.rc x hx).1
      exact ⟨fun t k' hq => h.ef.ef t k' hq,
        enterGather2 hG false (·.snapE) (fun _ _ => rfl) h.ef.fe fun x hx hn => by
          cases k with
          | flush re => exact hf re rfl x hx
          | gac re => exact nomatch (hkd x hx ▸ hn : (ApiKind.gac re).isGac = false)
          | untilClosed => exact absurd rfl hk,
        enterGather2 hG true (fun _ => q.1.ended) (fun _ _ => rfl) h.ef.ge fun x hx hn => by
          cases k with
          | gac re => exact hgc re rfl
          | flush re => exact nomatch (hkd x hx ▸ hn : (ApiKind.flush re).isGac = true)
          | untilClosed => exact absurd rfl hk⟩
  finish := fun _ _ _ o p h _ _ _ => h.ef.step (estep_finishApi p a o)
  raised := fun _ p _ _ _ h _ => h.ef.step (estep_finishApi p a _)
  seenClosed := fun p h _ => h.ef.step (estep_finishApi p a _)
  waitClosed := fun p h _ => h.ef.step ((estep_of_eq p { p with closedWaiters := p.closedWaiters ++ [a] }).trans
    (estep_modApi_out _ a _ fun _ _ e => nomatch e))
  forget := fun re p g h => by
    refine EndOK.step ?_ (estep_finishApi _ a _)
    refine endFiled_forget h.ef _ (fun t ht => (List.mem_filter.mp ht).1) fun t ht => ?_
    cases hc : (p.apis[a]?.getD default).snapE.contains t || (p.apis[a]?.getD default).snapC.contains t with
    | false => exact Or.inl (List.mem_filter.mpr ⟨ht, by rw [hc]; rfl⟩)
    | true =>
      exact Or.inr (((Bool.or_eq_true _ _ ▸ hc).imp List.contains_iff_mem.mp List.contains_iff_mem.mp).elim
        ((h.fin g rfl).1 re rfl t) ((h.good.fin g rfl).1 re rfl t))
  closing := fun re p g h => by
    refine EndOK.step ?_ (estep_finishApi _ a _)
    refine foldl_keeps _ (fun s w h => h.step (estep_schedApi s w)) _ _ ?_
    exact endFiled_forget h.ef _ (fun _ h => nomatch h) fun t ht => Or.inr ((h.fin g rfl).2 re rfl t ht)
  headG1 := fun re p h =>
    ⟨h.ef.step ((estep_of_eq _ _).trans (estep_gatherStart _ _ true a 0)), (good_staged a).headG1 re p h.good, nofun⟩
  headG2 := fun re p g o h => by
    have s := (estep_of_eq p ({ p with metaCancelled := [], reqs := p.reqs.map fun (r : Req) => { r with inCancelled := false, inRunning := false } } : Pool)).trans (estep_gatherStart ({ p with metaCancelled := [], reqs := p.reqs.map fun (r : Req) => { r with inCancelled := false, inRunning := false } } : Pool) (p.ended.map Child.task ++ p.cancelledR.map Child.task ++ p.running.map Child.task) re a 0)
    obtain ⟨_, G, hG, hch, _⟩ := gatherStart_new ({ p with metaCancelled := [], reqs := p.reqs.map fun (r : Req) => { r with inCancelled := false, inRunning := false } } : Pool) (p.ended.map Child.task ++ p.cancelledR.map Child.task ++ p.running.map Child.task) re a 0
    exact ⟨h.ef.step s, (good_staged a).headG2 re p g o h.good, fun _ => ⟨G, hG, nofun, fun _ _ t ht =>
      hch ▸ List.mem_append_left _ (List.mem_append_left _ (List.mem_map_of_mem (s.en ▸ ht)))⟩⟩

theorem endFiled_stepApi {cap : Cap} (p : Pool) (a : Nat) (hg : Good cap true false p) (he : EndFiled p) :
    EndFiled (p.stepApi a) :=
  have he0 := he.step (estep_modApi_triv p a fun x => { x with sched := false })
  (ef_staged a).stepApi _ rfl he (fun _ _ _ _ _ _ => he0) (fun _ hA _ hf => ⟨he0, (good_boundary hg nofun hA).1 hf, nofun⟩)
    (fun A b g o hA _ hf _ ho => (ef_staged a).go A.kind b (_, g) o ⟨he0, (good_boundary hg nofun hA).2 b g hf, fun hb => by
      -- the call is suspended in its second gather: clauses `fe` / `ge`
      subst hb
      cases hk : A.kind.isGac with
      | false =>
        obtain ⟨G, hG, hsub⟩ := he0.fe a _ g (modify_get_self hA _) hf hk
        exact ⟨G, hG, fun _ _ x hx' => Option.some.inj ((modify_get_self hA _).symm.trans hx') ▸ hsub, fun re e => nomatch (e ▸ hk : (ApiKind.gac re).isGac = false)⟩
      | true =>
        obtain ⟨G, hG, hsub⟩ := he0.ge a _ g (modify_get_self hA _) hf hk
        exact ⟨G, hG, (fun re e => nomatch (e ▸ hk : (ApiKind.flush re).isGac = true)), fun _ _ => hsub⟩⟩ ho)
    fun _ _ _ _ => he0.step (estep_finishApi _ _ _)

theorem endFiled_init (cap : Cap) (simple : Option SpawnSpec) : EndFiled (Pool.init cap simple) where
  ef := fun _ _ h => nomatch h
  fe := fun _ _ _ h => nomatch h
  ge := fun _ _ _ h => nomatch h

theorem endFiled_applyOp (p : Pool) (o : Op) (he : EndFiled p) : EndFiled (p.applyOp o).1 :=
  he.step (estep_applyOp p o)

theorem endFiled_runRef {cap : Cap} (p : Pool) (r : Ref)
    (hg : Good cap true false p) (hs : Seal p) (he : EndFiled p) : EndFiled (p.runRef r) := by
  cases r with
  | task t => exact endFiled_stepTask p t hs he
  | spawner m => exact he.step (estep_stepMeta p m)
  | api a => exact endFiled_stepApi p a hg he
  | gchild g i => exact he.step (estep_gatherChildDone p g i true)

theorem endFiled_orders (p : Pool) (orders : List (List Nat)) (he : EndFiled p) :
    EndFiled { p with orders := orders } := he.step (estep_of_eq _ _)

theorem endFiled_drain (p : Pool) (he : EndFiled p) : EndFiled { p with emit := [] } := he.step (estep_of_eq _ _)

end Pool
end Taskpool
