import Taskpool.Inv.SealWalk2
/-! `Pool.Seal` (`Inv/Seal.lean`) holds initially and is preserved by every external operation other than `unlock()`
(without `unlock()` in the user code handed over), by every handle of the event loop, and by the bookkeeping between two
steps: each is one `sk_step` along a `PStep` (`Inv/SealWalk1.lean`), or a walk of `Inv/SealWalk2.lean`.

What `Seal` needs from outside is `Want` (for a spawner's step, `sk_stepMeta`) and the world-level `SpawnersWaited` (for a
`gather_and_close()` that passes its first gather).  `seal_applyOp` and `seal_runRef` also take `Good`, and `seal_applyOp`
takes `Want`; their proofs do not use them. -/
namespace Taskpool
namespace Pool

theorem seal_init (cap : Cap) (simple : Option SpawnSpec) (h : mkNoUnlock simple = true) : Seal (Pool.init cap simple) where
  fr := fun m r hp => by simp [Pool.init] at hp
  lk := fun a A hp => by simp [Pool.init] at hp
  g1 := fun a A g hp => by simp [Pool.init] at hp
  g2 := fun a A g hp => by simp [Pool.init] at hp
  nh := ⟨by
    cases simple with
    | none => rfl
    | some sp => exact h, fun m r hp => by simp [Pool.init] at hp⟩

set_option linter.unusedVariables false in
theorem seal_applyOp {cap : Cap} (p : Pool) (o : Op) (ho : o.noUnlock = true)
    (hg : Good cap true false p) (hw : Want p) (hs : Seal p) : Seal (p.applyOp o).1 :=
  (sk_step (sk_of_seal hs) (pstep_applyOp hs.nh o ho)).seal

set_option linter.unusedVariables false in
theorem seal_runRef {cap : Cap} (p : Pool) (r : Ref)
    (hg : Good cap true false p) (hw : Want p) (hs : Seal p) (h0 : p.SpawnersWaited)
    (h1 : ∀ a re, ((p.modApi a fun x => { x with sched := false }).gacStage1Pre a re).1.SpawnersWaited) :
    Seal (p.runRef r) := by
  cases r with
  | task t => exact (sk_step (sk_of_seal hs) ((pstep_blind hs.nh).stepTask (PStep.refl p) t)).seal
  | spawner m => exact (sk_stepMeta (sk_of_seal hs) hw m).seal
  | api a => exact (sk_stepApi (sk_of_seal hs) a h0 h1).seal
  | gchild g i => exact (sk_walk (sk_of_seal hs) (·.gatherChildDone g i true)).seal

theorem seal_orders (p : Pool) (orders : List (List Nat)) (hs : Seal p) : Seal { p with orders := orders } :=
  (sk_step (sk_of_seal hs) (pstep_of_eq p _)).seal

theorem seal_drain (p : Pool) (hs : Seal p) : Seal { p with emit := [] } :=
  (sk_step (sk_of_seal hs) (pstep_of_eq p _)).seal

end Pool
end Taskpool
