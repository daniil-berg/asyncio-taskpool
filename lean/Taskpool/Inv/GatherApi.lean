import Taskpool.Inv.GatherInv
import Taskpool.Inv.Grows
import Taskpool.Inv.Seal
/-! `flush`, `gather_and_close`, `until_closed` keep the counting invariant of the gathers (`PInv`). -/
namespace Taskpool
namespace Pool

def RegValid (p : Pool) : Prop :=
  ∀ t : Nat, (t ∈ p.ended ∨ t ∈ p.cancelledR ∨ t ∈ p.running) → ∃ k : PTask, p.tasks[t]? = some k

theorem Good.regValid {cap : Cap} {L R : Bool} {p : Pool} (h : Good cap L R p) : RegValid p := by
  intro t ht
  rcases ht with h1 | h1 | h1
  · obtain ⟨k, hk, _⟩ := h.reg.fin t h1; exact ⟨k, hk⟩
  · obtain ⟨k, hk, _⟩ := h.reg.can t h1; exact ⟨k, hk⟩
  · obtain ⟨k, hk, _⟩ := h.reg.run t h1; exact ⟨k, hk⟩

structure AInv (R : Nat × Nat → Nat) (p : Pool) : Prop where
  pinv : PInv R p
  ofin : OutFin p
  rv : RegValid p

/-- a pool of which `Good` holds, with the cancel orders observed for the next input -/
theorem AInv.of_good {R} {p : Pool} {cap : Cap} {L Z : Bool} (h : PInv R p) (hg : Good cap L Z p) (orders : List (List Nat)) :
    AInv R ({ p with orders := orders } : Pool) :=
  ⟨h.frame (gv_orders p orders) (tame_setOrders p orders).mono, fun t k hk => Good.outFin hg t k hk, fun t ht => Good.regValid hg t ht⟩

theorem AInv.of_frame {R} {p q : Pool} (h : AInv R p) (hgv : gv q = gv p) (ht : q.tasks = p.tasks)
    (hr : ∀ t, t ∈ q.running → t ∈ p.running := by intro _ h; exact h)
    (hc : ∀ t, t ∈ q.cancelledR → t ∈ p.cancelledR := by intro _ h; exact h)
    (he : ∀ t, t ∈ q.ended → t ∈ p.ended := by intro _ h; exact h)
    (hq : ∀ (m : Nat) (r : Req), p.reqs[m]? = some r → ∃ r' : Req, q.reqs[m]? = some r' ∧ r'.outcome = r.outcome := by
      intro m r h; exact ⟨r, h, rfl⟩) : AInv R q := by
  refine ⟨(h.pinv.on.frame_of hgv (ht ▸ Nat.le_refl _) (fun t k a b => ⟨k, ht ▸ a, b⟩)
    fun m r hr => let ⟨r', a, b⟩ := hq m r hr; ⟨r', a, fun hs => b.symm ▸ hs⟩).pinv fun _ _ _ _ _ => trivial, ?_, ?_⟩
  · intro t k; rw [ht]; exact h.ofin t k
  · intro t hm
    rw [ht]
    apply h.rv t
    rcases hm with h1 | h1 | h1
    · exact Or.inl (he t h1)
    · exact Or.inr (Or.inl (hc t h1))
    · exact Or.inr (Or.inr (hr t h1))

theorem reqs_map_outcome (l : List Req) (f : Req → Req) (hf : ∀ r, (f r).outcome = r.outcome) (m : Nat) (r : Req)
    (h : l[m]? = some r) : ∃ r' : Req, (l.map f)[m]? = some r' ∧ r'.outcome = r.outcome :=
  ⟨f r, getElem?_map_of h, hf r⟩

theorem RegValid.tame {p q : Pool} (h : RegValid p) (t : Tame p q) : RegValid q := by
  intro i hi
  rw [t.fin, t.can, t.run] at hi
  obtain ⟨k, hk⟩ := h i hi
  have : i < q.tasks.length := by rw [t.len]; exact lt_of_getElem?_some hk
  exact ⟨q.tasks[i], by simp [this]⟩

theorem AInv.gatherStart {R} {p : Pool} (h : AInv R p) (cs : List Child) (re : Bool) (owner n : Nat)
    (hv : ∀ (i t : Nat), cs[i]? = some (.task t) → ∃ k : PTask, p.tasks[t]? = some k)
    (hvs : ∀ (i m : Nat), cs[i]? = some (.spawner m) → m < p.reqs.length) :
    AInv R (p.gatherStart cs re owner n).1 :=
  ⟨h.pinv.gatherStart h.ofin cs re owner n hv hvs, h.ofin.tame (tame_gatherStart p cs re owner n),
    h.rv.tame (tame_gatherStart p cs re owner n)⟩

@[simp] theorem gv_finishApi (p : Pool) (a : Nat) (o : Outcome) : gv (p.finishApi a o) = gv p := gv_modApi _ _ _

theorem AInv.modApi {R} {p : Pool} (h : AInv R p) (a : Nat) (f : Api → Api) : AInv R (p.modApi a f) :=
  h.of_frame (gv_modApi _ _ _) rfl

theorem AInv.finishApi {R} {p : Pool} (h : AInv R p) (a : Nat) (o : Outcome) : AInv R (p.finishApi a o) :=
  h.modApi a _

theorem AInv.gatherTasks {R} {p : Pool} (h : AInv R p) (ts : List Nat)
    (hts : ∀ t ∈ ts, t ∈ p.ended ∨ t ∈ p.cancelledR ∨ t ∈ p.running) (re : Bool) (owner n : Nat) :
    AInv R (p.gatherStart (ts.map Child.task) re owner n).1 :=
  h.gatherStart _ re owner n
    (fun _ _ hi => let ⟨_, hx, e⟩ := getElem?_map_some hi; h.rv _ (Child.task.inj e ▸ hts _ (List.mem_of_getElem? hx)))
    (fun _ _ hi => let ⟨_, _, e⟩ := getElem?_map_some hi; nomatch e)

theorem AInv.gatherSpawners {R} {p : Pool} (h : AInv R p) (ms : List Nat) (hms : ∀ m ∈ ms, m < p.reqs.length) (re : Bool)
    (owner n : Nat) : AInv R (p.gatherStart (ms.map Child.spawner) re owner n).1 :=
  h.gatherStart _ re owner n (fun _ _ hi => let ⟨_, _, e⟩ := getElem?_map_some hi; nomatch e)
    (fun _ _ hi => let ⟨_, hx, e⟩ := getElem?_map_some hi; Child.spawner.inj e ▸ hms _ (List.mem_of_getElem? hx))

theorem no_task_children (a b : List Nat) : ∀ (i t : Nat),
    (a.map Child.spawner ++ b.map Child.spawner)[i]? = some (Child.task t) → ∃ k : PTask, (none : Option PTask) = some k := by
  intro i t hi
  have := List.mem_of_getElem? hi
  simp at this

/-- the stages of a background call (`Inv/ApiStages.lean`): `_meta_tasks_cancelled` holds existing spawners (`MC`) when
the call starts, the registries existing tasks throughout (`rv`) -/
theorem AInv.staged (R : Nat × Nat → Nat) (a : Nat) :
    ApiStaged (fun _ c p => AInv R p ∧ (c = .none → MC p)) (fun _ _ q => AInv R q.1) (AInv R) a where
  headF1 := fun re p n h => by
    have h2 := (h.1.of_frame (gv_write (.unfile p) nofun) rfl (hq := reqs_map_outcome _ _ fun r => by split <;> rfl)).gatherSpawners
      (p.metaCancelled ++ indicesWhere p.reqs fun r => r.inRunning && r.outcome.isSome)
      (fun m hm => (List.length_map ..).symm ▸ (List.mem_append.mp hm).elim (h.2 rfl m) mem_indicesWhere_lt) re a n
    rwa [List.map_append] at h2
  headF2 := fun re p _ _ h => by
    have h3 := ((h.1.of_frame (gv_write (.uncancel p) nofun) rfl (hq := reqs_map_outcome _ _ fun _ => rfl)).modApi a
      (fun x => { x with snapE := p.ended, snapC := p.cancelledR })).gatherTasks (p.ended ++ p.cancelledR)
      (fun t ht => (List.mem_append.mp ht).imp_right Or.inl) re a 0
    rwa [List.map_append] at h3
  headG1 := fun _ p h => by
    have h1 := fun amb => (h.1.of_frame (gv_write (.lockAmb p amb) nofun) rfl).gatherSpawners
      (p.metaCancelled ++ indicesWhere p.reqs fun r => r.inRunning)
      (fun m hm => (List.mem_append.mp hm).elim (h.2 rfl m) mem_indicesWhere_lt) true a 0
    rw [List.map_append] at h1
    exact h1 _
  headG2 := fun re p _ _ h => by
    have h3 := (h.1.of_frame (gv_write (.clearMetas p) nofun) rfl (hq := reqs_map_outcome _ _ fun _ => rfl)).gatherTasks
      (p.ended ++ p.cancelledR ++ p.running)
      (fun t ht => (List.mem_append.mp ht).elim (fun x => (List.mem_append.mp x).imp_right Or.inl) fun x => Or.inr (Or.inr x)) re a 0
    rwa [List.map_append, List.map_append] at h3
  go := fun _ _ _ _ h _ => ⟨h, nofun⟩
  suspend := fun _ _ _ _ h _ => h.modApi a _
  finish := fun _ _ _ _ _ h _ _ _ => h.1.finishApi a _
  forget := fun _ p _ h => by
    refine AInv.finishApi ?_ a .ok
    exact h.1.of_frame (gv_of rfl rfl rfl rfl) rfl (fun _ x => x) (fun _ x => (List.mem_filter.mp x).1)
      (fun _ x => (List.mem_filter.mp x).1)
  seenClosed := fun _ h _ => h.1.finishApi a _
  waitClosed := fun p h _ => (h.1.of_frame (gv_write (.waitClosed p a) nofun) rfl).modApi a _
  raised := fun _ _ _ _ _ h _ => h.1.finishApi a _
  closing := fun _ p _ h => by
    refine AInv.finishApi (foldl_keeps _ (fun _ w h => (h.modApi w _).of_frame (gv_emitRef _ _) rfl) _ _ ?_) a .ok
    exact h.1.of_frame (gv_of rfl rfl rfl rfl) rfl (fun _ x => by cases x) (fun _ x => by cases x) (fun _ x => by cases x)

theorem AInv.gacStage1Pre {R} {p : Pool} (h : AInv R p) (hmc : MC p) (a : Nat) (re : Bool) :
    AInv R (p.gacStage1Pre a re).1 := (AInv.staged R a).headG1 re p ⟨h, fun _ => hmc⟩

theorem AInv.flushAfter2 {R} {p : Pool} (h : AInv R p) (a : Nat) (o : Outcome) : AInv R (p.flushAfter2 a o) :=
  (AInv.staged R a).flushAfter2 (r := true) (g := 0) ⟨h, nofun⟩

theorem AInv.gacStage1 {R} {p : Pool} (h : AInv R p) (hmc : MC p) (a : Nat) (re : Bool) : AInv R (p.gacStage1 a re) :=
  (AInv.staged R a).gacStage1 ⟨h, fun _ => hmc⟩

theorem AInv.stepApi {R} {p : Pool} (h : AInv R p) (hmc : MC p) (a : Nat) : AInv R (p.stepApi a) :=
  have h0 := h.modApi a (fun x => { x with sched := false })
  (AInv.staged R a).stepApi _ rfl h (fun _ _ _ _ _ _ => h0) (fun _ _ _ _ => ⟨h0, fun _ => hmc⟩)
    (fun _ _ _ _ _ _ _ _ _ => ⟨h0, nofun⟩) fun _ _ _ _ => h0.finishApi a _

end Pool
end Taskpool
