import Taskpool.Inv.FinWalk
import Taskpool.Inv.SealWalk2
/-! **A spawner that was never cancelled ends only when its work is done, in pools that nobody unlocks — the walk.**
`Pool.FinSOK` (`Inv/FinS.lean`) is preserved by every step of a sealed pool (`Inv/Seal.lean`).

The walking predicate is `FW false` of `Inv/FinWalk.lean` (`FKS`), where every function of the machine is walked except
the steps of `gather_and_close()`.  Two of them need more than the predicate — `gacAfter1` un-files every spawner,
`gacAfter2` closes the pool — and run only when every live spawner was cancelled (`AllEC`): that follows from `ir` and what
`SK` knows at that stage (`SkAt`, `Inv/SealWalk2.lean`: every spawner still filed as running has ended, resp. nobody is filed
as running).  `FsAt` = `FW false` ∧ `SkAt`, `fs_staged` is the instance of `ApiStaged` (`Inv/ApiStages.lean`). -/
namespace Taskpool
namespace Pool

variable {M : Nat → (PK → Prop) → Prop}

/-- every spawner that is still filed as running has ended: so (`ir`) every live spawner was cancelled through the pool -/
theorem allEC_of_done {p : Pool} (h : FKS M p)
    (hd : ∀ (m : Nat) (r : Req), p.reqs[m]? = some r → r.inRunning = true → r.outcome.isSome = true) : AllEC p := by
  intro m r hr hout
  cases hec : r.everCancelled with
  | true => rfl
  | false => exact nomatch hout ▸ hd m r hr ((h.rg m r hr).ir hout hec)

/-- `FW false` while a background call runs; of a `gather_and_close()` also what `SK` knows (`SkAt`, `SkG`,
`Inv/SealWalk2.lean`): with the outcome of the first gather in hand every live spawner was cancelled -/
structure FsAt (M : Nat → (PK → Prop) → Prop) (a : Nat) (k : ApiKind) (c : Hand) (p : Pool) : Prop where
  fw : FW false M p
  sk : ∀ re, k = .gac re → SkAt a k c p

structure FsG (M : Nat → (PK → Prop) → Prop) (a : Nat) (k : ApiKind) (b : Bool) (q : Pool × Nat) : Prop where
  fw : FW false M q.1
  sk : ∀ re, k = .gac re → SkG a k b q

/-- the stages of `flush()` and `until_closed()` are those of `fw_flush`; `headG2` and `closing` are where `AllEC` is needed -/
theorem fs_staged (a : Nat) : ApiStaged (FsAt M a) (FsG M a) (FW false M) a :=
  have fl := (fw_flush (s := false) (M := M)).staged a
  { headF1 := fun re p n h => ⟨fl.headF1 re p n h.fw, nofun⟩
    headF2 := fun re p g o h => ⟨fl.headF2 re p g o h.fw, nofun⟩
    go := fun k b q o h ho => ⟨h.fw, fun re hk => (sk_staged a).go k b q o (h.sk re hk) ho⟩
    suspend := fun _ _ _ _ h _ => fw_modApi h.fw _ _
    finish := fun _ _ _ _ _ h _ _ _ => fw_finishApi h.fw a _
    forget := fun re p g h => fl.forget re p g h.fw
    seenClosed := fun p h c => fl.seenClosed p h.fw c
    waitClosed := fun p h c => fl.waitClosed p h.fw c
    headG1 := fun re p h => ⟨fw_gatherStart (fw_of_eq h.fw) _ _ _ _, fun _ _ => (sk_staged a).headG1 re p (h.sk re rfl)⟩
    headG2 := fun re p g o h =>
      have hall := allEC_of_done h.fw.toFKS ((h.sk re rfl).gc re rfl).2
      have h1 : FW false M ({ p with metaCancelled := [], reqs := p.reqs.map fun (r : Req) => { r with inCancelled := false, inRunning := false } } : Pool) :=
        fw_mapReqs h.fw (fun (r : Req) => { r with inCancelled := false, inRunning := false })
          fun i r hp hg => ⟨{ hg with ir := fun ho hec => nomatch (show r.everCancelled = false from hec).symm.trans (hall i r hp ho) }, id, id, fun _ => rfl⟩
      ⟨fw_gatherStart h1 _ _ _ _, fun _ _ => (sk_staged a).headG2 re p g o (h.sk re rfl)⟩
    raised := fun _ _ _ _ _ h _ => fw_finishApi h.fw a _
    closing := fun re p g h => by
      refine fw_finishApi (foldl_keeps (P := FW false M) _ (fun q w hq => fw_schedApi hq w) _ _ ?_) a _
      have hnr : NR p := (h.sk re rfl).gc re rfl
      have hall : AllEC p := allEC_of_done h.fw.toFKS fun m r hr hin => nomatch (hnr m r hr).symm.trans hin
      exact { cl := fun _ => hall, rg := h.fw.rg, cw := h.fw.cw, pin := h.fw.pin, ng := nofun } }

theorem fs_stepApi {p : Pool} (h : FW false M p) (hs : Seal p) (a : Nat) (h0 : p.SpawnersWaited)
    (h1 : ∀ a re, ((p.modApi a fun x => { x with sched := false }).gacStage1Pre a re).1.SpawnersWaited) :
    FW false M (p.stepApi a) :=
  have hf1 : FW false M (p.modApi a fun x => { x with sched := false }) := fw_modApi h _ _
  have k := fun {A} (hA : p.apis[a]? = some A) => sk_boundary (sk_of_seal hs) a h0 (h1 a) hA
  (fs_staged a).stepApi _ rfl h (fun _ _ _ _ _ _ => hf1) (fun _ hA _ _ => ⟨hf1, fun _ _ => (k hA).1⟩)
    (fun A b g o hA _ hf _ ho => (fs_staged a).go A.kind b (_, g) o ⟨hf1, fun _ _ => (k hA).2 b g hf⟩ ho)
    fun _ _ _ _ => fw_finishApi hf1 a _

theorem finS_init (cap : Cap) (simple : Option SpawnSpec) : FinSOK (Pool.init cap simple) :=
  (fw_init (s := false) cap simple).finSOK

theorem finS_applyOp (p : Pool) (o : Op) (hw : Want p) (hf : FinSOK p) : FinSOK (p.applyOp o).1 :=
  (fw_applyOp (fw_of_want (s := false) hw hf nofun) o nofun).finSOK

theorem finS_runRef (p : Pool) (r : Ref) (hw : Want p) (hs : Seal p) (hf : FinSOK p) (h0 : p.SpawnersWaited)
    (h1 : ∀ a re, ((p.modApi a fun x => { x with sched := false }).gacStage1Pre a re).1.SpawnersWaited) :
    FinSOK (p.runRef r) := by
  have h : FW0 false p := fw_of_want hw hf nofun
  refine FKS.finSOK (M := fun _ _ => False) ?_
  cases r with
  | task t => exact (fw_blind.stepTask h t).toFKS
  | spawner m => exact (fw_stepMeta h hw m).toFKS
  | api a => exact (fs_stepApi h hs a h0 h1).toFKS
  | gchild g i => exact (fw_flush.toGatherBlind.gatherChildDone h g i true).toFKS

theorem finS_orders (p : Pool) (orders : List (List Nat)) (hf : FinSOK p) : FinSOK { p with orders := orders } :=
  { hf with }

theorem finS_drain (p : Pool) (hf : FinSOK p) : FinSOK { p with emit := [] } :=
  { hf with }

end Pool
end Taskpool
