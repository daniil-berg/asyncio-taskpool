import Taskpool.Inv.Elem
import Taskpool.Inv.Lift
import Taskpool.Inv.Elim
import Taskpool.Inv.Wrapper
import Taskpool.Inv.ApiStages
import Taskpool.Inv.Write
import Taskpool.Inv.Grown
/-! `ElemOK` (each element once, in order; each invocation with the request's own arguments) for ALL histories.

`ElemOK` alone is not inductive: at `createTask m true` the new element index is `pulled - 1`, which is the right one only
because a map-style spawner that is about to create a task holds exactly one pulled element in hand
(`pulled = created + skipped + 1`), and `km` needs every task's `req` to be a valid index (else a request registered later
could land on it) and only map-style requests to wait for a call's own semaphore.  The walking invariant `ElemX` adds these
clauses (those of `AccReq` / `FinOK.pc0` / `pc1` / `kw`, here without any side condition on outcomes):

* `vr`  : every task's `req` is a valid request index;
* `fr0` : a map-style request that has not begun has nothing in hand, `pulled = created + skipped`;
* `fr1` : one that is suspended in an `acquire()` holds one element, `pulled = created + skipped + 1`;
* `wk`  : only a map-style request waits for a call's own semaphore.

Structure of the walk.  Almost every model function leaves `req` / `arg` / `isMap` of every task and `kind` / `stars` /
`pulled` / `created` / `skipped` of every request alone, moves `frame` at most to `done` / `running`, and appends only fresh
requests: the frame relation `Ext p0 p` ("`p` extends `p0`").  Every write of the machine but
those of a spawner is such a step (`ext_write`, over `Inv/Write.lean`); `ElemX` and the loop predicates `EW m hand` / `EWA m` of the spawners are stable under
`Ext`, and the spawner functions that do touch the counters (`pullItem`, the skip, `createTask`, `waitRoom`,
`waitMapSem`) are treated one by one in `ElemWalk2`. -/
namespace Taskpool
namespace Pool

/-- task record `k'` keeps what `ElemOK` reads of `k` -/
structure KT (k' k : PTask) : Prop where
  req : k'.req = k.req
  arg : k'.arg = k.arg
  isMap : k'.isMap = k.isMap

/-- request record `r'` keeps what `ElemX` reads of `r`, except that `frame` may have moved to `done` / `running` -/
structure KR (r' r : Req) : Prop where
  kind : r'.kind = r.kind
  stars : r'.stars = r.stars
  pulled : r'.pulled = r.pulled
  created : r'.created = r.created
  skipped : r'.skipped = r.skipped
  frame : r'.frame = r.frame ∨ r'.frame = .done ∨ r'.frame = .running

/-- a request registered on the way: nothing in hand, not suspended in an `acquire()` -/
def FreshR (r : Req) : Prop :=
  r.pulled = r.created + r.skipped ∧ (r.frame = .notStarted ∨ r.frame = .done ∨ r.frame = .running)

/-- `Ext` on the lists of task and request records, so that a step on one list is stated without a pool around it -/
structure ExtL (ts : List PTask) (rs : List Req) (ts' : List PTask) (rs' : List Req) : Prop where
  tk : ∀ (t : Nat) (k' : PTask), ts'[t]? = some k' → ∃ k, ts[t]? = some k ∧ KT k' k
  rlen : rs.length ≤ rs'.length
  rk : ∀ (m : Nat) (r' : Req), rs'[m]? = some r' →
         (∃ r, rs[m]? = some r ∧ KR r' r) ∨ (rs.length ≤ m ∧ FreshR r')

/-- `p` extends `p0`: the frame relation of `ElemX` (header) -/
def Ext (p0 p : Pool) : Prop := ExtL p0.tasks p0.reqs p.tasks p.reqs

theorem KT.rfl' (k : PTask) : KT k k := ⟨rfl, rfl, rfl⟩
theorem SameTask.kt {k' k : PTask} (h : SameTask k' k) : KT k' k := ⟨h.req, h.arg, h.isMap⟩
theorem KR.rfl' (r : Req) : KR r r := ⟨rfl, rfl, rfl, rfl, rfl, Or.inl rfl⟩

theorem KT.trans {a b c : PTask} (h1 : KT a b) (h2 : KT b c) : KT a c :=
  ⟨h1.req.trans h2.req, h1.arg.trans h2.arg, h1.isMap.trans h2.isMap⟩

theorem KR.trans {a b c : Req} (h1 : KR a b) (h2 : KR b c) : KR a c := by
  refine ⟨h1.kind.trans h2.kind, h1.stars.trans h2.stars, h1.pulled.trans h2.pulled, h1.created.trans h2.created,
    h1.skipped.trans h2.skipped, ?_⟩
  rcases h1.frame with e | e | e
  · rw [e]; exact h2.frame
  · exact Or.inr (Or.inl e)
  · exact Or.inr (Or.inr e)

theorem FreshR.of_kr {a b : Req} (h1 : KR a b) (h2 : FreshR b) : FreshR a := by
  refine ⟨by rw [h1.pulled, h1.created, h1.skipped]; exact h2.1, ?_⟩
  rcases h1.frame with e | e | e
  · rw [e]; exact h2.2
  · exact Or.inr (Or.inl e)
  · exact Or.inr (Or.inr e)

/-- the request clause is `Grown` (`Inv/Grown.lean`) -/
theorem ExtL.rg {a : List PTask} {b : List Req} {c : List PTask} {d : List Req} (h : ExtL a b c d) : Grown KR FreshR b d :=
  ⟨h.rlen, h.rk⟩

theorem ExtL.of_reqs (ts : List PTask) {rs rs' : List Req} (h : Grown KR FreshR rs rs') : ExtL ts rs ts rs' :=
  ⟨fun _ k a => ⟨k, a, KT.rfl' k⟩, h.len, h.get⟩

theorem ExtL.refl (ts : List PTask) (rs : List Req) : ExtL ts rs ts rs := .of_reqs ts (.refl KR.rfl' rs)

theorem ExtL.trans {a : List PTask} {b : List Req} {c : List PTask} {d : List Req} {e : List PTask} {f : List Req}
    (h1 : ExtL a b c d) (h2 : ExtL c d e f) : ExtL a b e f := by
  have g := Grown.trans (K := KR) (N := FreshR) KR.trans FreshR.of_kr h1.rg h2.rg
  refine ⟨fun t k'' hk => ?_, g.len, g.get⟩
  obtain ⟨k', hk', e2⟩ := h2.tk t k'' hk
  obtain ⟨k, hk0, e1⟩ := h1.tk t k' hk'
  exact ⟨k, hk0, e2.trans e1⟩

theorem ExtL.fwd {a : List PTask} {b : List Req} {c : List PTask} {d : List Req} (h : ExtL a b c d) (m : Nat) (r : Req)
    (hr : b[m]? = some r) : ∃ r', d[m]? = some r' ∧ KR r' r := h.rg.fwd hr

theorem Ext.refl (p : Pool) : Ext p p := ExtL.refl _ _

theorem Ext.trans {a b c : Pool} (h1 : Ext a b) (h2 : Ext b c) : Ext a c := ExtL.trans h1 h2

theorem ExtL.modifyT (ts : List PTask) (rs : List Req) (t : Nat) (f : PTask → PTask) (hf : ∀ x, KT (f x) x) :
    ExtL ts rs (ts.modify t f) rs := by
  refine ⟨fun i k' hk => ?_, Nat.le_refl _, fun _ r h => Or.inl ⟨r, h, KR.rfl' r⟩⟩
  obtain ⟨x, hx, rfl⟩ := getElem?_modify_some _ _ _ _ _ hk
  refine ⟨x, hx, ?_⟩
  split
  · exact hf x
  · exact KT.rfl' x

/-- `ElemOK` made inductive by the four clauses of the header -/
structure ElemX (p : Pool) : Prop where
  ok : ElemOK p
  vr : ∀ (t : Nat) (k : PTask), p.tasks[t]? = some k → k.req < p.reqs.length
  fr0 : ∀ (m : Nat) (r : Req), p.reqs[m]? = some r → r.kind = .map → r.frame = .notStarted →
          r.pulled = r.created + r.skipped
  fr1 : ∀ (m : Nat) (r : Req), p.reqs[m]? = some r → r.kind = .map → r.frame = .waitMapSem ∨ r.frame = .waitRoom →
          r.pulled = r.created + r.skipped + 1
  wk : ∀ (m : Nat) (r : Req), p.reqs[m]? = some r → r.frame = .waitMapSem → r.kind = .map

theorem ElemX.ext {p q : Pool} (h : ElemX p) (e : Ext p q) : ElemX q := by
  have e' : ExtL p.tasks p.reqs q.tasks q.reqs := e
  refine ⟨⟨?_, ?_, ?_, ?_⟩, ?_, ?_, ?_, ?_⟩
  · intro t k' hk hm
    obtain ⟨k, hk0, kk⟩ := e'.tk t k' hk
    rw [kk.arg]; exact h.ok.ap t k hk0 (by rw [← kk.isMap]; exact hm)
  · intro t k' hk hm
    obtain ⟨k, hk0, kk⟩ := e'.tk t k' hk
    obtain ⟨r, i, hr, hkd, ha, hi⟩ := h.ok.el t k hk0 (by rw [← kk.isMap]; exact hm)
    obtain ⟨r', hr', rr⟩ := e'.fwd k.req r hr
    refine ⟨r', i, by rw [kk.req]; exact hr', by rw [rr.kind]; exact hkd, by rw [kk.arg, rr.stars]; exact ha, ?_⟩
    rw [rr.created, rr.skipped]; exact hi
  · intro t k' r' hk hr
    obtain ⟨k, hk0, kk⟩ := e'.tk t k' hk
    rw [kk.req] at hr
    rcases e'.rk k.req r' hr with ⟨r, hr0, rr⟩ | ⟨hl, _⟩
    · rw [kk.isMap, rr.kind]
      exact h.ok.km t k r hk0 hr0
    · exact absurd (h.vr t k hk0) (Nat.not_lt_of_le hl)
  · intro t1 t2 k1' k2' s1 s2 i1 i2 hlt h1 h2 hq a1 a2
    obtain ⟨k1, hk1, kk1⟩ := e'.tk t1 k1' h1
    obtain ⟨k2, hk2, kk2⟩ := e'.tk t2 k2' h2
    exact h.ok.ord t1 t2 k1 k2 s1 s2 i1 i2 hlt hk1 hk2 (by rw [← kk1.req, ← kk2.req]; exact hq)
      (by rw [← kk1.arg]; exact a1) (by rw [← kk2.arg]; exact a2)
  · intro t k' hk
    obtain ⟨k, hk0, kk⟩ := e'.tk t k' hk
    rw [kk.req]; exact Nat.lt_of_lt_of_le (h.vr t k hk0) e'.rlen
  · intro m r' hr hkd hf
    rcases e'.rk m r' hr with ⟨r, hr0, rr⟩ | ⟨_, hfr⟩
    · rw [rr.pulled, rr.created, rr.skipped]
      refine h.fr0 m r hr0 (by rw [← rr.kind]; exact hkd) ?_
      rcases rr.frame with x | x | x
      · rw [← x]; exact hf
      · rw [x] at hf; cases hf
      · rw [x] at hf; cases hf
    · exact hfr.1
  · intro m r' hr hkd hf
    rcases e'.rk m r' hr with ⟨r, hr0, rr⟩ | ⟨_, hfr⟩
    · rw [rr.pulled, rr.created, rr.skipped]
      refine h.fr1 m r hr0 (by rw [← rr.kind]; exact hkd) ?_
      rcases rr.frame with x | x | x
      · rw [← x]; exact hf
      · rw [x] at hf; rcases hf with y | y <;> cases y
      · rw [x] at hf; rcases hf with y | y <;> cases y
    · rcases hfr.2 with x | x | x <;> (rw [x] at hf; rcases hf with y | y <;> cases y)
  · intro m r' hr hf
    rcases e'.rk m r' hr with ⟨r, hr0, rr⟩ | ⟨_, hfr⟩
    · rw [rr.kind]
      refine h.wk m r hr0 ?_
      rcases rr.frame with x | x | x
      · rw [← x]; exact hf
      · rw [x] at hf; cases hf
      · rw [x] at hf; cases hf
    · rcases hfr.2 with x | x | x <;> (rw [x] at hf; cases hf)

variable {p₀ p : Pool}

theorem Ext.same (h : Ext p₀ p) (q : Pool) (ht : q.tasks = p.tasks := by rfl) (hr : q.reqs = p.reqs := by rfl) :
    Ext p₀ q := by
  unfold Ext at *; rw [ht, hr]; exact h

theorem ElemX.same (h : ElemX p) (q : Pool) (ht : q.tasks = p.tasks := by rfl) (hr : q.reqs = p.reqs := by rfl) :
    ElemX q := h.ext ((Ext.refl p).same q ht hr)

theorem ext_modTask (h : Ext p₀ p) (t : Nat) (f : PTask → PTask)
    (hf : ∀ x, KT (f x) x := by exact fun _ => ⟨rfl, rfl, rfl⟩) : Ext p₀ (p.modTask t f) :=
  h.trans (ExtL.modifyT _ _ t f hf)

theorem ext_modReq (h : Ext p₀ p) (m : Nat) (f : Req → Req)
    (hf : ∀ x, KR (f x) x := by exact fun _ => ⟨rfl, rfl, rfl, rfl, rfl, .inl rfl⟩) : Ext p₀ (p.modReq m f) :=
  h.trans (ExtL.of_reqs _ (.modify KR.rfl' m f hf))

theorem Ext.mapReqs (h : Ext p₀ p) (q : Pool) (f : Req → Req) (hr : q.reqs = p.reqs.map f) (hf : ∀ x, KR (f x) x)
    (ht : q.tasks = p.tasks := by rfl) : Ext p₀ q := by
  refine h.trans ?_
  unfold Ext
  rw [ht, hr]
  exact .of_reqs _ (.map f hf)

theorem ext_emitRef (h : Ext p₀ p) (r : Ref) : Ext p₀ (p.emitRef r) := h.same _
theorem ext_logEv (h : Ext p₀ p) (e : Ev) : Ext p₀ (p.logEv e) := h.same _

theorem ext_schedMeta (h : Ext p₀ p) (m : Nat) : Ext p₀ (p.schedMeta m) := ext_emitRef (ext_modReq h m _) _

theorem ext_schedOpt (h : Ext p₀ p) (o : Option Nat) : Ext p₀ (p.schedOpt o) := by
  cases o
  · exact h
  · exact ext_schedMeta h _

theorem ext_emitChildren (h : Ext p₀ p) (cbs : List (Nat × Nat)) : Ext p₀ (p.emitChildren cbs) :=
  foldl_keeps (P := Ext p₀) _ (fun _ _ h => ext_emitRef h _) cbs p h

theorem ext_finishMeta (h : Ext p₀ p) (m : Nat) (o : Outcome) : Ext p₀ (p.finishMeta m o) := by
  unfold finishMeta
  split
  · exact h
  · refine ext_emitChildren (ext_modReq h m _ ?_) _
    exact fun _ => ⟨rfl, rfl, rfl, rfl, rfl, .inr (.inl rfl)⟩

/-- every write of the machine (`Inv/Write.lean`) but those of a spawner, which move the counters and the frames
(`Inv/ElemWalk2.lean`) -/
theorem ext_write {w : Who} {p q : Pool} (h : Write w p q) (hw : ∀ m, w ≠ .spawn m ∧ w ≠ .grant m) : Ext p q := by
  have r := Ext.refl p
  cases h with
  | rest | emit | newApi | lost | runToEnded | canToEnded | runToCan | modGather | flagApi | newGather | modApi | forget | close
    | waitClosed => exact r.same _
  | req _ m f hf =>
    refine ext_modReq r m f fun x => ?_
    cases hf x with
    | soft h => obtain ⟨_, _, _, e, _⟩ := h; rw [e]; exact ⟨rfl, rfl, rfl, rfl, rfl, .inl rfl⟩
    | own => exact absurd rfl (hw m).1
    | reg _ h => rw [h]; exact ⟨rfl, rfl, rfl, rfl, rfl, .inl rfl⟩
  | flagReq _ m => exact (ext_modReq r m fun x => { x with sched := true }).same _
  | task _ t f hf =>
    refine ext_modTask r t f fun x => ?_
    cases hf x with
    | soft h => obtain ⟨_, _, _, e⟩ := h; rw [e]; exact ⟨rfl, rfl, rfl⟩
    | own h => exact h.kt
    | reg _ h => rw [h]; exact ⟨rfl, rfl, rfl⟩
  | flagTask _ t => exact (ext_modTask r t fun x => { x with sched := true }).same _
  | completeTask _ t _ _ o =>
    exact (ext_modTask r t fun x => { x with phase := .finished, outcome := some o, sched := false, mustCancel := false }).same _
  | fileCancelled _ f ms hf hm | unfiled _ f ms hf hm =>
    refine r.mapReqs _ f rfl fun x => ?_
    obtain ⟨_, _, _, e, _⟩ := hf x
    rw [e]
    exact ⟨rfl, rfl, rfl, rfl, rfl, .inl rfl⟩
  | newReq => exact ExtL.of_reqs _ (.append KR.rfl' _ ⟨rfl, .inl rfl⟩)
  | finishMeta _ m => exact absurd rfl (hw m).1
  | newTask _ m _ _ _ _ _ hw' => exact hw'.elim (fun e => absurd e.1 (hw m).1) fun e => absurd e (hw m).2

theorem ext_steps {S : Who → Prop} (hS : ∀ m, ¬ S (.spawn m) ∧ ¬ S (.grant m)) {p q : Pool} (h : Steps S p q) : Ext p q :=
  h.frame Ext.refl Ext.trans fun _ _ _ hs x => ext_write x fun m => ⟨fun e => (hS m).1 (e ▸ hs), fun e => (hS m).2 (e ▸ hs)⟩

theorem ext_user {p q : Pool} (h : Steps (· = .user) p q) : Ext p q :=
  ext_steps (fun _ => ⟨nofun, nofun⟩) h

theorem ext_runHooks (h : Ext p₀ p) (ctx : Nat) (hs : List HookOp) : Ext p₀ (p.runHooks ctx hs) :=
  h.trans (ext_user (st_runHooks (S := (· = .user)) (.refl p) rfl ctx hs))

theorem ext_releasePool (h : Ext p₀ p) : Ext p₀ p.releasePool :=
  h.trans (ext_user (st_releasePool (S := (· = .user)) (.refl p) rfl))

theorem ext_releaseMap (h : Ext p₀ p) (m : Nat) : Ext p₀ (p.releaseMap m) :=
  h.trans (ext_user (st_releaseMap (S := (· = .user)) (.refl p) rfl m))

theorem ext_runRef (p : Pool) (r : Ref) (hr : ∀ m, r ≠ .spawner m) : Ext p (p.runRef r) := by
  refine ext_steps (fun m => ?_) (steps_runRef p r)
  cases r with
  | spawner m' => exact absurd rfl (hr m')
  | _ => exact ⟨nofun, nofun⟩

theorem ext_applyOp (p : Pool) (op : Op) : Ext p (p.applyOp op).1 :=
  ext_steps (fun _ => ⟨nofun, nofun⟩) (steps_applyOp p op)

end Pool
end Taskpool
