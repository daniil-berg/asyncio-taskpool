import Taskpool.Inv.UserCode
/-! **The stages of `flush()`, `gather_and_close()` and `until_closed()`**, walked once.

Every stage of a background call `a` is the same program: writes to the pool, a gather over a list read off the pool
(the *head*), and then — if the gather is complete at once — the next stage, else the call suspends on it; the last
stages return (`finishApi`), after forgetting resp. closing if all went well.  `FlushStaged` / `ApiStaged` ask for one
field per head (spelled as in the model) and per exit, for a predicate that may know which call is running: `P k c`
holds while call `a` of kind `k` runs, with `c : Hand` the gather whose result it has in hand (so that what the end of
a stage needs to know about that result — "its children have finished", "somebody raised" — is part of the predicate:
established where the gather completes at once (`go`) or where the call is resumed (`res` of `stepApi`)); `PG k b`
right after the first (`b = false`) resp. second gather was started; `Q` between two steps.  `FlushKept` / `ApiKept` are
the constant case: a predicate (or a frame relation `R p₀ ·`) that does not care which call is running, kept by each
state change the stages are made of. -/
namespace Taskpool
namespace Pool

theorem gatherStart_new (p : Pool) (cs : List Child) (re : Bool) (a n : Nat) :
    (p.gatherStart cs re a n).1.apis = p.apis ∧ ∃ G, (p.gatherStart cs re a n).1.gathers[(p.gatherStart cs re a n).2]? = some G ∧
      G.children = cs ∧ G.retExc = re := by
  refine gatherScan_keeps (P := fun q => q.apis = p.apis ∧ ∃ G, q.gathers[p.gathers.length]? = some G ∧ G.children = cs ∧ G.retExc = re)
    (fun q g f hf h => ⟨h.1, ?_⟩) (fun q c g i h => by cases c <;> exact h) _ _ _ _ ⟨rfl, _, List.getElem?_concat_length, rfl, rfl⟩
  obtain ⟨G, hG, hc, hr⟩ := h.2
  exact ⟨_, getElem?_modify_of hG g f, ite_keeps (P := fun x : Gather => x.children = cs) ((hf G).1.trans hc) hc,
    ite_keeps (P := fun x : Gather => x.retExc = re) ((hf G).2.trans hr) hr⟩

theorem gatherOuter_eq {p : Pool} {g : Nat} {G : Gather} (hG : p.gathers[g]? = some G) : p.gatherOuter g = G.outer := by
  unfold gatherOuter
  rw [hG]

/-- what call `a` has in hand: nothing yet, or the outcome `o` of its first (`second = false`) resp. second gather `g` -/
inductive Hand | none | got (second : Bool) (g : Nat) (o : Outcome)

def Hand.second : Hand → Bool
  | .none => false
  | .got b _ _ => b

def gframe : Bool → Nat → AFrame
  | false, g => .gather1 g
  | true, g => .gather2 g

/-- call `a`, of kind `k`, has not returned -/
def Runs (apis : List Api) (a : Nat) (k : ApiKind) : Prop := ∃ A, apis[a]? = some A ∧ A.outcome = none ∧ A.kind = k

theorem Runs.get {apis : List Api} {a : Nat} {k : ApiKind} {A : Api} (h : Runs apis a k) (hA : apis[a]? = some A) :
    A.outcome = none ∧ A.kind = k :=
  let ⟨_, h0, r⟩ := h
  Option.some.inj (h0.symm.trans hA) ▸ r

theorem Runs.modApi {p : Pool} {a : Nat} {k : ApiKind} (h : Runs p.apis a k) (f : Api → Api)
    (hf : ∀ x, (f x).outcome = x.outcome ∧ (f x).kind = x.kind) : Runs (p.modApi a f).apis a k :=
  let ⟨A, hA, ho, hk⟩ := h
  ⟨f A, modify_get_self hA f, (hf A).1.trans ho, (hf A).2.trans hk⟩

/-- the stages of `flush()` and `until_closed()`; `ApiStaged` adds those of `gather_and_close()` -/
structure FlushStaged (P : ApiKind → Hand → Pool → Prop) (PG : ApiKind → Bool → Pool × Nat → Prop) (Q : Pool → Prop)
    (a : Nat) : Prop where
  /-- `flush()`: ended spawners are un-filed, the first gather is started -/
  headF1 : ∀ re (p : Pool) n, P (.flush re) .none p → PG (.flush re) false
    (({ p with reqs := p.reqs.map fun (r : Req) => if r.inRunning && r.outcome.isSome then { r with inRunning := false } else r } : Pool).gatherStart
      (p.metaCancelled.map Child.spawner ++ (indicesWhere p.reqs fun r => r.inRunning && r.outcome.isSome).map Child.spawner) re a n)
  /-- `flush()`: `_meta_tasks_cancelled` is cleared, the snapshot taken, the second gather started -/
  headF2 : ∀ re (p : Pool) g o, P (.flush re) (.got false g o) p → PG (.flush re) true
    ((({ p with metaCancelled := [], reqs := p.reqs.map fun (r : Req) => { r with inCancelled := false } } : Pool).modApi a
        fun x => { x with snapE := p.ended, snapC := p.cancelledR }).gatherStart
      (p.ended.map Child.task ++ p.cancelledR.map Child.task) re a 0)
  /-- the gather is complete at once: the call runs on with its outcome -/
  go : ∀ k b q o, PG k b q → q.1.gatherOuter q.2 = some o → P k (.got b q.2 o) q.1
  /-- the call suspends on the gather it has just started -/
  suspend : ∀ k b q, k ≠ .untilClosed → PG k b q → q.1.gatherOuter q.2 = none →
    Q (q.1.modApi a fun x => { x with frame := gframe b q.2 })
  /-- the call returns with the outcome of its gather, without having closed the pool.  The side conditions say which
  calls get here, for an instance whose `Q` speaks of the outcome: `until_closed()` starts no gather; after the first
  gather (`b = false`) only a `flush()` returns, and with an exception (that of a `gather_and_close()` is `raised`); a
  `gather_and_close()` past its second gather returns here only if it failed (`.ok` is `closing`) -/
  finish : ∀ k b g o p, P k (.got b g o) p → k ≠ .untilClosed → (b = false → (∃ re, k = .flush re) ∧ ∃ e, o = .exc e) →
    (∀ re, k = .gac re → o ≠ .ok) → Q (p.finishApi a o)
  /-- `flush()` forgets what it has awaited and returns -/
  forget : ∀ re (p : Pool) g, P (.flush re) (.got true g .ok) p →
    Q (({ p with ended := p.ended.filter (fun t => !((p.apis[a]?.getD default).snapE.contains t || (p.apis[a]?.getD default).snapC.contains t)),
                 cancelledR := p.cancelledR.filter (fun t => !(p.apis[a]?.getD default).snapC.contains t),
                 lost := p.lost || p.cancelledR.any (fun t => (p.apis[a]?.getD default).snapC.contains t && p.heldB t) } : Pool).finishApi a .ok)
  seenClosed : ∀ p, P .untilClosed .none p → p.closed = true → Q (p.finishApi a .ok)
  waitClosed : ∀ (p : Pool), P .untilClosed .none p → p.closed = false →
    Q (({ p with closedWaiters := p.closedWaiters ++ [a] } : Pool).modApi a fun x => { x with frame := .waitClosed })

structure ApiStaged (P : ApiKind → Hand → Pool → Prop) (PG : ApiKind → Bool → Pool × Nat → Prop) (Q : Pool → Prop)
    (a : Nat) : Prop extends FlushStaged P PG Q a where
  /-- the pool is locked, the first gather started (`ambiguous`: whether the result depends on the order of a set) -/
  headG1 : ∀ re (p : Pool), P (.gac re) .none p → PG (.gac re) false
    (({ ({ p with locked := true } : Pool) with ambiguous := p.ambiguous || (!re && decide ((failKindsExc ({ p with locked := true } : Pool)
        ((p.metaCancelled.map Child.spawner ++ (indicesWhere p.reqs fun r => r.inRunning).map Child.spawner).take
          p.metaCancelled.length)).length > 1)) } : Pool).gatherStart
      (p.metaCancelled.map Child.spawner ++ (indicesWhere p.reqs fun r => r.inRunning).map Child.spawner) true a 0)
  /-- both registries of spawners are cleared, the second gather started -/
  headG2 : ∀ re (p : Pool) g o, P (.gac re) (.got false g o) p → PG (.gac re) true
    (({ p with metaCancelled := [], reqs := p.reqs.map fun (r : Req) => { r with inCancelled := false, inRunning := false } } : Pool).gatherStart
      (p.ended.map Child.task ++ p.cancelledR.map Child.task ++ p.running.map Child.task) re a 0)
  /-- a spawner awaited in the first gather has raised: the call returns with that exception -/
  raised : ∀ re (p : Pool) g o e, P (.gac re) (.got false g o) p →
    p.firstExc (match p.gathers[g]? with | some G => G.children | none => []) = some e → Q (p.finishApi a (.exc e))
  /-- the closing step: registries cleared, the closing event set, its waiters flagged, the call returns -/
  closing : ∀ re (p : Pool) g, P (.gac re) (.got true g .ok) p →
    Q ((p.closedWaiters.foldl (fun p w => p.schedApi w)
      ({ p with ended := [], cancelledR := [], running := [], closed := true, closedWaiters := [],
                lost := p.lost || (p.running ++ p.cancelledR).any p.heldB } : Pool)).finishApi a .ok)

section
variable {P : ApiKind → Hand → Pool → Prop} {PG : ApiKind → Bool → Pool × Nat → Prop} {Q : Pool → Prop} {a : Nat} {p : Pool}

section
variable (k : FlushStaged P PG Q a)
include k

theorem FlushStaged.flushAfter2 {r : Bool} {g : Nat} {o : Outcome} (h : P (.flush r) (.got true g o) p) : Q (p.flushAfter2 a o) := by
  unfold Pool.flushAfter2
  split
  · exact k.forget r p g h
  · exact k.finish _ _ _ _ p h nofun nofun fun _ e => nomatch e

theorem FlushStaged.flushAfter1 {r : Bool} {g : Nat} {o : Outcome} (h : P (.flush r) (.got false g o) p) :
    Q (p.flushAfter1 a r o) := by
  unfold Pool.flushAfter1
  split
  · exact k.finish _ _ _ _ p h nofun (fun _ => ⟨⟨r, rfl⟩, _, rfl⟩) fun _ e => nomatch e
  · have H := k.headF2 r p g o h
    dsimp only
    split
    · next ho => exact k.flushAfter2 (k.go _ _ _ _ H ho)
    · next ho => exact k.suspend (.flush r) true _ nofun H ho

theorem FlushStaged.flushStage1 {r : Bool} (h : P (.flush r) .none p) : Q (p.flushStage1 a r) := by
  unfold Pool.flushStage1
  have H := fun n => k.headF1 r p n h
  dsimp only
  split
  · next ho => exact k.flushAfter1 (k.go _ _ _ _ (H _) ho)
  · next ho => exact k.suspend (.flush r) false _ nofun (H _) ho

theorem FlushStaged.untilClosedStart (h : P .untilClosed .none p) : Q (p.untilClosedStart a) :=
  dite_keeps (fun c => k.seenClosed p h c) fun c => k.waitClosed p h (Bool.eq_false_iff.mpr c)

end

variable (k : ApiStaged P PG Q a)
include k

theorem ApiStaged.gacAfter2 {r : Bool} {g : Nat} {o : Outcome} (h : P (.gac r) (.got true g o) p) : Q (p.gacAfter2 a o) := by
  unfold Pool.gacAfter2
  split
  · exact k.closing r p g h
  · next hne => exact k.finish _ _ _ _ p h nofun nofun fun _ _ e => hne e

theorem ApiStaged.gacAfter1 {r : Bool} {g : Nat} {o : Outcome} (h : P (.gac r) (.got false g o) p) : Q (p.gacAfter1 a r g) := by
  unfold Pool.gacAfter1
  dsimp only
  split
  · next e he =>
    refine k.raised r p g o e h ?_
    cases r
    · exact he
    · cases he
  · have H := k.headG2 r p g o h
    split
    · next ho => exact k.gacAfter2 (k.go _ _ _ _ H ho)
    · next ho => exact k.suspend (.gac r) true _ nofun H ho

theorem ApiStaged.gacStage1 {r : Bool} (h : P (.gac r) .none p) : Q (p.gacStage1 a r) := by
  unfold Pool.gacStage1
  have H := k.headG1 r p h
  dsimp only
  split
  · next ho => exact k.gacAfter1 (k.go _ _ _ _ H ho)
  · next ho => exact k.suspend (.gac r) false _ nofun H ho

/-- one step of call `a`; `q`: the state after the flag has been cleared.  `ent`: a call that starts runs under `P`;
`res`: so does a call resumed with the outcome of the gather it waited for; `idle`, `woken`: `c2`, `wc` of
`stepApi_cases` -/
theorem ApiStaged.stepApi (q : Pool) (hq : q = p.modApi a fun x => { x with sched := false }) (h : Q p)
    (idle : ∀ A, p.apis[a]? = some A → A.sched = true → A.frame ≠ .notStarted → A.frame ≠ .waitClosed →
      (∀ g, A.frame = .gather1 g ∨ A.frame = .gather2 g → A.kind = .untilClosed ∨ q.gatherOuter g = none) → Q q)
    (ent : ∀ A, p.apis[a]? = some A → A.sched = true → A.frame = .notStarted → P A.kind .none q)
    (res : ∀ A b g o, p.apis[a]? = some A → A.sched = true → A.frame = gframe b g → A.kind ≠ .untilClosed →
      q.gatherOuter g = some o → P A.kind (.got b g o) q)
    (woken : ∀ A, p.apis[a]? = some A → A.sched = true → A.frame = .waitClosed → Q (q.finishApi a .ok)) :
    Q (p.stepApi a) :=
  stepApi_cases p a q hq (fun _ => h) (fun _ _ _ => h) idle
    (fun A _ hA hs hf hk => k.flushStage1 (hk ▸ ent A hA hs hf))
    (fun A _ hA hs hf hk => k.gacStage1 (hk ▸ ent A hA hs hf))
    (fun A hA hs hf hk => k.untilClosedStart (hk ▸ ent A hA hs hf))
    woken
    (fun A g _ o hA hs hf hk ho => k.flushAfter1 (hk ▸ res A false g o hA hs hf (hk ▸ nofun) ho))
    (fun A g _ o hA hs hf hk ho => k.gacAfter1 (hk ▸ res A false g o hA hs hf (hk ▸ nofun) ho))
    (fun A g _ o hA hs hf hk ho => k.flushAfter2 (hk ▸ res A true g o hA hs hf (hk ▸ nofun) ho))
    fun A g _ o hA hs hf hk ho => k.gacAfter2 (hk ▸ res A true g o hA hs hf (hk ▸ nofun) ho)

end

/-- besides what `GatherBlind` asks: any rewrite of a call's record that does not flag the call, and the writes of
`flush()` and `until_closed()` to the pool itself -/
structure FlushKept (P : Pool → Prop) : Prop extends GatherBlind P where
  /-- a call rewrites its own record: never `kind`, and it does not flag itself -/
  modApi : ∀ p a (f : Api → Api), (∀ x, (f x).sched = true → x.sched = true) → (∀ x, (f x).kind = x.kind) → P p →
    P (p.modApi a f)
  /-- `flush()`: the spawners that have ended leave `_group_meta_tasks_running` -/
  unfile : ∀ p : Pool, P p → P { p with reqs := p.reqs.map fun (r : Req) =>
    if r.inRunning && r.outcome.isSome then { r with inRunning := false } else r }
  /-- `_meta_tasks_cancelled.clear()` -/
  uncancel : ∀ p : Pool, P p →
    P { p with metaCancelled := [], reqs := p.reqs.map fun (r : Req) => { r with inCancelled := false } }
  /-- `flush()` forgets the ids it has awaited -/
  forget : ∀ (p : Pool) (fe fc : Nat → Bool) (l : Bool), P p →
    P { p with ended := p.ended.filter fe, cancelledR := p.cancelledR.filter fc, lost := p.lost || l }
  waitClosed : ∀ (p : Pool) (a : Nat), P p → P { p with closedWaiters := p.closedWaiters ++ [a] }

/-- `FlushKept` and the writes of `gather_and_close()` -/
structure ApiKept (P : Pool → Prop) : Prop extends FlushKept P where
  /-- `gather_and_close()` clears both registries of spawners -/
  clearMetas : ∀ p : Pool, P p →
    P { p with metaCancelled := [], reqs := p.reqs.map fun (r : Req) => { r with inCancelled := false, inRunning := false } }
  /-- `gather_and_close()` clears the three registries of tasks and sets the closing event -/
  close : ∀ (p : Pool) (l : Bool), P p →
    P { p with ended := [], cancelledR := [], running := [], closed := true, closedWaiters := [], lost := p.lost || l }
  lock : ∀ (p : Pool) (amb : Bool), P p → P { p with locked := true, ambiguous := amb }

section
variable {P : Pool → Prop} (k : FlushKept P) {p : Pool}
include k

theorem FlushKept.finishApi (h : P p) (a : Nat) (o : Outcome) : P (p.finishApi a o) :=
  k.modApi p a _ (fun _ e => Bool.noConfusion e) (fun _ => rfl) h

theorem FlushKept.staged (a : Nat) : FlushStaged (fun _ _ => P) (fun _ _ q => P q.1) P a where
  headF1 := fun _ p _ h => k.toGatherBlind.gatherStart (k.unfile p h) _ _ a _
  headF2 := fun _ p _ _ h => k.toGatherBlind.gatherStart
    (k.modApi _ a (fun x => { x with snapE := p.ended, snapC := p.cancelledR }) (fun _ => id) (fun _ => rfl) (k.uncancel p h)) _ _ a 0
  go := fun _ _ _ _ h _ => h
  suspend := fun _ _ _ _ h _ => k.modApi _ a _ (fun _ => id) (fun _ => rfl) h
  finish := fun _ _ _ o _ h _ _ _ => k.finishApi h a o
  forget := fun _ p _ h => k.finishApi (k.forget p _ _ _ h) a _
  seenClosed := fun _ h _ => k.finishApi h a _
  waitClosed := fun p h _ => k.modApi _ a _ (fun _ => id) (fun _ => rfl) (k.waitClosed p a h)

/-- `r` and `g` index the stage predicate only, which is constant here: any value will do (likewise `g`, `o` below) -/
theorem FlushKept.flushAfter2 (h : P p) (a : Nat) (o : Outcome) : P (p.flushAfter2 a o) :=
  (k.staged a).flushAfter2 (r := true) (g := 0) h

theorem FlushKept.flushAfter1 (h : P p) (a : Nat) (re : Bool) (o : Outcome) : P (p.flushAfter1 a re o) :=
  (k.staged a).flushAfter1 (g := 0) h

theorem FlushKept.flushStage1 (h : P p) (a : Nat) (re : Bool) : P (p.flushStage1 a re) := (k.staged a).flushStage1 h

theorem FlushKept.untilClosedStart (h : P p) (a : Nat) : P (p.untilClosedStart a) := (k.staged a).untilClosedStart h

/-- one step of a background call, the three stages of `gather_and_close()` left to the caller (`q`: after the flag
has been cleared; `h`: the handle finds no flag to clear) -/
theorem FlushKept.stepApiFrom (h : (∀ A, p.apis[a]? = some A → A.sched = false) → P p) (q : Pool)
    (hq : q = p.modApi a fun x => { x with sched := false }) (h1 : P q)
    (gs : ∀ A re, p.apis[a]? = some A → A.sched = true → A.frame = .notStarted → A.kind = .gac re → P q →
      P (q.gacStage1 a re))
    (g1 : ∀ A g re o, p.apis[a]? = some A → A.sched = true → A.frame = .gather1 g → A.kind = .gac re →
      q.gatherOuter g = some o → P q → P (q.gacAfter1 a re g))
    (g2 : ∀ A g re o, p.apis[a]? = some A → A.sched = true → A.frame = .gather2 g → A.kind = .gac re →
      q.gatherOuter g = some o → P q → P (q.gacAfter2 a o)) : P (p.stepApi a) :=
  stepApi_cases p a q hq (fun e => h fun _ x => nomatch e.symm.trans x)
    (fun _ e hs => h fun _ x => Option.some.inj (e.symm.trans x) ▸ hs) (fun _ _ _ _ _ _ => h1)
    (fun _ _ _ _ _ _ => k.flushStage1 h1 a _) (fun A re a1 a2 a3 a4 => gs A re a1 a2 a3 a4 h1)
    (fun _ _ _ _ _ => k.untilClosedStart h1 a) (fun _ _ _ _ => k.finishApi h1 a _)
    (fun _ _ _ _ _ _ _ _ _ => k.flushAfter1 h1 a _ _) (fun A g re o a1 a2 a3 a4 a5 => g1 A g re o a1 a2 a3 a4 a5 h1)
    (fun _ _ _ _ _ _ _ _ _ => k.flushAfter2 h1 a _) fun A g re o a1 a2 a3 a4 a5 => g2 A g re o a1 a2 a3 a4 a5 h1

theorem FlushKept.unflag (h : P p) (a : Nat) : P (p.modApi a fun x => { x with sched := false }) :=
  k.modApi p a _ (fun _ e => Bool.noConfusion e) (fun _ => rfl) h

end

variable {P : Pool → Prop} (k : ApiKept P) {p : Pool}
include k

theorem ApiKept.staged (a : Nat) : ApiStaged (fun _ _ => P) (fun _ _ q => P q.1) P a where
  toFlushStaged := k.toFlushKept.staged a
  headG1 := fun _ p h => k.toGatherBlind.gatherStart (k.lock p _ h) _ true a 0
  headG2 := fun _ p _ _ h => k.toGatherBlind.gatherStart (k.clearMetas p h) _ _ a 0
  raised := fun _ _ _ _ _ h _ => k.finishApi h a _
  closing := fun _ p _ h => k.finishApi (foldl_keeps _ (fun q w hq => k.schedApi q w hq) _ _ (k.close p _ h)) a _

theorem ApiKept.gacAfter2 (h : P p) (a : Nat) (o : Outcome) : P (p.gacAfter2 a o) := (k.staged a).gacAfter2 (r := true) (g := 0) h

theorem ApiKept.gacAfter1 (h : P p) (a : Nat) (re : Bool) (g : Nat) : P (p.gacAfter1 a re g) :=
  (k.staged a).gacAfter1 (o := .ok) h

theorem ApiKept.gacStage1 (h : P p) (a : Nat) (re : Bool) : P (p.gacStage1 a re) := (k.staged a).gacStage1 h

/-- one step of call `a`, from the state after the flag has been cleared (`h1`); `h`: there is no flag to clear -/
theorem ApiKept.stepApiFrom {a : Nat} (h : (∀ A, p.apis[a]? = some A → A.sched = false) → P p)
    (h1 : P (p.modApi a fun x => { x with sched := false })) : P (p.stepApi a) :=
  k.toFlushKept.stepApiFrom h _ rfl h1 (fun _ _ _ _ _ _ h1 => k.gacStage1 h1 a _) (fun _ _ _ _ _ _ _ _ _ h1 => k.gacAfter1 h1 a _ _)
    fun _ _ _ _ _ _ _ _ _ h1 => k.gacAfter2 h1 a _

theorem ApiKept.stepApi (h : P p) (a : Nat) : P (p.stepApi a) :=
  k.stepApiFrom (fun _ => h) (k.unflag h a)

end Pool
end Taskpool
