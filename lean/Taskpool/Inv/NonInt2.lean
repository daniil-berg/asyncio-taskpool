import Taskpool.Inv.NonInt
/-! **Noninterference (C12): the wrapper of a pool task respects the erasure.**

The functions of the wrapper write the erased fields (`pendingExc`, the outcome, the awaited future) and log how the
task ended, so they do not commute with the erasure; they *respect* it:
`er t p = er t q → er t (f p) = er t (f q)` (`…_R`), proved through the one-pool form
`er t (f p) = er t (f (er t p))` (`…_fac`) where `f` reads the pool.

The two places where the runs actually differ — the worker (a callback) ended by returning in one and by raising in
the other — are `afterWorker_R` (`e` vs `e'` on task `t`) and the `.ok` / `.exc` branches of `stepInWorker`,
`stepInCancelCb`, `stepInEndCb`. -/
namespace Taskpool

/-- `f` respects the erasure of a task record: up to the erasure, `f k` depends on `k` up to the erasure only -/
def Resp (f : PTask → PTask) : Prop := ∀ k, erTask (f k) = erTask (f (erTask k))

theorem Resp.of_comm {f : PTask → PTask} (h : ∀ k, f (erTask k) = erTask (f k)) : Resp f :=
  fun k => by rw [h, erTask_erTask]

/-- `f` does not touch the awaited future and writes the other fields from fields the erasure keeps (`hf`; `pendingExc`
may be written).  The erasure keeps the future of a worker with a further await ahead: if `f` leaves the task in that
state only when it was in it, the future kept after `f` was kept before -/
theorem Resp.of_keep {f : PTask → PTask} (hfut : ∀ k, (f k).fut = k.fut)
    (hf : ∀ k, f (erTask k) =
      { f k with fut := (erTask k).fut, pendingExc := (f (erTask k)).pendingExc, outcome := (f k).outcome.map fun _ => Outcome.ok })
    (hc : ∀ k, (f k).phase = .inWorker ∧ (f k).awaitsLeft ≠ 0 → k.phase = .inWorker ∧ k.awaitsLeft ≠ 0) : Resp f := by
  intro k
  rw [hf k]
  simp only [erTask, Option.map_map, hfut]
  congr 1
  split
  · rw [if_pos (hc k ‹_›)]
  · split
    · rfl
    · exact (erFut_erFut _).symm

/-- `f` overwrites the awaited future and writes the other fields from fields the erasure keeps -/
theorem Resp.of_write {f : PTask → PTask}
    (hf : ∀ k, f (erTask k) = { f k with pendingExc := none, outcome := (f k).outcome.map fun _ => Outcome.ok }) : Resp f := by
  intro k
  rw [hf k]
  simp only [erTask, Option.map_map]
  rfl

theorem resp_wrapUp : Resp fun k => { k with phase := .wrapUp } :=
  .of_keep (fun _ => rfl) (fun _ => rfl) (fun _ h => nomatch h.1)
theorem resp_wrapUp_exc (x : Err) : Resp fun k => { k with phase := .wrapUp, pendingExc := some x } :=
  .of_keep (fun _ => rfl) (fun _ => rfl) (fun _ h => nomatch h.1)
theorem resp_exc (x : Err) : Resp fun k => { k with pendingExc := some x } :=
  .of_keep (fun _ => rfl) (fun _ => rfl) (fun _ h => h)

namespace Pool

variable {t : Nat}

theorem R_comm {f : Pool → Pool} (hf : ∀ p, f (er t p) = er t (f p)) {p q : Pool} (h : er t p = er t q) :
    er t (f p) = er t (f q) := by rw [← hf, ← hf, h]

theorem R_fac {f : Pool → Pool} (hf : ∀ p, er t (f p) = er t (f (er t p))) {p q : Pool} (h : er t p = er t q) :
    er t (f p) = er t (f q) := by rw [hf p, hf q, h]

theorem logEv_R {p q : Pool} (h : er t p = er t q) (e e' : Ev) (he : erEv t e = erEv t e') :
    er t (p.logEv e) = er t (q.logEv e') := by
  rw [er_logEv, er_logEv, h, he]

theorem modTask_fac {t' : Nat} {f : PTask → PTask} (p : Pool) (hf : Resp f) :
    er t (p.modTask t' f) = er t ((er t p).modTask t' f) := by
  by_cases e : t = t'
  · subst e
    simp only [modTask, er, List.modify_modify_eq, List.map_map]
    congr 1
    · exact congrArg _ (funext hf)
    · exact List.map_congr_left fun e _ => (erEv_erEv t e).symm
  · rw [modTask_er _ _ _ (fun h => absurd h e), er_er]

theorem modTask_R {p q : Pool} {t' : Nat} {f : PTask → PTask} (h : er t p = er t q) (hf : Resp f) :
    er t (p.modTask t' f) = er t (q.modTask t' f) := R_fac (fun x => modTask_fac x hf) h

theorem er_modTask_congr {p : Pool} {f g : PTask → PTask} (h : ∀ k, p.tasks[t]? = some k → erTask (f k) = erTask (g k)) :
    er t (p.modTask t f) = er t (p.modTask t g) := by
  simp only [er, modTask, List.modify_modify_eq]
  congr 1
  exact modify_congr_at _ _ _ _ h

theorem modTask_id (p : Pool) (t' : Nat) : p.modTask t' id = p := by
  simp only [modTask, List.modify_id]

theorem er_setExc (p : Pool) (x : Option Err) : er t (p.modTask t fun k => { k with pendingExc := x }) = er t p := by
  refine (er_modTask_congr (g := id) fun _ _ => ?_).trans (congrArg _ (modTask_id p t))
  rfl

/- as for `er` in `NonInt.lean`: the `Decidable` instances that `simp` leaves behind still mention the erased record -/
attribute [local instance_reducible] er erTask

theorem runHooks_R {p q : Pool} (h : er t p = er t q) (ctx : Nat) (hs : List HookOp) :
    er t (p.runHooks ctx hs) = er t (q.runHooks ctx hs) := R_comm (f := fun x => x.runHooks ctx hs) (fun x => runHooks_er x _ _) h
theorem schedTask_R {p q : Pool} (h : er t p = er t q) (t' : Nat) : er t (p.schedTask t') = er t (q.schedTask t') :=
  R_comm (f := fun x => x.schedTask t') (fun x => schedTask_er x _) h

/-- the asyncio Task of `t'` is done; on task `t` itself the outcome may differ -/
theorem completeTask_fac (p : Pool) (t' : Nat) (o o' : Outcome) (ho : t ≠ t' → o = o') :
    er t (p.completeTask t' o) = er t ((er t p).completeTask t' o') := by
  unfold completeTask
  simp only [er_tasks_get]
  cases p.tasks[t']? with
  | none => exact (er_er p).symm
  | some tk =>
    simp only [Option.map_some, erAt_outcome_isSome, erAt_doneCbs]
    refine R_comm (f := fun x => x.emitChildren _) (fun x => emitChildren_er x _) ?_
    by_cases e : t = t'
    · subst e
      refine Eq.trans ?_ (modTask_fac p fun k => ?_)
      · exact er_modTask_congr fun _ _ => rfl
      · simp only [erTask, reduceCtorEq, false_and, ↓reduceIte, Option.map_some, apply_ite erFut, erFut_erFut, ite_self]
    · rw [← ho e, modTask_er _ _ _ (fun h => absurd h e), er_er]

theorem completeTask_R {p q : Pool} (h : er t p = er t q) (t' : Nat) (o o' : Outcome) (ho : t ≠ t' → o = o') :
    er t (p.completeTask t' o) = er t (q.completeTask t' o') := by
  rw [completeTask_fac p t' o o' ho, completeTask_fac q t' o' o' (fun _ => rfl), h]

theorem finishTask_fac (p : Pool) (t' : Nat) : er t (p.finishTask t') = er t ((er t p).finishTask t') := by
  unfold finishTask
  simp only [er_tasks_get]
  cases p.tasks[t']? with
  | none => exact (er_er p).symm
  | some tk =>
    refine completeTask_fac _ _ _ _ fun h => ?_
    rw [erAt, if_neg h]

theorem finishTask_R {p q : Pool} (h : er t p = er t q) (t' : Nat) : er t (p.finishTask t') = er t (q.finishTask t') :=
  R_fac (fun x => finishTask_fac x t') h

@[er_simp] theorem suspendTask_er (p : Pool) (t' : Nat) (ph : Phase) : (er t p).suspendTask t' ph = er t (p.suspendTask t' ph) := by
  unfold suspendTask
  simp only [er_simp]
  cases p.tasks[t']? with
  | none => rfl
  | some tk =>
    simp only [Option.map_some, erAt_mustCancel]
    rw [modTask_er _ _ _ (fun _ k => erTask_fut k .cancelled ph false rfl), modTask_er _ _ _ (fun _ k => erTask_fut k .pending ph k.mustCancel rfl)]
    simp only [er_simp]

@[simp] theorem reqOf_er (p : Pool) (tk : PTask) : (er t p).reqOf tk = p.reqOf tk := rfl

@[er_simp] theorem cbBegin_er (p : Pool) (t' : Nat) (tk : PTask) (isEnd : Bool) :
    (er t p).cbBegin t' tk isEnd = er t (p.cbBegin t' tk isEnd) := by
  unfold cbBegin
  simp only [reqOf_er, counters_er, lookupRunning_er]
  cases isEnd <;> rw [modTask_er _ _ _ (by intros; rfl), logEv_er _ _ (by rfl), runHooks_er]

theorem suspendTask_R {p q : Pool} (h : er t p = er t q) (t' : Nat) (ph : Phase) :
    er t (p.suspendTask t' ph) = er t (q.suspendTask t' ph) := R_comm (f := fun x => x.suspendTask t' ph) (fun x => suspendTask_er x _ _) h
/-- a user callback: a raising one sets `pendingExc` — in both runs alike -/
theorem runCb_R {p q : Pool} (h : er t p = er t q) (t' : Nat) (tk : PTask) (isEnd : Bool) :
    er t (p.runCb t' tk isEnd).1 = er t (q.runCb t' tk isEnd).1 ∧ (p.runCb t' tk isEnd).2 = (q.runCb t' tk isEnd).2 := by
  have hb : er t (p.cbBegin t' tk isEnd) = er t (q.cbBegin t' tk isEnd) := R_comm (f := fun x => x.cbBegin t' tk isEnd) (fun x => cbBegin_er x _ _ _) h
  unfold runCb
  split
  · exact ⟨h, rfl⟩
  · exact ⟨logEv_R hb _ _ rfl, rfl⟩
  · exact ⟨modTask_R (logEv_R hb _ _ rfl) (resp_exc _), rfl⟩
  · exact ⟨suspendTask_R hb _ _, rfl⟩

@[er_simp] theorem moveToEnded_er (p : Pool) (j : Nat) : (er t p).moveToEnded j = (p.moveToEnded j).map (er t) := by
  unfold moveToEnded
  rw [er_running, er_cancelledR]
  cases p.running.contains j
  · cases p.cancelledR.contains j <;> rfl
  · rfl

@[er_simp] theorem releaseMapSlot_er (p : Pool) (t' : Nat) (tk : PTask) :
    (er t p).releaseMapSlot t' tk = er t (p.releaseMapSlot t' tk) := by
  unfold releaseMapSlot
  split
  · rw [releaseMap_er, modTask_er _ _ _ (by intros; rfl)]
  · rfl

theorem endCallback_R {p q : Pool} (h : er t p = er t q) (t' : Nat) (tk : PTask) :
    er t (p.endCallback t' tk) = er t (q.endCallback t' tk) := by
  have h1 := runCb_R (R_comm (f := fun x => x.releaseMapSlot t' tk) (fun x => releaseMapSlot_er x _ _) h) t' tk true
  unfold endCallback
  simp only [h1.2]
  split
  · exact h1.1
  · exact finishTask_R h1.1 _

theorem endingTail_R {p q : Pool} (h : er t p = er t q) (t' : Nat) (tk : PTask) :
    er t (p.endingTail t' tk) = er t (q.endingTail t' tk) := by
  refine endCallback_R ?_ _ _
  exact modTask_R (R_comm (f := releasePool) releasePool_er h) (.of_comm fun _ => rfl)

theorem keyErrorFinish_R {p q : Pool} (h : er t p = er t q) (t' : Nat) :
    er t (p.keyErrorFinish t') = er t (q.keyErrorFinish t') :=
  finishTask_R (modTask_R (congrArg (fun x : Pool => ({ x with lost := true } : Pool)) h) (resp_exc _)) _

theorem endingTail_tk (p : Pool) (t' : Nat) (tk : PTask) : p.endingTail t' (erAt t t' tk) = p.endingTail t' tk := by
  unfold erAt; split <;> rfl

theorem taskEnding_fac (p : Pool) (t' : Nat) : er t (p.taskEnding t') = er t ((er t p).taskEnding t') := by
  unfold taskEnding
  simp only [er_tasks_get, moveToEnded_er]
  cases p.tasks[t']? with
  | none => exact (er_er p).symm
  | some tk =>
    simp only [Option.map_some]
    cases p.moveToEnded t' with
    | none => exact keyErrorFinish_R (er_er p).symm _
    | some p1 =>
      simp only [Option.map_some, endingTail_tk]
      exact endingTail_R (er_er p1).symm _ _

theorem taskEnding_R {p q : Pool} (h : er t p = er t q) (t' : Nat) : er t (p.taskEnding t') = er t (q.taskEnding t') :=
  R_fac (fun x => taskEnding_fac x t') h

theorem cancelCallback_R {p q : Pool} (h : er t p = er t q) (t' : Nat) (tk : PTask) :
    er t (p.cancelCallback t' tk) = er t (q.cancelCallback t' tk) := by
  have h1 := runCb_R h t' tk false
  unfold cancelCallback
  simp only [h1.2]
  split
  · exact h1.1
  · exact taskEnding_R h1.1 _

theorem taskCancellation_fac (p : Pool) (t' : Nat) (tk : PTask) :
    er t (p.taskCancellation t' tk) = er t ((er t p).taskCancellation t' tk) := by
  unfold taskCancellation
  simp only [er_running]
  by_cases hr : p.running.contains t' = true <;> simp only [hr, ↓reduceIte, Bool.false_eq_true]
  · refine cancelCallback_R ?_ _ _
    refine modTask_R ?_ (.of_comm fun _ => rfl)
    exact (er_er _).symm
  · refine taskEnding_R ?_ _
    refine modTask_R ?_ (resp_exc _)
    exact (er_er _).symm

theorem taskCancellation_R {p q : Pool} (h : er t p = er t q) (t' : Nat) (tk : PTask) :
    er t (p.taskCancellation t' tk) = er t (q.taskCancellation t' tk) :=
  R_fac (fun x => taskCancellation_fac x t' tk) h

/-- the two ways a stage of the wrapper of task `t` ends — it returned, it raised `x` — differ in what is erased only -/
theorem wrapUp_diff (p : Pool) (ev ev' : Ev) (hev : erEv t ev = erEv t ev') (x : Err) :
    er t ((p.logEv ev).modTask t fun k => { k with phase := .wrapUp, pendingExc := some x }) =
      er t ((p.logEv ev').modTask t fun k => { k with phase := .wrapUp }) := by
  refine Eq.trans ?_ (modTask_R (logEv_R rfl ev ev' hev) resp_wrapUp)
  exact er_modTask_congr fun _ _ => rfl

theorem afterWorker_same {p q : Pool} (h : er t p = er t q) (t' : Nat) (e : Option Err) :
    er t (p.afterWorker t' e) = er t (q.afterWorker t' e) := by
  unfold afterWorker
  cases e with
  | none => exact taskEnding_R (modTask_R (logEv_R h _ _ rfl) resp_wrapUp) _
  | some x => exact taskEnding_R (modTask_R (logEv_R h _ _ rfl) (resp_wrapUp_exc x)) _

theorem afterWorker_self (p : Pool) (e : Option Err) : er t (p.afterWorker t e) = er t (p.afterWorker t none) := by
  cases e with
  | none => rfl
  | some x => exact taskEnding_R (wrapUp_diff p (.raised t) (.returned t) (if_pos rfl) x) _

/-- **the worker of task `t` returned in one run and raised in the other**: what is left of the difference —
`returned t` / `raised t` in the log, `pendingExc` — is erased; for every other task the outcomes agree -/
theorem afterWorker_R {p q : Pool} (h : er t p = er t q) (t' : Nat) (e e' : Option Err) (he : t ≠ t' → e = e') :
    er t (p.afterWorker t' e) = er t (q.afterWorker t' e') := by
  by_cases htt : t = t'
  · subst htt
    exact (afterWorker_self p e).trans ((afterWorker_same h t none).trans (afterWorker_self q e').symm)
  · rw [← he htt]
    exact afterWorker_same h t' e

theorem modTask_none (p : Pool) (t' : Nat) (f : PTask → PTask) (h : p.tasks[t']? = none) : p.modTask t' f = p := by
  simp only [modTask, List.modify_eq_self (List.getElem?_eq_none_iff.mp h)]

theorem modTask_modTask (p : Pool) (t' : Nat) (f g : PTask → PTask) :
    (p.modTask t' f).modTask t' g = p.modTask t' (g ∘ f) := by
  simp only [modTask, List.modify_modify_eq]

theorem modTask_get_self (p : Pool) (t' : Nat) (f : PTask → PTask) : (p.modTask t' f).tasks[t']? = (p.tasks[t']?).map f :=
  List.getElem?_modify_eq f t' p.tasks

/-- the worker reaches its first suspension point: `awaitsLeft` is set and the awaited future is a fresh one -/
theorem setAwaits_suspend_fac (p : Pool) (t' a : Nat) :
    er t ((p.modTask t' fun k => { k with awaitsLeft := a }).suspendTask t' .inWorker) =
      er t (((er t p).modTask t' fun k => { k with awaitsLeft := a }).suspendTask t' .inWorker) := by
  unfold suspendTask
  simp only [modTask_get_self, er_tasks_get]
  cases hk : p.tasks[t']? with
  | none =>
    rw [modTask_none _ _ _ hk, modTask_none _ _ _ ((er_tasks_get p t').trans (congrArg _ hk))]
    exact (er_er p).symm
  | some k =>
    simp only [Option.map_some, erAt_mustCancel, modTask_modTask]
    split
    · refine schedTask_R ?_ _
      exact modTask_fac _ (.of_write fun _ => rfl)
    · exact modTask_fac _ (.of_write fun _ => rfl)

theorem stepCreated_fac (p : Pool) (t' : Nat) (tk : PTask) :
    er t (p.stepCreated t' tk) = er t ((er t p).stepCreated t' tk) := by
  unfold stepCreated
  split
  · refine taskCancellation_R ?_ _ _
    exact modTask_R (er_er p).symm (.of_keep (fun _ => rfl) (fun _ => rfl) fun _ h => nomatch h.1)
  · simp only [reqOf_er]
    have h0 : er t (((p.logEv (.started t' tk.arg)).modTask t' fun k => { k with phase := .inWorker, fut := .ok, unstarted := false }).runHooks
          tk.req (p.reqOf tk).hooks.start) =
        er t ((((er t p).logEv (.started t' tk.arg)).modTask t' fun k => { k with phase := .inWorker, fut := .ok, unstarted := false }).runHooks
          tk.req (p.reqOf tk).hooks.start) :=
      runHooks_R (modTask_R (logEv_R (er_er p).symm _ _ rfl) (.of_write fun _ => rfl)) _ _
    split
    · exact afterWorker_same h0 _ _
    · exact afterWorker_same h0 _ _
    · exact R_fac (fun x => setAwaits_suspend_fac x _ _) h0

theorem workerCancelled_fac (p : Pool) (t' : Nat) (tk : PTask) :
    er t (p.workerCancelled t' tk) = er t ((er t p).workerCancelled t' tk) := by
  unfold workerCancelled
  simp only [reqOf_er]
  by_cases hres : ((p.reqOf tk).wspec.resume && !tk.sawCancel) = true <;> simp only [hres, ↓reduceIte, Bool.false_eq_true]
  · refine suspendTask_R ?_ _ _
    exact modTask_R (logEv_R (er_er p).symm _ _ rfl) (.of_comm fun _ => rfl)
  · have h0 : er t ((p.logEv (.sawCancel t')).modTask t' fun k => { k with sawCancel := true, phase := .wrapUp, nSaw := k.nSaw + 1 }) =
        er t (((er t p).logEv (.sawCancel t')).modTask t' fun k => { k with sawCancel := true, phase := .wrapUp, nSaw := k.nSaw + 1 }) :=
      modTask_R (logEv_R (er_er p).symm _ _ rfl) (.of_keep (fun _ => rfl) (fun _ => rfl) fun _ h => nomatch h.1)
    have hr : ∀ (x : Pool) f, ((x.logEv (.sawCancel t')).modTask t' f).reqOf tk = x.reqOf tk := fun _ _ => rfl
    simp only [hr, reqOf_er]
    by_cases hsw : (p.reqOf tk).wspec.swallow = true <;> simp only [hsw, ↓reduceIte, Bool.false_eq_true]
    · exact afterWorker_same h0 _ _
    · exact taskCancellation_R h0 _ _

theorem workerNext_fac (p : Pool) (t' : Nat) (tk : PTask) :
    er t (p.workerNext t' tk) = er t ((er t p).workerNext t' tk) := by
  unfold workerNext
  simp only [reqOf_er]
  refine suspendTask_R (runHooks_R ?_ _ _) _ _
  -- one await fewer: if a further one is still ahead then one was ahead before, and the future was kept
  exact modTask_R (logEv_R (er_er p).symm _ _ rfl)
    (.of_keep (fun _ => rfl) (fun _ => rfl) fun _ h => ⟨h.1, fun e => h.2 (by rw [e])⟩)

theorem workerNext_tk (p : Pool) (t' : Nat) (tk : PTask) : p.workerNext t' (erAt t t' tk) = p.workerNext t' tk := by
  unfold erAt; split <;> rfl

theorem workerCancelled_tk (p : Pool) (t' : Nat) (tk : PTask) : p.workerCancelled t' (erAt t t' tk) = p.workerCancelled t' tk := by
  unfold erAt; split <;> rfl

/-- the awaited future of the erased record differs from the one of the record only for an exception, at the worker's
last await or in a callback: there it reads as a normal completion -/
theorem erAt_fut (t t' : Nat) (tk : PTask) : (erAt t t' tk).fut = tk.fut ∨
    (t = t' ∧ (tk.phase = .inWorker → tk.awaitsLeft = 0) ∧ ∃ e, tk.fut = .exc e ∧ (erAt t t' tk).fut = .ok) := by
  unfold erAt
  split
  · by_cases hc : tk.phase = .inWorker ∧ tk.awaitsLeft ≠ 0
    · exact .inl (if_pos hc)
    · rw [show (erTask tk).fut = erFut tk.fut from if_neg hc]
      cases hf : tk.fut with
      | exc e => exact .inr ⟨‹_›, fun h => Decidable.by_contra fun ha => hc ⟨h, ha⟩, e, rfl, rfl⟩
      | _ => exact .inl rfl
  · exact .inl rfl

/-- **the worker of task `t` wakes up**: the future it awaited completed with an exception in one run and normally in the
other.  At its *last* await (`awaitsLeft = 0`) both end the worker; while a further await is ahead the state of the
future is not erased, so the two sides agree on it -/
theorem stepInWorker_fac (p : Pool) (t' : Nat) (tk : PTask) (hph : tk.phase = .inWorker) :
    er t (p.stepInWorker t' tk) = er t ((er t p).stepInWorker t' (erAt t t' tk)) := by
  unfold stepInWorker
  simp only [erAt_fut_cancelled, erAt_mustCancel, erAt_awaitsLeft, workerCancelled_tk, workerNext_tk]
  cases (tk.fut == .cancelled || tk.mustCancel) with
  | true =>
    rw [if_pos rfl, if_pos rfl]
    refine R_fac (fun x => workerCancelled_fac x _ _) ?_
    exact modTask_R (er_er p).symm (.of_comm fun _ => rfl)
  | false =>
    rw [if_neg Bool.false_ne_true, if_neg Bool.false_ne_true]
    rcases erAt_fut t t' tk with h | ⟨htt, ha, e, hf, hok⟩
    · rw [h]
      cases tk.fut with
      | ok =>
        dsimp only
        split
        · exact workerNext_fac p _ _
        · exact afterWorker_same (er_er p).symm _ _
      | exc e => exact afterWorker_same (er_er p).symm _ _
      | _ => exact (er_er p).symm
    · rw [hf, hok, ha hph]
      exact afterWorker_R (er_er p).symm t' (some e) none fun h => absurd htt h

theorem stepInCancelCb_R {p q : Pool} (h : er t p = er t q) (t' : Nat) (tk : PTask) :
    er t (p.stepInCancelCb t' tk) = er t (q.stepInCancelCb t' tk) := by
  unfold stepInCancelCb
  cases tk.fut with
  | pending => exact h
  | ok => exact taskEnding_R (modTask_R (logEv_R h _ _ rfl) resp_wrapUp) _
  | exc e => exact taskEnding_R (modTask_R (logEv_R h _ _ rfl) (resp_wrapUp_exc e)) _
  | cancelled => exact taskEnding_R (modTask_R (logEv_R h _ _ rfl) (resp_wrapUp_exc _)) _

/-- in a callback the erasure forgets an exception in the awaited future -/
theorem erTask_fut_cb (tk : PTask) (hph : tk.phase ≠ .inWorker) : (erTask tk).fut = erFut tk.fut :=
  if_neg fun h => hph h.1

/-- a coroutine cancel callback of task `t` raised in one run and returned in the other -/
theorem stepInCancelCb_fac (p : Pool) (t' : Nat) (tk : PTask) (hph : tk.phase ≠ .inWorker) :
    er t (p.stepInCancelCb t' tk) = er t ((er t p).stepInCancelCb t' (erAt t t' tk)) := by
  refine (stepInCancelCb_R (er_er p).symm t' tk).trans ?_
  unfold erAt
  split
  · subst t'
    unfold stepInCancelCb
    rw [erTask_fut_cb tk hph]
    cases tk.fut with
    | exc e => exact taskEnding_R (wrapUp_diff _ (.cancelCbRaised t) (.cancelCbDone t) (if_pos rfl) e) _
    | _ => rfl
  · rfl

theorem stepInEndCb_R {p q : Pool} (h : er t p = er t q) (t' : Nat) (tk : PTask) :
    er t (p.stepInEndCb t' tk) = er t (q.stepInEndCb t' tk) := by
  unfold stepInEndCb
  cases tk.fut with
  | pending => exact h
  | ok => exact finishTask_R (logEv_R h _ _ rfl) _
  | exc e => exact finishTask_R (modTask_R (logEv_R h _ _ rfl) (resp_exc e)) _
  | cancelled => exact finishTask_R (modTask_R (logEv_R h _ _ rfl) (resp_exc _)) _

/-- a coroutine end callback of task `t` raised in one run and returned in the other -/
theorem stepInEndCb_fac (p : Pool) (t' : Nat) (tk : PTask) (hph : tk.phase ≠ .inWorker) :
    er t (p.stepInEndCb t' tk) = er t ((er t p).stepInEndCb t' (erAt t t' tk)) := by
  refine (stepInEndCb_R (er_er p).symm t' tk).trans ?_
  unfold erAt
  split
  · subst t'
    unfold stepInEndCb
    rw [erTask_fut_cb tk hph]
    cases tk.fut with
    | exc e => exact finishTask_R ((er_setExc _ _).trans (logEv_R rfl (.endCbRaised t) (.endCbDone t) (if_pos rfl))) _
    | _ => rfl
  · rfl

theorem stepInWorker_R {p q : Pool} (h : er t p = er t q) (t' : Nat) (tk : PTask) (hph : tk.phase = .inWorker) :
    er t (p.stepInWorker t' tk) = er t (q.stepInWorker t' tk) := by
  rw [stepInWorker_fac p t' tk hph, stepInWorker_fac q t' tk hph, h]

theorem stepCreated_tk (p : Pool) (t' : Nat) (tk : PTask) : p.stepCreated t' (erAt t t' tk) = p.stepCreated t' tk := by
  unfold erAt; split <;> rfl

theorem stepTask_fac (p : Pool) (t' : Nat) : er t (p.stepTask t') = er t ((er t p).stepTask t') := by
  unfold stepTask
  rw [er_tasks_get]
  cases p.tasks[t']? with
  | none => exact (er_er p).symm
  | some tk =>
    dsimp only [Option.map_some]
    rw [erAt_sched, erAt_phase]
    cases tk.sched with
    | false => exact (er_er p).symm
    | true =>
      rw [if_neg (fun e => nomatch e), if_neg (fun e => nomatch e)]
      have h0 : er t (p.modTask t' fun k => { k with sched := false }) = er t ((er t p).modTask t' fun k => { k with sched := false }) :=
        modTask_R (er_er p).symm (.of_comm fun _ => rfl)
      cases hph : tk.phase with
      | created => rw [stepCreated_tk]; exact R_fac (fun x => stepCreated_fac x _ _) h0
      | inWorker =>
        exact (stepInWorker_fac _ _ _ hph).trans (stepInWorker_R ((er_er _).trans h0) _ _ (by rw [erAt_phase]; exact hph))
      | inCancelCb => exact (stepInCancelCb_fac _ _ _ (by rw [hph]; nofun)).trans (stepInCancelCb_R ((er_er _).trans h0) _ _)
      | inEndCb => exact (stepInEndCb_fac _ _ _ (by rw [hph]; nofun)).trans (stepInEndCb_R ((er_er _).trans h0) _ _)
      | _ => exact h0

/-- every gather and every background call of the pool collects exceptions -/
structure AllColl (p : Pool) : Prop where
  gathers : Coll p
  apis : ∀ (a : Nat) (A : Api), p.apis[a]? = some A → A.kind.coll = true

/-- **every handle respects the erasure** (in a pool whose gathers and background calls all collect) -/
theorem runRef_R {p q : Pool} (h : er t p = er t q) (hp : AllColl p) (hq : AllColl q) (r : Ref) :
    er t (p.runRef r) = er t (q.runRef r) := by
  cases r with
  | task t' => exact R_fac (fun x => stepTask_fac x t') h
  | spawner m => exact R_comm (f := fun x => x.stepMeta m) (fun x => stepMeta_er x m) h
  | api a =>
    simp only [runRef]
    rw [← (stepApi_er p a hp.gathers (hp.apis a)).1, ← (stepApi_er q a hq.gathers (hq.apis a)).1, h]
  | gchild g i =>
    simp only [runRef]
    rw [← gatherChildDone_er p g i true hp.gathers, ← gatherChildDone_er q g i true hq.gathers, h]

theorem wakesOnCancel_R {p q : Pool} (h : er t p = er t q) : p.wakesOnCancel = q.wakesOnCancel := by
  rw [← wakesOnCancel_er (t := t) p, ← wakesOnCancel_er (t := t) q, h]

/-- the environment completes the future of a task — the same way in both runs -/
theorem doGate_R {p q : Pool} (h : er t p = er t q) (t' : Nat) (o : FutSt) :
    er t (p.doGate t' o).1 = er t (q.doGate t' o).1 := by
  unfold doGate
  rw [wakesOnCancel_R h]
  split
  · refine schedTask_R ?_ _
    exact modTask_R h (.of_write fun _ => rfl)
  · exact h

/-- **the differing input**: the future task `t` awaits completes with an exception in one run and normally in the
other — at the worker's last await, or inside a coroutine callback -/
theorem doGate_diff {p q : Pool} (h : er t p = er t q) (e : Err)
    (hlast : ∀ tk, p.tasks[t]? = some tk → tk.phase = .inWorker → tk.awaitsLeft = 0) :
    er t (p.doGate t (.exc e)).1 = er t (q.doGate t .ok).1 := by
  refine Eq.trans ?_ (doGate_R h t .ok)
  unfold doGate
  split
  · refine schedTask_R (er_modTask_congr fun k hk => ?_) _
    -- at its last await, or outside the worker, the state of the future is erased
    have hc : ¬(k.phase = .inWorker ∧ k.awaitsLeft ≠ 0) := fun h => h.2 (hlast k hk h.1)
    simp only [erTask, hc, ↓reduceIte, erFut_exc, erFut_ok]
  · rfl

theorem R_commR {f : Pool → Pool × Res} (hf : ∀ x, f (er t x) = erR t (f x)) {p q : Pool} (h : er t p = er t q) :
    er t (f p).1 = er t (f q).1 ∧ (f p).2 = (f q).2 := by
  have h1 := congrArg (fun x => (f x).1) h
  have h2 := congrArg (fun x => (f x).2) h
  simp only [hf, erR_fst, erR_snd] at h1 h2
  exact ⟨h1, h2⟩

@[er_simp] theorem getGroupIds_er (p : Pool) (names : List String) : (er t p).getGroupIds names = p.getGroupIds names := by
  induction names with
  | nil => rfl
  | cons n rest ih => simp only [getGroupIds, groupIds_er, ih]

theorem addApi_er (p : Pool) (k : ApiKind) : (er t p).addApi k = er t (p.addApi k) := by
  unfold addApi; simp only [er_simp]

/-- every external operation but the completion of a future commutes with the erasure -/
theorem applyOp_er (p : Pool) (op : Op) (hop : ∀ t' o, op ≠ .gate t' o) : (er t p).applyOp op = erR t (p.applyOp op) := by
  cases op with
  | apply num group sp => exact doApply_er p num group sp
  | map stars items nc group sp => exact doMap_er p stars items nc group sp
  | start num => exact doStart_er p num
  | stop n => exact doStop_er p n
  | stopAll => exact doStop_er p _
  | cancel ids => exact doCancel_er p ids
  | cancelGroup g => exact doCancelGroup_er p g
  | cancelAll => exact doCancelAll_er p
  | lock => rfl
  | unlock => rfl
  | setSize v => exact doSetSize_er p v
  | getIds names => simp only [applyOp, getGroupIds_er]; rfl
  | flush re => exact congrArg (·, Res.none) (addApi_er p _)
  | gac re => exact congrArg (·, Res.none) (addApi_er p _)
  | untilClosed => exact congrArg (·, Res.none) (addApi_er p _)
  | gate t' o => exact absurd rfl (hop t' o)

/-- **every external operation respects the erasure** (the same operation in both runs); the result is the same -/
theorem applyOp_R {p q : Pool} (h : er t p = er t q) (op : Op) :
    er t (p.applyOp op).1 = er t (q.applyOp op).1 ∧ (p.applyOp op).2 = (q.applyOp op).2 := by
  by_cases hop : ∀ t' o, op ≠ .gate t' o
  · exact R_commR (f := fun x => x.applyOp op) (fun x => applyOp_er x op hop) h
  · cases op with
    | gate t' o =>
      refine ⟨doGate_R h t' o, ?_⟩
      simp only [applyOp, doGate, wakesOnCancel_R h]
      split <;> rfl
    | _ => exact absurd (fun _ _ => nofun) hop

end Pool
end Taskpool
