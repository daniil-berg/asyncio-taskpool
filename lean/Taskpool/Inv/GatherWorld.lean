import Taskpool.Inv.GatherApi
import Taskpool.Inv.GoodInv
/-! The counting invariant of the gathers for **every reachable world**: the handles in the loop's ready queue are the
`R` of `PInv`.  A handle leaves the ready queue only by being run (a handle is addressed to an existing pool), so the
count per slot is tracked exactly. -/
namespace Taskpool

/-- handles of callback slot `gi` of pool `n` in the ready queue -/
def World.rdy (w : World) (n : Nat) (gi : Nat × Nat) : Nat :=
  w.ready.countP (fun x => x.1 == n && isCb gi x.2)

structure World.GInv (w : World) : Prop where
  idx : ∀ x ∈ w.ready, x.1 < w.pools.length
  inv : ∀ (n : Nat) (p : Pool), w.pools[n]? = some p → Pool.PInv (w.rdy n) p

theorem isCb_eq (gi : Nat × Nat) (r : Ref) : isCb gi r = (r == .gchild gi.1 gi.2) := by
  cases r with
  | gchild g i => exact Bool.eq_iff_iff.mpr (by simp only [isCb, Bool.and_eq_true, beq_iff_eq, Ref.gchild.injEq])
  | _ => exact (beq_false_of_ne Ref.noConfusion).symm

theorem countP_isCb (gi : Nat × Nat) (l : List Ref) : l.countP (isCb gi) = l.count (.gchild gi.1 gi.2) :=
  List.countP_congr fun r _ => by rw [isCb_eq]

theorem World.rdy_eq (w : World) (n : Nat) : w.rdy n = fun gi => w.waiting n (.gchild gi.1 gi.2) :=
  funext fun gi => List.countP_congr fun x _ => by
    simp only [isCb_eq, Bool.and_eq_true, beq_iff_eq, Prod.ext_iff]

theorem World.rdy_erase_le (w : World) (k : Nat) (n : Nat) (gi : Nat × Nat) :
    ({ w with ready := w.ready.eraseIdx k } : World).rdy n gi ≤ w.rdy n gi :=
  (List.eraseIdx_sublist w.ready k).countP_le

theorem PInv_init (R : Nat × Nat → Nat) (cap : Cap) (simple : Option SpawnSpec) (hz : ∀ gi, R gi = 0) :
    Pool.PInv R (Pool.init cap simple) := by
  have hW : ∀ gi, Pool.W R (Pool.init cap simple) gi = 0 := fun gi =>
    (congrArg (· + (Pool.init cap simple).pot gi) (hz gi)).trans (Nat.zero_add 0)
  exact ⟨fun g i hp => absurd (hW (g, i)) (Nat.ne_of_gt hp), fun _ _ hG => (nomatch hG), fun _ _ _ _ hG => (nomatch hG),
    fun _ _ hG => (nomatch hG), fun _ _ _ hm => (nomatch hm), fun _ _ _ hm => (nomatch hm), fun _ _ _ _ hG => (nomatch hG),
    fun _ _ hG => (nomatch hG)⟩

theorem gatherInvariant :
    ReadyInvariant (fun R p => Pool.PInv (fun gi => R (.gchild gi.1 gi.2)) p) (fun c p => BaseC c p ∧ p.MC) where
  init := fun _ _ => PInv_init _ _ _ fun _ => rfl
  op := fun _ p _ orders o _ h => h.frame ((Pool.gv_applyOp _ o).trans (Pool.gv_orders p orders))
    ((Pool.tame_setOrders p orders).mono.trans (Pool.mono_applyOp _ o))
  run := fun _ p R orders r hJ h => by
    obtain ⟨⟨cap, hgood⟩, hmc⟩ := hJ
    have hA := Pool.AInv.of_good h hgood orders
    -- a handle that is no gather callback stands for no slot
    have other : (∀ g j, r ≠ .gchild g j) →
        (fun gi : Nat × Nat => R (.gchild gi.1 gi.2) + if r = .gchild gi.1 gi.2 then 1 else 0) = fun gi => R (.gchild gi.1 gi.2) :=
      fun hr => funext fun gi => by rw [if_neg (hr _ _)]; rfl
    cases r with
    | task t => exact (other (fun _ _ => Ref.noConfusion) ▸ hA.pinv).frame (Pool.gv_stepTask _ t) (Pool.mono_runRef _ (.task t))
    | spawner m => exact (other (fun _ _ => Ref.noConfusion) ▸ hA.pinv).frame (Pool.gv_stepMeta _ m) (Pool.mono_runRef _ (.spawner m))
    | api a =>
      exact (Pool.AInv.stepApi ⟨other (fun _ _ => Ref.noConfusion) ▸ hA.pinv, hA.ofin, hA.rv⟩ hmc a).pinv
    | gchild g j =>
      -- erasing the handle lowers the count of its own slot by one and of no other slot
      have hR := Pool.decAt_of (R := fun gi : Nat × Nat => R (.gchild gi.1 gi.2) + if Ref.gchild g j = .gchild gi.1 gi.2 then 1 else 0)
        (R' := fun gi => R (.gchild gi.1 gi.2)) (g := g) (i := j) fun gi => by
          simp only [Ref.gchild.injEq, Prod.ext_iff]
      exact hR ▸ hA.pinv.gchild hA.ofin g j (by simp)
  drain := fun p R h => by
    have := h.drain
    simp only [countP_isCb] at this
    exact this

theorem World.ginv_run (base : Nat) (h : History) : ((World.init base).run h).GInv :=
  have r := World.ready_run gatherInvariant (baseC_invariant.and Pool.mcInvariant) base h fun x _ => admits_all x
  ⟨r.idx, fun n p hp => World.rdy_eq _ n ▸ r.inv n p hp⟩

end Taskpool
