import Taskpool.Props.C07
import Taskpool.Inv.GoodInv
/-! # C04 — apply/start run exactly the requested invocations

The spawner loop of `apply`/`start` (`_apply_spawner`, `_start_num`): progress accounting for every `num`, every
pool state, every point at which the loop has to wait. -/
namespace Taskpool
open Pool

/-- the result of running the apply/start loop for `n` more invocations -/
inductive LoopEnd (r' : Req) : Prop
  | done (h1 : r'.remaining = 0) (h2 : r'.frame = .done) (h3 : r'.outcome = some .ok ∨ r'.outcome = some .cancelled)
  | waiting (h : r'.frame = .waitRoom) (h2 : r'.outcome = none) (h3 : 0 < r'.remaining)
  | failed (e : Err) (h : r'.outcome = some (.exc e))

/-- what the loop leaves in `q` when it was entered with `n` invocations to go, `c` created, `s` skipped and `t` tasks
in the pool; `d` counts the tasks it created -/
def ApplyPost (m c s n t : Nat) (q : Pool) : Prop :=
  ∃ r' d, q.reqs[m]? = some r' ∧ r'.created = c + d ∧ r'.skipped + r'.remaining + d = s + n ∧ LoopEnd r' ∧
    q.tasks.length = t + d

theorem ApplyPost.skip {m c s n t : Nat} {q : Pool} (h : ApplyPost m c (s + 1) n t q) : ApplyPost m c s (n + 1) t q := by
  obtain ⟨r', d, a, b, e, f, g⟩ := h
  exact ⟨r', d, a, b, by rw [e, Nat.add_assoc, Nat.add_comm 1], f, g⟩

theorem ApplyPost.create {m c s n t : Nat} {q : Pool} (h : ApplyPost m (c + 1) s n (t + 1) q) :
    ApplyPost m c s (n + 1) t q := by
  obtain ⟨r', d, a, b, e, f, g⟩ := h
  exact ⟨r', d + 1, a, by rw [b, Nat.add_assoc, Nat.add_comm 1], congrArg (· + 1) e, f,
    by rw [g, Nat.add_assoc, Nat.add_comm 1]⟩

theorem applyPost_finish (q : Pool) (m : Nat) (o : Outcome) (r : Req) (h : q.reqs[m]? = some r)
    (he : LoopEnd (r.finished o)) : ApplyPost m r.created r.skipped r.remaining q.tasks.length (q.finishMeta m o) :=
  ⟨_, 0, (finishMeta_req q m o r h).1, rfl, rfl, he, congrArg _ (finishMeta_req q m o r h).2⟩

theorem applyLoop_post (m n : Nat) (p : Pool) (r : Req) (h : p.reqs[m]? = some r) (ho : r.outcome = none) :
    ApplyPost m r.created r.skipped n p.tasks.length (applyLoop m n p) := by
  induction n generalizing p r with
  | zero =>
    rw [applyLoop]
    refine applyPost_finish _ m .ok { r with remaining := 0 } (modify_get_self h _) (.done rfl rfl ?_)
    cases hm : r.mustCancel
    · exact .inl rfl
    · exact .inr rfl
  | succ n ih =>
    have h1 : (p.modReq m fun x => { x with remaining := n + 1 }).reqs[m]? = some { r with remaining := n + 1 } :=
      modify_get_self h _
    refine applyLoop_succ_elim m n p _ rfl (fun _ => ?_) (fun _ => ?_) (fun _ _ => ?_) (fun _ _ _ => ?_) (fun _ _ _ => ?_)
    · -- the call `func(*args, **kwargs)` raises: skipped, continue
      exact (ih _ { r with remaining := n + 1, skipped := r.skipped + 1 } (modify_get_self h1 _) ho).skip
    · exact applyPost_finish _ m _ _ h1 (.failed .poolIsClosed rfl)
    · exact applyPost_finish _ m _ _ h1 (.failed .poolIsLocked rfl)
    · obtain ⟨⟨s, a⟩, b⟩ := waitRoom_req _ m _ h1
      exact ⟨_, 0, a, rfl, rfl, .waiting rfl ho (Nat.succ_pos n), congrArg _ b⟩
    · obtain ⟨a, b⟩ := takeSlotAndCreate_req _ m false _ h1
      have := ih _ _ a ho
      rw [b] at this
      exact this.create

/-- **progress accounting.** Starting the loop with `n` invocations to go: whatever the pool size and state, when
the loop next suspends or ends, `created + skipped + remaining` has not changed — no invocation is lost or
duplicated — and the loop has either finished with nothing remaining, or waits for pool room with the current
invocation still counted as remaining, or ended with an exception (in `applyLoop`: `PoolIsClosed` / `PoolIsLocked` out
of `_start_task`). -/
theorem C04_loop_accounting (m n : Nat) (p : Pool) (r : Req) (h : p.reqs[m]? = some r) (ho : r.outcome = none) :
    ∃ r', (applyLoop m n p).reqs[m]? = some r' ∧
      r'.created + r'.skipped + r'.remaining = r.created + r.skipped + n ∧ LoopEnd r' ∧
      (applyLoop m n p).tasks.length = p.tasks.length + (r'.created - r.created) ∧ r.created ≤ r'.created := by
  obtain ⟨r', d, a, b, e, f, g⟩ := applyLoop_post m n p r h ho
  exact ⟨r', a, by omega, f, by rw [b, Nat.add_sub_cancel_left]; exact g, b ▸ Nat.le_add_right _ _⟩

/-- **done means all.** If the loop is entered for a request of `num` invocations and ends normally, exactly `num`
invocations were started or skipped (skipped = the call raised synchronously) -/
theorem C04_done_means_all (m num : Nat) (p : Pool) (r : Req) (h : p.reqs[m]? = some r) (ho : r.outcome = none)
    (hc : r.created = 0) (hs : r.skipped = 0) (r' : Req) (hr' : (applyLoop m num p).reqs[m]? = some r')
    (hd : r'.frame = .done) (hok : r'.outcome = some .ok) : r'.created + r'.skipped = num := by
  obtain ⟨r2, a, b, c, _⟩ := C04_loop_accounting m num p r h ho
  rw [a] at hr'; cases hr'
  cases c with
  | done h1 _ _ => omega
  | waiting hw => rw [hd] at hw; cases hw
  | failed e he => rw [hok] at he; cases he

/-- **exactly the requested invocations, for every history.** In every pool of every reachable world (any sizes,
resizes, competing requests, waits for room, `lock()`, `gather_and_close()`, cancellations, failures, user code), for
every `apply`/`start` request: the tasks that name it are exactly the `created` ones, and
`tasks created + invocations skipped (the call raised) + invocations still to start = the number requested` — no
invocation is lost or duplicated while the spawner lives, and never more than `num` tasks exist. -/
theorem C04_exact_invocations (base : Nat) (h : History) (i : Nat) (c : Cfg) (p : Pool)
    (hc : ((World.init base).run h).cfgs[i]? = some c) (hp : ((World.init base).run h).pools[i]? = some p)
    (m : Nat) (r : Req) (hr : p.reqs[m]? = some r) (hk : r.kind = .apply) :
    tasksOf p.tasks m = r.created ∧ r.created + r.skipped + r.remaining = r.n0 ∧ tasksOf p.tasks m + r.skipped ≤ r.n0 := by
  have ha := accAll ⟨i, hc, hp⟩
  have h1 := ha.tk m r hr
  have h2 := ((ha.rq m r hr).1 hk).1
  have h2' : ((r.created + r.skipped + r.remaining : Nat) : Int) = r.n0 + 0 := h2
  exact ⟨h1, by omega, by omega⟩

/-- the number requested is what the call was given: `apply(num)` / `start(num)` register a request with
`n0 = remaining = num` -/
theorem C04_requested_is_num (stars : Nat) (g : String) (sp : SpawnSpec) (num nc : Nat) :
    (newReq .apply stars g sp num [] nc).n0 = num ∧ (newReq .apply stars g sp num [] nc).remaining = num := ⟨rfl, rfl⟩

/-- every task belongs to an existing request of its pool -/
theorem C04_task_has_request (base : Nat) (h : History) (i : Nat) (c : Cfg) (p : Pool)
    (hc : ((World.init base).run h).cfgs[i]? = some c) (hp : ((World.init base).run h).pools[i]? = some p)
    (t : Nat) (tk : PTask) (ht : p.tasks[t]? = some tk) : tk.req < p.reqs.length :=
  (accAll ⟨i, hc, hp⟩).ref t tk ht

/-! Non-vacuity: `apply num=3` on a size-1 pool: one task created, the spawner waits with 2 remaining. -/
example : ((applyLoop 0 3 ((Pool.init (.fin 1) none).doApply 3 none gatedSpec).1).reqs.map fun r =>
    (r.created, r.skipped, r.remaining, r.frame)) = [(1, 0, 2, MFrame.waitRoom)] := by decide +kernel

end Taskpool
