import Taskpool.Props.C06
import Taskpool.Inv.Elim
import Taskpool.Inv.Effects
/-! # C07 — Group and global cancellation are complete and contained

Step-level theorems: what one `cancel_group`/`cancel_all` call does to the pool (frame and effect), and what a
spawner does at its next step once a cancellation is pending for it, in each of the placements the property
quantifies over (not started / waiting for pool room / waiting for its own concurrency slot / slot just handed
over).  The temporal glue "nothing un-cancels a spawner before its next step" is `C07_cancelled_stays_stopped`: after
every history a spawner whose cancellation was recorded has created and pulled nothing since, and is over or still
doomed. -/
namespace Taskpool
open Pool

/-- an unknown group name raises InvalidGroupName and changes nothing -/
theorem C07_unknown_name_no_change (p : Pool) (g : String) (h : p.groupIds g = none) :
    p.doCancelGroup g = (p, .err .groupNotFound) := by
  unfold doCancelGroup; simp [h]

theorem metaCancel_groups (q : Pool) (m : Nat) : (q.metaCancel m).groups = q.groups := by
  refine metaCancel_elim (P := fun x => x.groups = q.groups) q m (fun _ => rfl) (fun _ _ _ => rfl) (fun _ _ _ _ => ?_)
    (fun _ _ _ _ _ => ?_) (fun _ _ _ _ _ => ?_)
  -- unfolding by name is much cheaper than `rfl`, which first tries to identify the two pools field by field
  · dsimp only [schedMeta, emitRef, modReq]
  · dsimp only [schedMeta, emitRef, modReq]
  · dsimp only [modReq]

theorem cancelGroupBody_groups (p p' : Pool) (g ids order) (h : p.cancelGroupBody g ids order = some p') :
    p'.groups = p.groups ∧ p'.running = p.running ∧ p'.tasks.length = p.tasks.length := by
  have ht := tame_cancelGroupBody p p' g ids order h
  obtain ⟨ts, rfl⟩ := cancelGroupBody_some h
  refine ⟨?_, ht.run, ht.len⟩
  refine foldl_keeps (P := fun x : Pool => x.groups = p.groups) _ (fun q t e => (onlyTask_cancelTask q t).groups.trans e) ts _ ?_
  unfold cancelGroupMetas
  exact foldl_keeps (P := fun x : Pool => x.groups = p.groups) _ (fun q m e => (metaCancel_groups q m).trans e) _ p rfl

theorem find?_filter_ne_self {α} (l : List (String × α)) (g : String) :
    (l.filter (·.1 != g)).find? (·.1 == g) = none := by
  rw [List.find?_filter, List.find?_eq_none]
  intro x _
  simp

theorem find?_filter_ne_other {α} (l : List (String × α)) (g g' : String) (hne : g' ≠ g) :
    (l.filter (·.1 != g)).find? (·.1 == g') = l.find? (·.1 == g') := by
  rw [List.find?_filter]
  congr 1
  funext x
  by_cases e : x.1 = g'
  · simp [e, hne]
  · simp [e]

/-- **forgotten**: after a successful `cancel_group(g)` the pool no longer knows `g` (its ids are no longer
reported, the name is free for a new request), every other group is reported exactly as before, and no task was
created or removed by the call -/
theorem C07_forgotten (p : Pool) (g : String) (h : (p.doCancelGroup g).2 = .none) :
    (p.doCancelGroup g).1.groupIds g = none ∧
    (∀ g', g' ≠ g → (p.doCancelGroup g).1.groupIds g' = p.groupIds g') ∧
    (p.doCancelGroup g).1.tasks.length = p.tasks.length ∧ (p.doCancelGroup g).1.running = p.running := by
  rw [doCancelGroup] at h ⊢
  cases hids : p.groupIds g with
  | none => rw [hids] at h; cases h
  | some ids =>
    rw [hids] at h
    dsimp only at h ⊢
    generalize hb : cancelGroupBody _ g ids _ = ob at h ⊢
    cases ob with
    | none => cases h
    | some p2 =>
      obtain ⟨hg, hr, hl⟩ := cancelGroupBody_groups _ _ _ _ _ hb
      have pg : p.popOrder.1.groups = p.groups := by rw [popOrder_fst]
      refine ⟨?_, fun g' hne => ?_, hl.trans (by rw [popOrder_fst]), hr.trans (by rw [popOrder_fst])⟩
      · show Option.map _ (List.find? _ p2.groups) = none
        rw [hg, pg, find?_filter_ne_self]
        rfl
      · show Option.map _ (List.find? _ p2.groups) = Option.map _ (List.find? _ p.groups)
        rw [hg, pg, find?_filter_ne_other _ _ _ hne]

/-- a cancellation is pending for spawner `m`: `must_cancel` is set (not started, running, or its slot was just
handed over), or the future it waits on — pool room or its own concurrency slot — was cancelled -/
def CancelPending (p : Pool) (m : Nat) : Prop :=
  ∃ r : Req, p.reqs[m]? = some r ∧ r.sched = true ∧ r.outcome = none ∧
    (r.mustCancel = true ∨
     (r.frame = .waitRoom ∧ (removeWaiterL m p.sem.waiters).1 = some .cancelled) ∨
     (r.frame = .waitMapSem ∧ (removeWaiterL m r.mapSem.waiters).1 = some .cancelled))

theorem releasePool_tasks (p : Pool) : p.releasePool.tasks = p.tasks :=
  Pool.releasePool_tasks p

/-- the progress counters of a request -/
def Req.ctr (r : Req) : Nat × Nat × Nat × List Item × Nat := (r.pulled, r.created, r.skipped, r.items, r.remaining)

/-- `q` has the same tasks and the same progress counters in every request as `p` -/
structure Quiet (p q : Pool) : Prop where
  tasks : q.tasks = p.tasks
  reqs : ∀ (m : Nat) (r : Req), p.reqs[m]? = some r → ∃ r', q.reqs[m]? = some r' ∧ r'.ctr = r.ctr

theorem Quiet.refl (p : Pool) : Quiet p p := ⟨rfl, fun _ r h => ⟨r, h, rfl⟩⟩

variable {p₀ p : Pool}

theorem Quiet.same (h : Quiet p₀ p) (q : Pool) (ht : q.tasks = p.tasks := by rfl) (hr : q.reqs = p.reqs := by rfl) :
    Quiet p₀ q :=
  ⟨ht.trans h.tasks, fun m r h0 => hr ▸ h.reqs m r h0⟩

theorem Quiet.modReq (h : Quiet p₀ p) (m : Nat) (f : Req → Req) (hf : ∀ x, (f x).ctr = x.ctr := by exact fun _ => rfl) :
    Quiet p₀ (p.modReq m f) := by
  refine ⟨h.tasks, fun i r h0 => ?_⟩
  obtain ⟨r1, h1, e1⟩ := h.reqs i r h0
  by_cases e : m = i
  · subst e; exact ⟨f r1, modify_get_self h1 _, (hf r1).trans e1⟩
  · exact ⟨r1, (List.getElem?_modify_ne _ _ e).trans h1, e1⟩

theorem Quiet.schedOpt (h : Quiet p₀ p) (o : Option Nat) : Quiet p₀ (p.schedOpt o) := by
  cases o with
  | none => exact h
  | some n => exact (h.modReq n fun x => { x with sched := true }).same _

theorem Quiet.releasePool (h : Quiet p₀ p) : Quiet p₀ p.releasePool := (h.same _).schedOpt _

theorem Quiet.releaseMap (h : Quiet p₀ p) (m : Nat) : Quiet p₀ (p.releaseMap m) := by
  unfold Pool.releaseMap
  split
  · exact h
  · exact (h.modReq m _).schedOpt _

/-- nothing has moved, and spawner `m` is over -/
def QuietEnd (p : Pool) (m : Nat) (q : Pool) : Prop :=
  Quiet p q ∧ ∃ r', q.reqs[m]? = some r' ∧ r'.outcome.isSome = true

/-- the spawner's task ends: nothing moves, and it has an outcome -/
theorem Quiet.finishMeta (h : Quiet p₀ p) {m : Nat} {r : Req} (h0 : p₀.reqs[m]? = some r) (o : Outcome) :
    QuietEnd p₀ m (p.finishMeta m o) := by
  obtain ⟨r1, h1, _⟩ := h.reqs m r h0
  refine ⟨?_, _, (finishMeta_req p m o r1 h1).1, rfl⟩
  unfold Pool.finishMeta
  rw [h1]
  exact (h.modReq m _).same _ (emitChildren_frame _ _).2 (emitChildren_frame _ _).1

/-- `CancelledError` inside `acquire()`: slots are given back, the spawner is over, nothing else moves -/
theorem Quiet.roomWaitCancelled (h : Quiet p₀ p) {m : Nat} {r0 : Req} (h0 : p₀.reqs[m]? = some r0) (r : Req)
    (st : Option WaitSt) : QuietEnd p₀ m (p.roomWaitCancelled m r st) := by
  unfold Pool.roomWaitCancelled
  have h1 : Quiet p₀ (if st == some .granted then p.releasePool else p) := ite_keeps h.releasePool h
  exact (ite_keeps (P := Quiet p₀) (h1.releaseMap m) h1).finishMeta h0 _

theorem Quiet.ctr_eq {p q : Pool} (hq : Quiet p q) {m : Nat} {r r' : Req} (h : p.reqs[m]? = some r)
    (h' : q.reqs[m]? = some r') : r'.ctr = r.ctr := by
  obtain ⟨r2, a, e⟩ := hq.reqs m r h
  rw [h'] at a
  cases a
  exact e

theorem doomed_step_quiet (p : Pool) (m : Nat) (r : Req) (h : p.reqs[m]? = some r) (hs : r.sched = true)
    (hd : DoomedAt p m r) (hf : r.frame = .notStarted ∨ r.frame = .waitRoom ∨ r.frame = .waitMapSem) :
    QuietEnd p m (p.stepMeta m) := by
  have q1 := (Quiet.refl p).modReq m fun x => { x with sched := false }
  have hr : ∀ r0, p.reqs[m]? = some r0 → r0 = r := fun r0 h0 => Option.some.inj (h0.symm.trans h)
  refine stepMeta_elim (P := QuietEnd p m) p m _ rfl
    (fun h0 => nomatch h0.symm.trans h) (fun r0 h0 c => ?_) (fun r0 h0 a b c => ?_) (fun r0 h0 e => ?_)
    (fun r0 h0 e => ?_) (fun r0 h0 e => ?_) <;> cases hr r0 h0
  · exact nomatch hs.symm.trans c
  · exact (hf.elim a fun x => x.elim b c).elim
  · -- not started: only `must_cancel` can be pending; the body never runs
    have hm : r.mustCancel = true := hd.elim id fun x => x.elim (fun d => nomatch e.symm.trans d.1) fun d => nomatch e.symm.trans d.1
    rw [stepMetaNotStarted, if_pos hm]
    exact q1.finishMeta h _
  · -- waiting for pool room: `CancelledError` inside `acquire()`
    have hc : (removeWaiterL m p.sem.waiters).1 = some .cancelled ∨ r.mustCancel = true :=
      hd.elim .inr fun x => x.elim (fun d => .inl d.2) fun d => nomatch e.symm.trans d.1
    exact wakeWaitRoom_elim (P := QuietEnd p m) _ m r _ _ rfl rfl (fun n1 n2 _ => (hc.elim n1 fun x => nomatch n2.symm.trans x).elim)
      (fun _ => ((q1.same _).modReq m _).roomWaitCancelled h r _)
      fun n1 n2 _ => (hc.elim n1 fun x => nomatch n2.symm.trans x).elim
  · -- waiting for its own concurrency slot (map family): likewise, inside the call's own semaphore
    have hc : (removeWaiterL m r.mapSem.waiters).1 = some .cancelled ∨ r.mustCancel = true :=
      hd.elim .inr fun x => x.elim (fun d => nomatch e.symm.trans d.1) fun d => .inl d.2
    exact wakeWaitMapSem_elim (P := QuietEnd p m) _ m r _ _ _ _ rfl rfl rfl rfl
      (fun n1 n2 _ => (hc.elim n1 fun x => nomatch n2.symm.trans x).elim)
      (fun _ => ((q1.modReq m _).schedOpt _).finishMeta h _)
      fun n1 n2 _ => (hc.elim n1 fun x => nomatch n2.symm.trans x).elim

/-- **not started**: a spawner cancelled before its first step never runs its body — no pull, no task -/
theorem C07_stops_before_start (p : Pool) (m : Nat) (r : Req) (h : p.reqs[m]? = some r) (hs : r.sched = true)
    (hf : r.frame = .notStarted) (hc : r.mustCancel = true) :
    (p.stepMeta m).tasks = p.tasks ∧
    ∃ r', (p.stepMeta m).reqs[m]? = some r' ∧ r'.outcome.isSome = true ∧ r'.pulled = r.pulled ∧
      r'.created = r.created ∧ r'.items = r.items := by
  obtain ⟨q, r', a, b⟩ := doomed_step_quiet p m r h hs (.inl hc) (.inl hf)
  have e := q.ctr_eq h a
  simp only [Req.ctr, Prod.mk.injEq] at e
  exact ⟨q.tasks, r', a, b, e.1, e.2.1, e.2.2.2.1⟩

/-- **waiting for pool room / slot just handed over**: once the cancellation is pending (the waiter future was
cancelled, or `must_cancel` was set because the slot had already been granted), the spawner's next step creates
no task and pulls nothing (that a slot which had been handed to it is given back is slot conservation, C02, and not
stated here) -/
theorem C07_stops_waiting_for_room (p : Pool) (m : Nat) (r : Req) (h : p.reqs[m]? = some r) (hs : r.sched = true)
    (hf : r.frame = .waitRoom)
    (hc : r.mustCancel = true ∨ (removeWaiterL m p.sem.waiters).1 = some .cancelled) :
    Quiet p (p.stepMeta m) ∧ ∃ r', (p.stepMeta m).reqs[m]? = some r' ∧ r'.outcome.isSome = true :=
  doomed_step_quiet p m r h hs (hc.imp_right fun c => .inl ⟨hf, c⟩) (.inr (.inl hf))

/-- **waiting for its own concurrency slot** (map family): likewise -/
theorem C07_stops_waiting_for_map_slot (p : Pool) (m : Nat) (r : Req) (h : p.reqs[m]? = some r) (hs : r.sched = true)
    (hf : r.frame = .waitMapSem)
    (hc : r.mustCancel = true ∨ (removeWaiterL m r.mapSem.waiters).1 = some .cancelled) :
    Quiet p (p.stepMeta m) ∧ ∃ r', (p.stepMeta m).reqs[m]? = some r' ∧ r'.outcome.isSome = true :=
  doomed_step_quiet p m r h hs (hc.imp_right fun c => .inr ⟨hf, c⟩) (.inr (.inr hf))

theorem snapReq_sets (y : Req) (h1 : y.frame ≠ .running) (h2 : y.frame ≠ .done) :
    (snapReq y).cancelSnap.isSome = true ∧ (y.cancelSnap = none → (snapReq y).cancelSnap = some (y.created, y.pulled)) := by
  unfold snapReq
  have a : (y.frame != MFrame.running) = true := by simpa using h1
  have b : (y.frame != MFrame.done) = true := by simpa using h2
  cases hs : y.cancelSnap with
  | none => simp [a, b]
  | some s => simp [hs]

/-- **the cancellation of a spawner is recorded.** `Task.cancel()` on a live spawner that is not inside its own handle
(it has not begun, or is suspended waiting for pool room or for its own concurrency slot — with the slot possibly
already handed to it) records the ghost snapshot `(created, pulled)` of that moment, unless one was recorded earlier -/
theorem C07_metaCancel_snapshot (p : Pool) (m : Nat) (r : Req) (h : p.reqs[m]? = some r) (ho : r.outcome = none)
    (hnr : r.frame ≠ .running) (hnd : r.frame ≠ .done) :
    ∃ r', (p.metaCancel m).reqs[m]? = some r' ∧ r'.cancelSnap.isSome = true ∧
      (r.cancelSnap = none → r'.cancelSnap = some (r.created, r.pulled)) := by
  have hr : ∀ r0, p.reqs[m]? = some r0 → r0 = r := fun r0 h0 => Option.some.inj (h0.symm.trans h)
  refine metaCancel_elim (P := fun q => ∃ r', q.reqs[m]? = some r' ∧ r'.cancelSnap.isSome = true ∧
    (r.cancelSnap = none → r'.cancelSnap = some (r.created, r.pulled))) p m (fun h0 => ?_) (fun r0 h0 c => ?_)
    (fun r0 h0 _ _ => ?_) (fun r0 h0 _ _ _ => ?_) (fun r0 h0 _ _ _ => ?_)
  · rw [h] at h0; cases h0
  · rw [hr r0 h0, ho] at c; cases c
  · obtain ⟨a, b⟩ := snapReq_sets r hnr hnd
    exact ⟨{ snapReq r with sched := true }, modify_get_self (modify_get_self h _) _, a, b⟩
  · obtain ⟨a, b⟩ := snapReq_sets { r with mapSem := { r.mapSem with waiters := cancelWaiterL m r.mapSem.waiters } } hnr hnd
    exact ⟨{ snapReq _ with sched := true }, modify_get_self (modify_get_self h _) _, a, b⟩
  · obtain ⟨a, b⟩ := snapReq_sets { r with mustCancel := true } hnr hnd
    exact ⟨snapReq _, modify_get_self h _, a, b⟩

/-- **a cancelled spawner stays stopped — for every history.** In every pool of every reachable world (any sizes,
resizes, cancellations from the caller, from other tasks or from workers and callbacks of the group itself, failures,
flushes, sibling groups): a spawner whose cancellation was recorded has, ever since, **created no task and pulled no
element** (its counters still equal the snapshot), and it is over or its cancellation is still pending in a form its
next step cannot miss: `must_cancel` is set, or the future it is suspended on (its entry in the pool semaphore's, resp.
its own semaphore's, waiter queue) is cancelled — in which case `C07_stops_before_start`,
`C07_stops_waiting_for_room`, `C07_stops_waiting_for_map_slot` say that this very step ends it without creating or
pulling anything -/
theorem C07_cancelled_stays_stopped (base : Nat) (h : History) (i : Nat) (c : Cfg) (p : Pool)
    (hc : ((World.init base).run h).cfgs[i]? = some c) (hp : ((World.init base).run h).pools[i]? = some p)
    (m : Nat) (r : Req) (hr : p.reqs[m]? = some r) (cr pu : Nat) (hs : r.cancelSnap = some (cr, pu)) :
    r.created = cr ∧ r.pulled = pu ∧ (r.frame = .done ∨ DoomedAt p m r) := by
  obtain ⟨a, b, d⟩ := cancAll ⟨i, hc, hp⟩ m r cr pu hr hs
  exact ⟨a, b, d.elim False.elim id⟩

/-- **the next step of a doomed spawner ends it.** A doomed spawner that is due to run (not started, or suspended in
either of the two waits) finishes at that step: the step leaves the pool's tasks as they are, and the spawner's own
`created` and `pulled` counters -/
theorem C07_doomed_next_step (p : Pool) (m : Nat) (r : Req) (h : p.reqs[m]? = some r) (hs : r.sched = true)
    (hd : DoomedAt p m r) (hf : r.frame = .notStarted ∨ r.frame = .waitRoom ∨ r.frame = .waitMapSem) :
    (p.stepMeta m).tasks = p.tasks ∧
    ∃ r', (p.stepMeta m).reqs[m]? = some r' ∧ r'.outcome.isSome = true ∧ r'.created = r.created ∧ r'.pulled = r.pulled := by
  obtain ⟨q, r', a, b⟩ := doomed_step_quiet p m r h hs hd hf
  have e := q.ctr_eq h a
  simp only [Req.ctr, Prod.mk.injEq] at e
  exact ⟨q.tasks, r', a, b, e.2.1, e.1⟩

/-- `cancel_all()` forgets every group -/
theorem C07_cancel_all_forgets (p : Pool) (h : p.doCancelAll.2 = .none) : p.doCancelAll.1.groups = [] := by
  rw [doCancelAll] at h ⊢
  dsimp only at h ⊢
  generalize hb : cancelAllLoop _ _ _ = ob at h ⊢
  cases ob with
  | none => cases h
  | some p2 =>
    exact cancelAllLoop_keeps (P := fun _ (x : Pool) => x.groups = []) _
      (fun g ids _ q q' e hq => (cancelGroupBody_groups q q' g ids _ hq).1.trans e) _ _ p2 rfl hb

/-! Non-vacuity: a size-1 pool, a map over three elements whose spawner waits for room behind an `apply` task;
`cancel_group` of the map makes its cancellation pending, the name is forgotten, the sibling keeps its task. -/
def C07_demo : History :=
  [.mkpool (some 1) none none,
   .on 0 [] (.apply 1 (some "A") Pool.gatedSpec),
   .on 0 [] (.map 0 [{ bad := false }, { bad := false }, { bad := false }] 1 (some "M") Pool.gatedSpec),
   .run 0 [], .run 0 [], .run 0 [],
   .on 0 [[]] (.cancelGroup "M")]

example : (((World.init 0).run C07_demo).pools.map fun p => (p.groupIds "M", p.groupIds "A", p.running)) =
    [(none, some [0], [0])] := by decide +kernel
example : (((World.init 0).run C07_demo).pools.map fun p => p.reqs.map fun r => (r.frame, r.pulled)) =
    [[(MFrame.done, 0), (MFrame.waitRoom, 1)]] := by decide +kernel
example : (((World.init 0).run (C07_demo ++ [.run 0 [], .run 0 []])).pools.map fun p =>
    (p.tasks.length, p.reqs.map fun r => (r.frame, r.pulled))) = [(1, [(MFrame.done, 0), (MFrame.done, 1)])] := by
  decide +kernel

end Taskpool
