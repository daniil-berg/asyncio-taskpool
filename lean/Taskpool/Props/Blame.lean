import Taskpool.Inv.BlameWalk3
import Taskpool.Props.Sealed2
/-! # C08 / C12 — what the calls that wait raise, and when they return normally

After **every** history (`World.blame_run`, `Inv/BlameWalk3.lean`; the invariant is `BlameOK`, `Inv/Blame.lean`): an
exception that leaves `flush()` or `gather_and_close()` is the outcome of one of the pool's own tasks or spawners — never
made up by the pool, never another pool's; a `CancelledError` leaves them only if a *task* of the pool ended cancelled.
Hence **if no task or callback raised the calls return normally**, and — in pools that nobody unlocks — a
`gather_and_close()` then closes the pool. -/
namespace Taskpool
open Pool

/-- **C12**: the exception a `flush()` / `gather_and_close()` call ends with is what a task or a spawner of this pool
ended with -/
theorem C12_call_raises_a_tasks_own_exception (base : Nat) (h : History) (i : Nat) (c : Cfg) (p : Pool)
    (hc : ((World.init base).run h).cfgs[i]? = some c) (hp : ((World.init base).run h).pools[i]? = some p)
    (a : Nat) (A : Api) (e : Err) (hA : p.apis[a]? = some A) (ho : A.outcome = some (.exc e)) :
    (∃ (t : Nat) (k : PTask), p.tasks[t]? = some k ∧ k.outcome = some (.exc e)) ∨
    (∃ (m : Nat) (r : Req), p.reqs[m]? = some r ∧ r.outcome = some (.exc e)) :=
  (World.blame_run ⟨i, hc, hp⟩).ae a A e hA ho

/-- nothing of the pool has raised: no asyncio Task of a pool task ended with an exception or cancelled (a worker,
callback or call site raised; a callback was cancelled midway) and no spawner ended with an exception (its argument
iterator raised, or it found the pool closed / locked).  Cancelled *spawners* are fine. -/
def Pool.NothingRaised (p : Pool) : Prop :=
  (∀ (t : Nat) (k : PTask), p.tasks[t]? = some k → k.outcome = none ∨ k.outcome = some .ok) ∧
  (∀ (m : Nat) (r : Req) (e : Err), p.reqs[m]? = some r → r.outcome ≠ some (.exc e))

/-- **C08: provided no task or callback raised, it returns normally** — whatever was requested or cancelled before: a
`flush()` / `gather_and_close()` / `until_closed()` call that has returned has returned normally -/
theorem C08_returns_normally_if_nothing_raised (base : Nat) (h : History) (i : Nat) (c : Cfg) (p : Pool)
    (hc : ((World.init base).run h).cfgs[i]? = some c) (hp : ((World.init base).run h).pools[i]? = some p)
    (hn : p.NothingRaised) (a : Nat) (A : Api) (o : Outcome) (hA : p.apis[a]? = some A) (ho : A.outcome = some o) :
    o = .ok := by
  have hb := World.blame_run ⟨i, hc, hp⟩
  cases o with
  | ok => rfl
  | exc e =>
    exfalso
    rcases hb.ae a A e hA ho with ⟨t, k, hk, hke⟩ | ⟨m, r, hr, hre⟩
    · rcases hn.1 t k hk with x | x <;> rw [x] at hke <;> cases hke
    · exact hn.2 m r e hr hre
  | cancelled =>
    exfalso
    obtain ⟨t, k, hk, hke⟩ := hb.ac a A hA ho
    rcases hn.1 t k hk with x | x <;> rw [x] at hke <;> cases hke

/-- **C08**: in a pool that nobody unlocks and in which nothing raised, once the loop is idle and user code holds nothing
back, **every `gather_and_close()` call has returned normally and the pool is closed** -/
theorem C08_closes_if_nothing_raised (base : Nat) (h : History) (hh : ∀ x ∈ h, x.sealOk = true)
    (hidle : ((World.init base).run h).ready = []) (i : Nat) (c : Cfg) (p : Pool)
    (hc : ((World.init base).run h).cfgs[i]? = some c) (hp : ((World.init base).run h).pools[i]? = some p)
    (hsz : c.size0 = .inf ∨ ∃ n, c.size0 = .fin n ∧ 0 < n) (hall : p.AllTasksDone) (hn : p.NothingRaised)
    (a : Nat) (A : Api) (hA : p.apis[a]? = some A) (hk : A.kind.isGac = true) :
    A.outcome = some .ok ∧ p.closed = true := by
  have hret : A.outcome.isSome = true := by
    rcases C08_calls_return_at_quiescence_sealed base h hh hidle i c p hc hp hsz hall a A hA with e | ⟨e, _⟩
    · exact e
    · have := (World.closed_run ⟨i, hc, hp⟩).wk a A hA e
      rw [this] at hk; cases hk
  obtain ⟨o, ho⟩ := Option.isSome_iff_exists.mp hret
  have := C08_returns_normally_if_nothing_raised base h i c p hc hp hn a A o hA ho
  subst this
  exact ⟨ho, (World.closed_run ⟨i, hc, hp⟩).gc a A hA hk ho⟩

end Taskpool
