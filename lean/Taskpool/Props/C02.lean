import Taskpool.Props.C03
/-! # C02 — No task and no capacity is ever lost -/
namespace Taskpool

theorem heldL_zero (ts : List PTask) (h : ∀ k ∈ ts, k.released = true) : heldL ts = 0 := by
  unfold heldL
  rw [List.countP_eq_zero]
  intro k hk
  simp [h k hk]

theorem grantsL_eq_zero (ws : List Waiter) : grantsL ws = 0 ↔ ∀ w ∈ ws, w.st ≠ .granted := by
  unfold grantsL
  simp [List.countP_eq_zero]

theorem capacity_restored_core {n : Nat} {p : Pool} (hs : SlotOK (.fin n) p) (hall : ∀ tk ∈ p.tasks, tk.released = true)
    (hw : grantsL p.sem.waiters = 0) : p.sem.value = .fin n := by
  obtain ⟨v, hv, hs⟩ := hs
  have := heldL_zero _ hall
  rw [hv]; congr; omega

theorem idle_accounting_core {n : Nat} {p : Pool} (hs : SlotOK (.fin n) p) (hr : RegOK p) (hl : p.lost = false) :
    ∃ v, p.sem.value = .fin v ∧ v + grantsL p.sem.waiters + p.running.length + p.cancelledR.length = n := by
  obtain ⟨v, hv, hs⟩ := hs
  have h1 := inflight_le_held p hr
  have h2 := held_le_inflight p hr hl
  exact ⟨v, hv, by omega⟩

/-- **slot conservation**: in every reachable state of a pool of size `n` (any history without an assignment to
`pool_size`, any schedule), free slots + slots held by tasks that have not yet handed theirs back + slots already
granted to a waiting spawner = `n`.  No step creates or destroys capacity; a slot is handed back by exactly the
step that marks the task `released`. -/
theorem C02_slot_conservation (base : Nat) (h : History) (hn : ∀ x ∈ h, x.admits noSetSize = true)
    (i : Nat) (c : Cfg) (p : Pool) (n : Nat)
    (hc : ((World.init base).run h).cfgs[i]? = some c) (hp : ((World.init base).run h).pools[i]? = some p)
    (hsz : c.size0 = .fin n) :
    ∃ v, p.sem.value = .fin v ∧ v + heldL p.tasks + grantsL p.sem.waiters = n :=
  (goodFin ⟨i, hc, hp⟩ hn hsz).slot

/-- a task inside its worker or inside its cancel callback (or not yet begun) still holds its slot: capacity is
handed back only on the way out, never while the task counts as running or cancelled -/
theorem C02_slot_held_until_ending (base : Nat) (h : History) (hn : ∀ x ∈ h, x.admits noSetSize = true)
    (i : Nat) (c : Cfg) (p : Pool) (n : Nat) (t : Nat) (tk : PTask)
    (hc : ((World.init base).run h).cfgs[i]? = some c) (hp : ((World.init base).run h).pools[i]? = some p)
    (hsz : c.size0 = .fin n) (ht : p.tasks[t]? = some tk)
    (hph : tk.phase = .created ∨ tk.phase = .inWorker ∨ tk.phase = .inCancelCb) : tk.released = false :=
  (goodFin ⟨i, hc, hp⟩ hn hsz).phase.held ht hph

/-- once nothing is in flight, all `n` slots are free again -/
theorem C02_capacity_restored (base : Nat) (h : History) (hn : ∀ x ∈ h, x.admits noSetSize = true)
    (i : Nat) (c : Cfg) (p : Pool) (n : Nat)
    (hc : ((World.init base).run h).cfgs[i]? = some c) (hp : ((World.init base).run h).pools[i]? = some p)
    (hsz : c.size0 = .fin n) (hall : ∀ tk ∈ p.tasks, tk.released = true)
    (hw : ∀ w ∈ p.sem.waiters, w.st ≠ .granted) : p.sem.value = .fin n :=
  capacity_restored_core (goodFin ⟨i, hc, hp⟩ hn hsz).slot hall ((grantsL_eq_zero _).mpr hw)

/-- **slots in use = tasks in flight.** In every reachable state in which no task was `lost` (no `KeyError` in a
wrapper, no `flush`/`gather_and_close` that dropped an unfinished task — the ghost bit the driver prints and the
correspondence check watches), the slots not free are exactly the tasks filed as running or cancelled, plus
slots already granted to a spawner that has not yet been scheduled:
`free + granted + num_running + num_cancelled = size`. -/
theorem C02_idle_accounting (base : Nat) (h : History) (hn : ∀ x ∈ h, x.admits noSetSize = true)
    (i : Nat) (c : Cfg) (p : Pool) (n : Nat)
    (hc : ((World.init base).run h).cfgs[i]? = some c) (hp : ((World.init base).run h).pools[i]? = some p)
    (hsz : c.size0 = .fin n) (hl : p.lost = false) :
    ∃ v, p.sem.value = .fin v ∧ v + grantsL p.sem.waiters + p.running.length + p.cancelledR.length = n :=
  have hg := goodFin ⟨i, hc, hp⟩ hn hsz
  idle_accounting_core hg.slot hg.reg hl

/-- `C02_idle_accounting` with the hypothesis discharged: in a history without `gather_and_close` and without resizes
(any number of concurrent `flush` calls included) nothing is ever lost (`C03_never_lost`), so **slots in use = tasks in
flight** in every reachable state -/
theorem C02_idle_accounting_all (base : Nat) (h : History) (hn : ∀ x ∈ h, x.admits noSetSize = true)
    (ha : ∀ x ∈ h, x.admits noGac = true) (i : Nat) (c : Cfg) (p : Pool) (n : Nat)
    (hc : ((World.init base).run h).cfgs[i]? = some c) (hp : ((World.init base).run h).pools[i]? = some p)
    (hsz : c.size0 = .fin n) :
    ∃ v, p.sem.value = .fin v ∧ v + grantsL p.sem.waiters + p.running.length + p.cancelledR.length = n :=
  C02_idle_accounting base h hn i c p n hc hp hsz (strictAll ⟨i, hc, hp⟩ ha).1

/-- every task filed as ended has handed back its slot; every task filed as running or cancelled still holds it -/
theorem C02_registry_vs_slot (base : Nat) (h : History) (hn : ∀ x ∈ h, x.admits noSetSize = true)
    (i : Nat) (c : Cfg) (p : Pool) (n : Nat)
    (hc : ((World.init base).run h).cfgs[i]? = some c) (hp : ((World.init base).run h).pools[i]? = some p)
    (hsz : c.size0 = .fin n) :
    (∀ t ∈ p.ended, ∃ tk : PTask, p.tasks[t]? = some tk ∧ tk.released = true) ∧
    (∀ t ∈ p.running, ∃ tk : PTask, p.tasks[t]? = some tk ∧ tk.released = false) ∧
    (∀ t ∈ p.cancelledR, ∃ tk : PTask, p.tasks[t]? = some tk ∧ tk.released = false) := by
  have hr := (goodFin ⟨i, hc, hp⟩ hn hsz).reg
  exact ⟨hr.fin, hr.run, fun t ht => by obtain ⟨tk, a, b, _⟩ := hr.can t ht; exact ⟨tk, a, b⟩⟩

end Taskpool
