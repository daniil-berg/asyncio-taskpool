import Taskpool.Props.C06
import Taskpool.Inv.Grows
/-! # C11 — Task ids are dense, ordered, never reused, visible in task names

In the model a task's id *is* its index in the pool's task list (the counter `_num_started` of the code is the
length of that list), so density and order are statements about how that list evolves. -/
namespace Taskpool
open Pool

/-- creating a task appends exactly one record: the new id is the number of tasks created before, every earlier
task keeps its id and its record -/
theorem C11_new_id_is_count (p : Pool) (m : Nat) (isMap : Bool) :
    (p.createTask m isMap).tasks.length = p.tasks.length + 1 ∧
    (∀ i, i < p.tasks.length → (p.createTask m isMap).tasks[i]? = p.tasks[i]?) ∧
    (p.createTask m isMap).running = p.running ++ [p.tasks.length] ∧
    (∃ nt : PTask, (p.createTask m isMap).tasks[p.tasks.length]? = some nt ∧ nt.phase = .created ∧ nt.req = m) := by
  unfold createTask
  simp only [emitRef_tasks, modReq_tasks]
  exact ⟨List.length_append, fun i hi => List.getElem?_append_left hi, rfl, _, List.getElem?_concat_length, rfl, rfl⟩

/-- the last steps of `flush` and `gather_and_close` only edit the registries: the task list (for the closing step: its
length) is what it was. That no step at all shrinks the list is `C11_ids_only_grow` (Props/Temporal.lean). -/
theorem C11_flush_keeps_ids (p : Pool) (a : Nat) (o : Outcome) :
    (p.flushAfter2 a o).tasks = p.tasks ∧ (p.gacAfter2 a o).tasks.length = p.tasks.length := by
  constructor
  · unfold flushAfter2; split <;> rfl
  · unfold gacAfter2
    split
    · simp only [finishApi, modApi_tasks]
      exact congrArg List.length
        (foldl_keeps (P := fun q : Pool => q.tasks = p.tasks) (fun q w => q.schedApi w) (fun q w e => schedApi_eq q w ▸ e) _ _ rfl)
    · rfl

/-- **pools number their tasks independently**: an operation on pool `i` or a handle of pool `i` leaves every
other pool of the loop exactly as it was -/
theorem C11_pools_independent (w : World) (i j : Nat) (orders : List (List Nat)) (op : Op) (hne : j ≠ i) :
    (w.step (.on i orders op)).1.pools[j]? = w.pools[j]? := by
  simp only [World.step]
  split
  · rfl
  · simp [Ne.symm hne]

theorem C11_handles_independent (w : World) (k : Nat) (orders : List (List Nat)) (i j : Nat) (r : Ref)
    (hk : w.ready[k]? = some (i, r)) (hne : j ≠ i) : (w.step (.run k orders)).1.pools[j]? = w.pools[j]? := by
  simp only [World.step, hk]
  split
  · rfl
  · simp [Ne.symm hne]

/-- **unnamed pools get distinct names**, one step: the class-level index handed to a new pool is the current counter —
every index in use stays below the counter, and the counter does not decrease. That two pools of one world never share
an index is `C11_indices_distinct`. -/
theorem C11_fresh_index (w : World) (size : Option Int) (simple : Option SpawnSpec) (name : Option String)
    (h : ∀ c ∈ w.cfgs, c.idx < w.counter) :
    (∀ c ∈ (w.mkpool size simple name).1.cfgs, c.idx < (w.mkpool size simple name).1.counter) ∧
    w.counter ≤ (w.mkpool size simple name).1.counter := by
  unfold World.mkpool
  split
  · exact ⟨h, Nat.le_refl _⟩
  · split
    · exact ⟨fun c hc => Nat.lt_succ_of_lt (h c hc), Nat.le_succ _⟩
    · refine ⟨fun c hc => ?_, Nat.le_succ _⟩
      simp only [List.mem_append, List.mem_singleton] at hc
      rcases hc with hc | rfl
      · exact Nat.lt_succ_of_lt (h c hc)
      · exact Nat.lt_succ_self _

/-- the invariant behind `C11_indices_distinct` — indices of existing pools are below the counter and pairwise distinct —
is kept by every input, from any world -/
theorem World.indices_distinct_run (w : World) (h : History)
    (hw : (∀ c ∈ w.cfgs, c.idx < w.counter) ∧ (w.cfgs.map (·.idx)).Nodup) :
    (∀ c ∈ (w.run h).cfgs, c.idx < (w.run h).counter) ∧ ((w.run h).cfgs.map (·.idx)).Nodup := by
  induction h generalizing w with
  | nil => exact hw
  | cons x xs ih =>
    simp only [World.run, List.foldl_cons]
    apply ih
    show (∀ c ∈ (w.step x).1.cfgs, c.idx < (w.step x).1.counter) ∧ ((w.step x).1.cfgs.map (·.idx)).Nodup
    cases x with
    | mkpool size simple name =>
      simp only [World.step]
      refine ⟨(C11_fresh_index w size simple name hw.1).1, ?_⟩
      unfold World.mkpool
      split
      · exact hw.2
      · split
        · exact hw.2
        · simp only [List.map_append, List.map_cons, List.map_nil]
          rw [List.nodup_append]
          refine ⟨hw.2, by simp, ?_⟩
          intro a ha b hb
          simp only [List.mem_singleton] at hb
          subst hb
          obtain ⟨c, hc, rfl⟩ := List.mem_map.mp ha
          exact Nat.ne_of_lt (hw.1 c hc)
    | on i orders op =>
      simp only [World.step]
      split <;> exact hw
    | run k orders =>
      simp only [World.step]
      split
      · exact hw
      · split <;> exact hw

theorem C11_indices_distinct (base : Nat) (h : History) :
    let w := (World.init base).run h
    (∀ c ∈ w.cfgs, c.idx < w.counter) ∧ (w.cfgs.map (·.idx)).Nodup :=
  World.indices_distinct_run (World.init base) h ⟨fun _ hc => (nomatch hc), List.nodup_nil⟩

/-! Non-vacuity: three constructor calls from counter 5, the second rejected (negative size) — it uses up an index all the
same, and the two pools get 5 and 7. -/
example : (((World.init 5).run [.mkpool none none none, .mkpool (some (-1)) none none, .mkpool none none none]).cfgs.map
    (·.idx)) = [5, 7] := by decide +kernel

/-- **the running registry lists its tasks in start order** — in every pool of every reachable world, whatever the
history, the ids filed as running are strictly ascending (the order in which the tasks were created) and every one of them
is below the number of tasks created; together with `C11_new_id_is_count` a new task's id is greater than every id
in the registry -/
theorem C11_running_ids_ascending (base : Nat) (h : History) (i : Nat) (c : Cfg) (p : Pool)
    (hc : ((World.init base).run h).cfgs[i]? = some c) (hp : ((World.init base).run h).pools[i]? = some p) :
    p.running.Pairwise (· < ·) ∧ ∀ t ∈ p.running, t < p.tasks.length :=
  ⟨(World.runSorted_run ⟨i, hc, hp⟩).asc, (World.runSorted_run ⟨i, hc, hp⟩).bnd⟩

end Taskpool
