import Taskpool.Inv.ControlSession
/-! C18 — a session survives any input and answers each line once (partial).

The session loop is modelled for an arbitrary pool semantics `Sem σ` and an arbitrary runtime `Rt` (the text argparse
writes; its verdict on lines outside the canonical fragment).  What is *assumed* and only sampled by the check:
for every string argparse returns a verdict — it neither raises something the session does not catch, nor prints,
nor exits.  Everything below holds for all histories: any number of sessions on one pool, lines, completions of
awaited commands and the pool's own progress interleaved in any order.

The table-level hypothesis `wellFormed` (Props/C16.lean) is not needed: these theorems hold for every table.  Where the
real session nevertheless dies — a subclass with an optional parameter starting with `_` (F2) or a parameter called
`command` (F4): `KeyError` out of `listen()` — the table is outside `wellFormed`, i.e. outside the scope in which the
model's `parseLine` stands for the real parser (both known findings, witnessed on every run). -/
namespace Taskpool.Control

/-- Ledger of one session over any history: replies written + (1 if a command is being awaited) + lines still
unread = 1 (the handshake reply) + the number of non-blank lines sent before the first blank one.  So once nothing
is pending, every such line has been answered exactly once. -/
theorem C18_one_reply_per_nonblank_line {σ} (cfg : Cfg σ) (w0 : World σ) (i : Nat) (name : Str)
    (h0 : w0.sess i = readySess name) (ins : List In) :
    ((run cfg w0 ins).sess i).replies.length + wcount ((run cfg w0 ins).sess i)
        + unread ((run cfg w0 ins).sess i).inbox ((run cfg w0 ins).sess i) = 1 + answerable (sentTo i ins)
    ∧ (((run cfg w0 ins).sess i).waiting = none →
        (((run cfg w0 ins).sess i).ended = true ∨ ((run cfg w0 ins).sess i).inbox = []) →
        ((run cfg w0 ins).sess i).replies.length = 1 + answerable (sentTo i ins)) := by
  have h := (sess_run cfg i (P := Booked 1) (fun _ _ pool l h => booked_line cfg pool h l)
    (fun _ _ pool _ t hw h => booked_done cfg pool h hw t) ins w0 [] (h0 ▸ ⟨rfl, rfl⟩)).count
  rw [List.nil_append] at h
  refine ⟨h, fun hw hq => ?_⟩
  unfold ledger at h
  rw [wcount_none hw] at h
  rcases hq with he | hi
  · rw [unread_ended he] at h
    exact h
  · rw [hi, show unread [] ((run cfg w0 ins).sess i) = 0 from Bool.cond_self _ _] at h
    exact h

/-- an idle session answers a non-blank line at once with exactly one reply, or starts waiting for its method -/
theorem C18_line_answered_once {σ} (cfg : Cfg σ) (w : World σ) (i : Nat) (toks : List Tok)
    (hidle : (w.sess i).waiting = none ∧ (w.sess i).ended = false ∧ (w.sess i).inbox = []) :
    ((step cfg w (.line i (some toks))).sess i).replies.length + wcount ((step cfg w (.line i (some toks))).sess i)
      = (w.sess i).replies.length + 1 := by
  obtain ⟨hw, he, hi⟩ := hidle
  have h := (handle_spec cfg w.pool (w.sess i) toks hw).1
  rw [step_line_sess, hi, List.nil_append, pump_line cfg toks [] w.pool (idle_of he hw)]
  unfold wcount at h ⊢
  exact h

/-- when the wait of a session is over the reply is written: exactly one, and nothing is awaited any more -/
theorem C18_waiting_replies_when_over {σ} (cfg : Cfg σ) (w : World σ) (i : Nat) (a : Action) (o : Outcome)
    (hw : (w.sess i).waiting = some a) (hi : (w.sess i).inbox = []) :
    ((step cfg w (.done i o)).sess i).replies = (w.sess i).replies ++ [(w.sess i).buf ++ replyText a o]
    ∧ ((step cfg w (.done i o)).sess i).waiting = none := by
  rw [step_done_sess cfg hw, hi]
  exact ⟨rfl, rfl⟩

/-- the response buffer is empty whenever a session is between two commands, in every reachable state -/
theorem C18_buffer_empty_between_commands {σ} (cfg : Cfg σ) (w0 : World σ) (h0 : ∀ i, (w0.sess i).buf = [])
    (ins : List In) (i : Nat) : ((run cfg w0 ins).sess i).buf = [] :=
  sess_run cfg i (P := fun _ s => s.buf = []) (fun _ s pool l h => (pump_spec cfg (s.inbox ++ [l]) pool s).2.2 h)
    (fun _ s pool _ _ _ _ => (pump_spec cfg s.inbox pool _).2.2 rfl) ins w0 [] (h0 i)

/-- with an empty buffer (`C18_buffer_empty_between_commands`) a reply consists of its own command's output and nothing
else -/
theorem C18_reply_is_own_output {σ} (cfg : Cfg σ) (pool : σ) (s : Sess) (toks : List Tok) (hb : s.buf = []) :
    ((∀ a, resolve cfg.rt cfg.table toks ≠ .act a) →
        (handle cfg pool s toks).2.replies = s.replies ++ [cfg.rt.message toks])
    ∧ (∀ a o p', resolve cfg.rt cfg.table toks = .act a → cfg.sem.invoke a pool = (p', .done o) →
        (handle cfg pool s toks).2.replies = s.replies ++ [replyText a o]) := by
  constructor
  · intro h
    rw [handle_no_act cfg pool s toks h]
    exact respond_replies hb _
  · intro a o p' hr hi
    simp only [handle, hr, hi]
    exact respond_replies hb _

/-- an unknown command, bad or missing arguments, a conversion failure or a help request never alters the pool -/
theorem C18_errors_change_nothing {σ} (cfg : Cfg σ) (w : World σ) (i : Nat) (toks : List Tok)
    (hidle : (w.sess i).waiting = none ∧ (w.sess i).ended = false ∧ (w.sess i).inbox = [])
    (hv : ∀ a, resolve cfg.rt cfg.table toks ≠ .act a) :
    (step cfg w (.line i (some toks))).pool = w.pool := by
  obtain ⟨hw, he, hi⟩ := hidle
  rw [step_line_pool, hi, List.nil_append, pump_line cfg toks [] w.pool (idle_of he hw), pump_nil]
  exact congrArg Prod.fst (handle_no_act cfg w.pool (w.sess i) toks hv)

/-- `C18_errors_change_nothing` inside the canonical fragment, where the model's own parse says that the line is no call -/
theorem C18_rejected_lines_change_nothing {σ} (cfg : Cfg σ) (w : World σ) (i : Nat) (toks : List Tok)
    (hidle : (w.sess i).waiting = none ∧ (w.sess i).ended = false ∧ (w.sess i).inbox = [])
    (hv : (∃ k, parseLine cfg.table toks = some (.error k)) ∨ (∃ h, parseLine cfg.table toks = some (.help h))) :
    (step cfg w (.line i (some toks))).pool = w.pool := by
  apply C18_errors_change_nothing cfg w i toks hidle
  intro a ha
  rcases hv with ⟨k, hk⟩ | ⟨h, hh⟩
  · simp [resolve, hk] at ha
  · simp [resolve, hh] at ha

/-- whatever one session receives or completes, every other session (buffer, inbox, replies) is untouched -/
theorem C18_sessions_independent {σ} (cfg : Cfg σ) (w : World σ) (i j : Nat) (hij : j ≠ i) (l : Line) (o : Outcome) :
    (step cfg w (.line i l)).sess j = w.sess j ∧ (step cfg w (.done i o)).sess j = w.sess j :=
  ⟨step_line_other cfg w hij l, step_done_other cfg w hij o⟩

/-! non-vacuity: a long reply followed by a short one (the stale-buffer case), and a waiting command -/

def e18Word (t : Str) : Word := { text := t, int? := none, floatOk := false, litOk := false, dotOk := false }
def e18Table : Table := commandTable [{ name := ['a'], kind := .function, params := [] }, { name := ['b'], kind := .function, params := [] }]
def e18Cfg : Cfg Nat :=
  { table := e18Table,
    rt := { message := fun _ => ['u', 's', 'a', 'g', 'e'], beyond := fun _ => .error .unrecognized },
    sem := { invoke := fun a p => match a with
               | .call ['a'] _ => (p + 1, .done (.value ['l', 'o', 'n', 'g', 'e', 'r']))
               | .call ['b'] _ => (p, .pending)
               | _ => (p, .done .none),
             complete := fun _ p => p + 10, env := fun _ p => p },
    name := ['P'] }
def e18World : World Nat := { pool := 0, sess := fun _ => readySess ['P'] }

example : ((run e18Cfg e18World [.line 0 (some [.word (e18Word ['a'])]), .line 0 (some [.word (e18Word ['x'])]),
      .line 0 (some [.word (e18Word ['b'])]), .line 0 (some [.word (e18Word ['a'])]), .line 1 (some [.short 'h']),
      .done 0 .none]).sess 0).replies
    = [['P'], ['l', 'o', 'n', 'g', 'e', 'r'], ['u', 's', 'a', 'g', 'e'], ['o', 'k'], ['l', 'o', 'n', 'g', 'e', 'r']] := by
  decide +kernel

example : (run e18Cfg e18World [.line 0 (some [.word (e18Word ['a'])]), .line 0 (some [.word (e18Word ['x'])]),
      .line 0 (some [.word (e18Word ['b'])]), .line 0 (some [.word (e18Word ['a'])]), .line 1 (some [.short 'h']),
      .done 0 .none]).pool = 12 := by
  decide +kernel

end Taskpool.Control
