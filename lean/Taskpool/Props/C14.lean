import Taskpool.Props.C06
import Taskpool.Inv.Grows
/-! # C14 — SimpleTaskPool.stop is LIFO and exact -/
namespace Taskpool
open Pool

/-- `stop(n)` returns the last `n` entries of the running registry, newest first, and is exactly `cancel` of those -/
theorem C14_stop_shape (p : Pool) (n : Int) (hs : p.simple.isSome = true) :
    (p.doStop n).2 = .ids (p.running.reverse.take n.toNat) ∧
    (p.doStop n).1 = (p.doCancel ((p.running.reverse.take n.toNat).map Int.ofNat)).1 := by
  unfold doStop
  have : p.simple.isNone = false := by cases h : p.simple <;> simp_all
  simp [this]

/-- the number of ids returned is `min(n, num_running)` (0 for `n ≤ 0`) -/
theorem C14_stop_count (p : Pool) (n : Int) (hs : p.simple.isSome = true) :
    ∃ ids, (p.doStop n).2 = .ids ids ∧ ids.length = min n.toNat p.running.length := by
  refine ⟨_, (C14_stop_shape p n hs).1, ?_⟩
  simp [List.length_take]

theorem C14_nonpositive (p : Pool) (n : Int) (hs : p.simple.isSome = true) (hn : n ≤ 0) :
    (p.doStop n).2 = .ids [] ∧ (p.doStop n).1 = p := by
  have h := C14_stop_shape p n hs
  have h0 : n.toNat = 0 := by omega
  rw [h0] at h
  simp only [List.take_zero, List.map_nil] at h
  exact ⟨h.1, by rw [h.2]; simp [doCancel, firstErr]⟩

/-- `stop(n)` with `n ≥ num_running` is `stop_all()`: it names every running task, newest first -/
theorem C14_large_n_is_stop_all (p : Pool) (n : Int) (hs : p.simple.isSome = true) (hn : p.running.length ≤ n.toNat) :
    (p.doStop n).2 = .ids p.running.reverse := by
  rw [(C14_stop_shape p n hs).1]
  congr 1
  apply List.take_of_length_le
  simpa using hn

/-- `stop_all()` names every running task, newest first -/
theorem C14_stop_all (p : Pool) (hs : p.simple.isSome = true) :
    (p.applyOp .stopAll).2 = .ids p.running.reverse :=
  C14_large_n_is_stop_all p p.running.length hs (by simp)

/-- ids taken from the running registry pass the check of `cancel` -/
theorem firstErr_of_running (p : Pool) (l : List Nat) (h : ∀ t ∈ l, p.running.contains t = true) :
    p.firstErr (l.map Int.ofNat) = none := by
  induction l with
  | nil => rfl
  | cons a as ih =>
    simp only [List.map_cons, firstErr, lookupRunning]
    have ha : p.running.contains a = true := h a (by simp)
    have hneg : ¬ ((a : Int) < 0) := by omega
    simp only [Int.ofNat_eq_natCast, hneg, if_false, Int.toNat_natCast, ha, if_true]
    exact ih (fun t ht => h t (by simp [ht]))

/-- the ids `stop(n)` names pass the check of `cancel` (`firstErr = none`); that `cancel` then returns without an error is
`C06_success_frame` -/
theorem C14_stop_never_raises (p : Pool) (n : Int) :
    p.firstErr ((p.running.reverse.take n.toNat).map Int.ofNat) = none := by
  apply firstErr_of_running
  intro t ht
  have := List.mem_of_mem_take ht
  simpa using this

/-- tasks not in the returned list are unaffected (their records are unchanged) — via C06's frame theorem -/
theorem C14_others_unaffected (p : Pool) (n : Int) (hs : p.simple.isSome = true) (i : Nat)
    (hi : i ∉ p.running.reverse.take n.toNat) : (p.doStop n).1.tasks[i]? = p.tasks[i]? := by
  rw [(C14_stop_shape p n hs).2]
  refine (C06_success_frame p _ (C14_stop_never_raises p n)).2.2.2.2.2.2.2.2 i fun id hid e => hi ?_
  obtain ⟨t, ht, rfl⟩ := List.mem_map.mp hid
  exact e ▸ ht

/-! Non-vacuity: three started tasks, `stop 2` names ids 2 and 1 in that order. -/
def C14_demo : History :=
  [.mkpool none (some Pool.gatedSpec) none, .on 0 [] (.start 3), .run 0 [], .run 0 [], .run 0 [], .run 0 []]

example : (((World.init 0).run C14_demo).pools.map fun p => (p.doStop 2).2) = [.ids [2, 1]] := by decide +kernel

/-- with an ascending registry (`RunSorted`, `Inv/Grows.lean`), what `stop(n)` names is strictly descending, and every
running task it does not name has a smaller id than each task it names -/
theorem C14_stop_newest_of_sorted (p : Pool) (n : Int) (h : p.RunSorted) :
    (p.running.reverse.take n.toNat).Pairwise (· > ·) ∧
    ∀ a ∈ p.running.reverse.take n.toNat, ∀ b ∈ p.running, b ∉ p.running.reverse.take n.toNat → b < a := by
  rw [List.take_reverse]
  have hsplit := List.take_append_drop (p.running.length - n.toNat) p.running
  have hasc := h.asc
  rw [← hsplit, List.pairwise_append] at hasc
  refine ⟨?_, ?_⟩
  · rw [List.pairwise_reverse]; exact hasc.2.1
  · intro a ha b hb hnb
    rw [List.mem_reverse] at ha
    rw [List.mem_reverse] at hnb
    rw [← hsplit, List.mem_append] at hb
    rcases hb with hb | hb
    · exact hasc.2.2 b hb a ha
    · exact absurd hb hnb

/-- **`stop(n)` takes the most recently started running tasks**, in every pool of every reachable world, whatever the
history (ids are handed out in start order, C11): the ids it returns are `min(n, num_running)` many, all running,
strictly descending (newest first), and every running task it leaves alone was started before each task it names;
its effect is `cancel` of exactly those ids, which does not raise -/
theorem C14_stop_takes_the_newest (base : Nat) (h : History) (i : Nat) (c : Cfg) (p : Pool)
    (hc : ((World.init base).run h).cfgs[i]? = some c) (hp : ((World.init base).run h).pools[i]? = some p)
    (hs : p.simple.isSome = true) (n : Int) :
    ∃ ids, (p.doStop n).2 = .ids ids ∧ ids.length = min n.toNat p.running.length ∧
      (∀ a ∈ ids, a ∈ p.running ∧ a < p.tasks.length) ∧ ids.Pairwise (· > ·) ∧
      (∀ a ∈ ids, ∀ b ∈ p.running, b ∉ ids → b < a) ∧
      (p.doStop n).1 = (p.doCancel (ids.map Int.ofNat)).1 ∧ p.firstErr (ids.map Int.ofNat) = none := by
  have hr := World.runSorted_run ⟨i, hc, hp⟩
  have hn := C14_stop_newest_of_sorted p n hr
  refine ⟨_, (C14_stop_shape p n hs).1, by simp [List.length_take], ?_, hn.1, hn.2, (C14_stop_shape p n hs).2,
    C14_stop_never_raises p n⟩
  intro a ha
  have : a ∈ p.running := by simpa using List.mem_of_mem_take ha
  exact ⟨this, hr.bnd a this⟩

/-- the running registry read backwards — the order in which `stop_all()` names the tasks (`C14_stop_all`) — is strictly
descending in id, in every reachable state -/
theorem C14_stop_all_descending (base : Nat) (h : History) (i : Nat) (c : Cfg) (p : Pool)
    (hc : ((World.init base).run h).cfgs[i]? = some c) (hp : ((World.init base).run h).pools[i]? = some p) :
    p.running.reverse.Pairwise (· > ·) := by
  rw [List.pairwise_reverse]; exact (World.runSorted_run ⟨i, hc, hp⟩).asc

/-- a task that has just been created is filed at the end of the running registry under the id `len(tasks)`, which is
therefore the first entry of the registry read backwards — what a `stop(1)` at that moment names (`C14_stop_shape`); that
this id is greater than every other id in the registry is `C11_running_ids_ascending` -/
theorem C14_new_task_is_newest (p : Pool) (m : Nat) (isMap : Bool) :
    (p.createTask m isMap).running = p.running ++ [p.tasks.length] ∧
    (p.createTask m isMap).running.reverse.take 1 = [p.tasks.length] := by
  have h : (p.createTask m isMap).running = p.running ++ [p.tasks.length] := by
    simp [createTask, emitRef, modReq]
  exact ⟨h, by rw [h]; simp⟩

/-! Non-vacuity with a gap: four started tasks, task 2 cancelled individually, `stop 2` names 3 and 1 (not 2), 0 is left. -/
def C14_demo_gap : History :=
  [.mkpool none (some Pool.gatedSpec) none, .on 0 [] (.start 4), .run 0 [], .run 0 [], .run 0 [], .run 0 [], .run 0 [],
   .on 0 [] (.cancel [2]), .run 0 []]

example : (((World.init 0).run C14_demo_gap).pools.map fun p => ((p.doStop 2).2, p.running)) = [(.ids [3, 1], [0, 1, 3])] := by
  decide +kernel


end Taskpool
