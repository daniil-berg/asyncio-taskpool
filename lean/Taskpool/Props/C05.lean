import Taskpool.Props.C04
import Taskpool.Inv.GoodInv
/-! # C05 — map family: element-wise, ordered, bounded, lazy, work-conserving

The consumer loop of `map`/`starmap`/`doublestarmap` (`_arg_consumer`): order, laziness and accounting for every
iterable length, every `num_concurrent`, every pool state.  The theorems about `mapLoop` itself (`*_partial`) are for
requests whose argument iterator makes no pool calls of its own (`hooks.pull = []`); the theorems over `World.run` hold
for every history, user code inside the iterator included. -/
namespace Taskpool
open Pool

/-- how the consumer loop can come to rest -/
inductive MapEnd (r' : Req) (hand : Nat) : Prop
  | done (h1 : r'.items = []) (h2 : r'.frame = .done) (h3 : hand = 0)
  | waitingOwnSlot (h : r'.frame = .waitMapSem) (h2 : r'.outcome = none) (h3 : hand = 1)
  | waitingRoom (h : r'.frame = .waitRoom) (h2 : r'.outcome = none) (h3 : hand = 1)
  | failed (e : Err) (h : r'.outcome = some (.exc e)) (h3 : hand = 1)

/-- what the loop leaves in `q` when it was entered with the elements `items` to go, `pu` pulled and `cs` created or
skipped; `k` counts the elements it pulled, `hand` the one it still holds -/
def MapPost (m pu cs : Nat) (items : List Item) (q : Pool) : Prop :=
  ∃ r' hand k, q.reqs[m]? = some r' ∧ r'.items = items.drop k ∧ r'.pulled = pu + k ∧ k ≤ items.length ∧
    r'.created + r'.skipped + hand = cs + k ∧ MapEnd r' hand ∧ r'.hooks.pull = []

theorem MapPost.next {m pu cs cs' : Nat} {it : Item} {rest : List Item} {q : Pool} (h : MapPost m (pu + 1) cs' rest q)
    (e : cs' = cs + 1) : MapPost m pu cs (it :: rest) q := by
  subst e
  obtain ⟨r', hand, k, a, b, c, d, e, f, g⟩ := h
  exact ⟨r', hand, k + 1, a, b, by rw [c, Nat.add_assoc, Nat.add_comm 1], Nat.succ_le_succ d,
    by rw [e, Nat.add_assoc, Nat.add_comm 1], f, g⟩

theorem mapPost_hand {m : Nat} {it : Item} {rest : List Item} {q : Pool} {r' : Req} (h : q.reqs[m]? = some r')
    (he : MapEnd r' 1) (hh : r'.hooks.pull = []) (hi : r'.items = rest) {pu : Nat} (hp : r'.pulled = pu + 1) :
    MapPost m pu (r'.created + r'.skipped) (it :: rest) q :=
  ⟨r', 1, 1, h, hi, hp, Nat.succ_le_succ (Nat.zero_le _), rfl, he, hh⟩

theorem mapLoop_post (m : Nat) (items : List Item) (p : Pool) (r : Req) (h : p.reqs[m]? = some r)
    (ho : r.outcome = none) (hh : r.hooks.pull = []) :
    MapPost m r.pulled (r.created + r.skipped) items (mapLoop m items p) := by
  induction items generalizing p r with
  | nil =>
    rw [mapLoop]
    exact ⟨_, 0, 0, (finishMeta_req _ m .ok { r with items := [] } (modify_get_self h _)).1, rfl, rfl,
      Nat.le_refl _, rfl, .done rfl rfl rfl, hh⟩
  | cons it rest ih =>
    have hp := (pullItem_req p m rest r h hh).1
    have h3 : ((p.pullItem m rest).takeMapSlot m).reqs[m]? = some { r with
        items := rest, pulled := r.pulled + 1, acquired := true, frame := .running,
        mapSem := { r.mapSem with value := r.mapSem.value.dec } } :=
      modify_get_self hp _
    refine mapLoop_cons_elim m it rest p _ rfl (fun _ => ?_) (fun _ _ => ?_) (fun _ _ _ => ?_) (fun _ _ _ c => ?_)
      (fun _ _ _ c => ?_)
    · -- the argument iterator raises instead of yielding: the consumer ends with that exception
      exact mapPost_hand (finishMeta_req _ m _ _ hp).1 (.failed (.user 4) rfl rfl) hh rfl rfl
    · -- the element's call raises: skipped, next element
      exact (ih _ { r with
        items := rest, pulled := r.pulled + 1, skipped := r.skipped + 1, acquired := false, frame := .running }
        (modify_get_self hp _) ho hh).next rfl
    · -- own concurrency limit reached: wait with this element in hand
      obtain ⟨s, w, a⟩ := waitMapSem_req _ m _ hp
      exact mapPost_hand a (.waitingOwnSlot rfl ho rfl) hh rfl rfl
    · -- a concurrency slot is free: take it, then `_start_task` creates the task, next element
      rw [mapStartTask_true _ m c]
      exact (ih _ _ (takeSlotAndCreate_req _ m true _ h3).1 ho hh).next (Nat.add_right_comm _ _ _)
    · rcases mapStartTask_false _ m c with e | e
      · -- pool closed meanwhile
        rw [e]
        exact mapPost_hand (finishMeta_req _ m _ _ h3).1 (.failed .poolIsClosed rfl rfl) hh rfl rfl
      · -- pool full: wait for room with the element (and the slot) in hand
        rw [e]
        obtain ⟨⟨s, a⟩, _⟩ := waitRoom_req _ m _ h3
        exact mapPost_hand a (.waitingRoom rfl ho rfl) hh rfl rfl

/-- **element-wise, in order, lazy.** Running the loop over the remaining elements `items`: the elements are pulled
from the front, one at a time; every pulled element was turned into a task, skipped (its call raised), or is the
single element in hand while the loop waits (for its own concurrency slot or for pool room) — never more than one
beyond (an iterator that raises instead of yielding counts as the element in hand: the consumer ends with that
exception); and nothing is pulled twice or skipped over: `pulled` grows by exactly what disappeared from `items`. -/
theorem C05_loop_accounting_partial (m : Nat) (items : List Item) (p : Pool) (r : Req) (h : p.reqs[m]? = some r)
    (ho : r.outcome = none) (hh : r.hooks.pull = []) :
    ∃ (r' : Req) (hand : Nat), (mapLoop m items p).reqs[m]? = some r' ∧
      r'.pulled + r'.items.length = r.pulled + items.length ∧
      (∃ k, r'.items = items.drop k ∧ r'.pulled = r.pulled + k ∧ k ≤ items.length) ∧
      r'.created + r'.skipped + hand = r.created + r.skipped + (r'.pulled - r.pulled) ∧
      MapEnd r' hand ∧ r'.hooks.pull = [] := by
  obtain ⟨r', hand, k, a, b, c, d, e, f, g⟩ := mapLoop_post m items p r h ho hh
  refine ⟨r', hand, a, ?_, ⟨k, b, c, d⟩, ?_, f, g⟩
  · rw [b, c, List.length_drop]; omega
  · rw [c, Nat.add_sub_cancel_left]; exact e

/-- **all consumed.** If the loop ends normally, nothing is left of the iterable: as many elements were pulled as it
has, and as many were turned into a task or skipped -/
theorem C05_done_means_all_partial (m : Nat) (items : List Item) (p : Pool) (r : Req) (h : p.reqs[m]? = some r)
    (ho : r.outcome = none) (hh : r.hooks.pull = []) (hc : r.created = 0) (hs : r.skipped = 0) (hp : r.pulled = 0)
    (r' : Req) (hr' : (mapLoop m items p).reqs[m]? = some r') (hd : r'.frame = .done) (hok : r'.outcome = some .ok) :
    r'.pulled = items.length ∧ r'.created + r'.skipped = items.length ∧ r'.items = [] := by
  obtain ⟨r2, hand, k, a, b, c, d, e, f, _⟩ := mapLoop_post m items p r h ho hh
  rw [a] at hr'; cases hr'
  cases f with
  | done h1 _ h3 =>
    -- nothing is left, so all of `items` was dropped
    have hk : k = items.length := Nat.le_antisymm d (List.drop_eq_nil_iff.mp (b ▸ h1))
    rw [hp, Nat.zero_add, hk] at c
    rw [h3, hc, hs, hk] at e
    exact ⟨c, e.trans (Nat.zero_add _), h1⟩
  | waitingOwnSlot hw => rw [hd] at hw; cases hw
  | waitingRoom hw => rw [hd] at hw; cases hw
  | failed e he => rw [hok] at he; cases he

/-- the tasks of call `m` that have not handed back their pool slot — in particular every one whose worker has begun
and not finished, and every one still inside its cancel callback -/
def Pool.mapActive (p : Pool) (m : Nat) : Nat := p.tasks.countP (fun tk => tk.isMap && tk.req == m && !tk.released)

/-- the tasks of call `m` whose worker coroutine has begun and not finished -/
def Pool.mapLive (p : Pool) (m : Nat) : Nat := p.tasks.countP (fun tk => tk.isMap && tk.req == m && tk.phase == .inWorker)

/-- **the books of the call's own semaphore balance, for every history**: in every pool of every reachable world
(any sizes, resizes, cancellations of tasks / groups / everything, failures, flushes, user code in workers, callbacks
and argument iterators), for every request: `free slots + tasks holding a slot + a slot granted to the waiting
spawner + the slot the spawner carries while it waits for pool room ≤ num_concurrent` — and **`= num_concurrent` as
long as the call's spawner has not ended** (a spawner that dies of `PoolIsClosed` with a slot in hand takes the slot
with it) -/
theorem C05_slot_books (base : Nat) (h : History) (i : Nat) (c : Cfg) (p : Pool)
    (hc : ((World.init base).run h).cfgs[i]? = some c) (hp : ((World.init base).run h).pools[i]? = some p)
    (m : Nat) (r : Req) (hr : p.reqs[m]? = some r) :
    ∃ v, r.mapSem.value = .fin v ∧ v + heldM p.tasks m + grantsL r.mapSem.waiters + r.pend ≤ r.nc ∧
      (r.outcome = none → v + heldM p.tasks m + grantsL r.mapSem.waiters + r.pend = r.nc) := by
  obtain ⟨v, hv, h1, h2⟩ := (mapAll ⟨i, hc, hp⟩).le m r hr
  exact ⟨v, hv, h1, fun ho => Nat.le_antisymm h1 (h2 ho)⟩

/-- **no lost wake-up on the call's own semaphore, for every history**: if it has a free slot and none is on its way
to the woken consumer, the consumer is not waiting for one -/
theorem C05_no_lost_wakeup (base : Nat) (h : History) (i : Nat) (c : Cfg) (p : Pool)
    (hc : ((World.init base).run h).cfgs[i]? = some c) (hp : ((World.init base).run h).pools[i]? = some p)
    (m : Nat) (r : Req) (hr : p.reqs[m]? = some r) (v : Nat) (hv : r.mapSem.value = .fin v) (hpos : 0 < v)
    (hng : grantsL r.mapSem.waiters = 0) : ∀ w ∈ r.mapSem.waiters, w.st ≠ .pending :=
  (mapAll ⟨i, hc, hp⟩).wk m r hr v hv hpos hng

/-- **work-conserving, for every history.** In every pool of every reachable world: if the consumer of a map-family
call is alive and suspended on its own semaphore (then an element is in hand and more may remain, `C05_lazy_all`; it
is not the pool's size that holds it up), and its waiter entry is still pending with no wake-up on its way (what "the
loop is idle" means for this semaphore), then **all `num_concurrent` slots of the call are held by tasks of the call
that have not yet handed theirs back** -/
theorem C05_work_conserving (base : Nat) (h : History) (i : Nat) (c : Cfg) (p : Pool)
    (hc : ((World.init base).run h).cfgs[i]? = some c) (hp : ((World.init base).run h).pools[i]? = some p)
    (m : Nat) (r : Req) (hr : p.reqs[m]? = some r) (hlive : r.outcome = none) (hw : r.frame = .waitMapSem)
    (hpend : ∃ w ∈ r.mapSem.waiters, w.st = .pending) (hng : grantsL r.mapSem.waiters = 0) :
    heldM p.tasks m = r.nc := by
  obtain ⟨v, hv, _, h2⟩ := C05_slot_books base h i c p hc hp m r hr
  have hp0 : r.pend = 0 := by rw [Req.pend, hw]; exact if_neg (by simp)
  have hv0 : v = 0 := by
    rcases Nat.eq_zero_or_pos v with e | e
    · exact e
    · obtain ⟨w, hw1, hw2⟩ := hpend
      exact absurd hw2 (C05_no_lost_wakeup base h i c p hc hp m r hr v hv e hng w hw1)
  have := h2 hlive
  rw [hv0, hng, hp0, Nat.zero_add] at this
  exact this

/-- **element-wise, in order, lazy — for every history.** In every pool of every reachable world, for every
map-family request: what has been pulled plus what is left is the whole iterable; every pulled element is a task of
the call, was skipped (its call raised), or is the **single** element in hand — the consumer never runs more than one
element ahead; and whether an element is in hand is determined by where the consumer is suspended (waiting for its own
concurrency slot or for pool room: one; not yet started: none) -/
theorem C05_lazy_all (base : Nat) (h : History) (i : Nat) (c : Cfg) (p : Pool)
    (hc : ((World.init base).run h).cfgs[i]? = some c) (hp : ((World.init base).run h).pools[i]? = some p)
    (m : Nat) (r : Req) (hr : p.reqs[m]? = some r) (hk : r.kind = .map) :
    r.pulled + r.items.length = r.n0 ∧
    tasksOf p.tasks m + r.skipped ≤ r.pulled ∧ r.pulled ≤ tasksOf p.tasks m + r.skipped + 1 ∧
    ((r.frame = .waitRoom ∨ r.frame = .waitMapSem) → r.pulled = tasksOf p.tasks m + r.skipped + 1) ∧
    (r.frame = .notStarted → r.pulled = tasksOf p.tasks m + r.skipped) := by
  have ha := accAll ⟨i, hc, hp⟩
  rw [ha.tk m r hr]
  exact (ha.rq m r hr).2 hk

/-- the length of the iterable is what the call was given -/
theorem C05_n0_is_length (stars : Nat) (g : String) (sp : SpawnSpec) (items : List Item) (nc : Nat) :
    (newReq .map stars g sp 0 items nc).n0 = items.length := by simp [newReq]

/-- **never more than `num_concurrent` at once.** In every pool of every reachable world, for every map-family
request, the number of its tasks that are running (created and not yet ended — a fortiori the number of its worker
coroutines that have begun and not finished) never exceeds its `num_concurrent` -/
theorem C05_concurrency_bound (base : Nat) (h : History) (i : Nat) (c : Cfg) (p : Pool)
    (hc : ((World.init base).run h).cfgs[i]? = some c) (hp : ((World.init base).run h).pools[i]? = some p)
    (m : Nat) (r : Req) (hr : p.reqs[m]? = some r) : p.mapLive m ≤ p.mapActive m ∧ p.mapActive m ≤ r.nc := by
  have hl := lifeAll ⟨i, hc, hp⟩
  obtain ⟨hph, _⟩ := baseAll ⟨i, hc, hp⟩
  obtain ⟨v, _, hs⟩ := C05_slot_books base h i c p hc hp m r hr
  refine ⟨?_, ?_⟩
  · unfold Pool.mapLive Pool.mapActive
    apply List.countP_mono_left
    intro tk hmem hx
    obtain ⟨j, hj, rfl⟩ := List.getElem_of_mem hmem
    simp only [Bool.and_eq_true, beq_iff_eq] at hx
    have := hph j p.tasks[j] (by simp [hj]) (by simp [NYR, hx.2])
    simp [hx.1.1, hx.1.2, this]
  · have : p.mapActive m ≤ heldM p.tasks m := by
      unfold Pool.mapActive heldM
      apply List.countP_mono_left
      intro tk hmem hx
      obtain ⟨j, hj, rfl⟩ := List.getElem_of_mem hmem
      simp only [Bool.and_eq_true, beq_iff_eq, Bool.not_eq_true'] at hx
      have hmh : p.tasks[j].mapHeld = true := (hl j p.tasks[j] (by simp [hj])).mh hx.1.1 hx.2
      simp [hmh, hx.1.2]
    omega

/-- `C05_work_conserving` when none of the tasks that hold a slot of the call is inside a callback or over (each is
still in its worker): exactly `num_concurrent` workers of the call are live -/
theorem C05_work_conserving_live (base : Nat) (h : History) (i : Nat) (c : Cfg) (p : Pool)
    (hc : ((World.init base).run h).cfgs[i]? = some c) (hp : ((World.init base).run h).pools[i]? = some p)
    (m : Nat) (r : Req) (hr : p.reqs[m]? = some r) (hlive : r.outcome = none) (hw : r.frame = .waitMapSem)
    (hpend : ∃ w ∈ r.mapSem.waiters, w.st = .pending) (hng : grantsL r.mapSem.waiters = 0)
    (hq : ∀ tk ∈ p.tasks, tk.mapHeld = true → tk.req = m → tk.isMap = true ∧ tk.phase = .inWorker) :
    p.mapLive m = r.nc := by
  have h1 := C05_work_conserving base h i c p hc hp m r hr hlive hw hpend hng
  have h2 := C05_concurrency_bound base h i c p hc hp m r hr
  have h3 : heldM p.tasks m ≤ p.mapLive m := by
    unfold Pool.mapLive heldM
    apply List.countP_mono_left
    intro tk hmem hx
    simp only [Bool.and_eq_true, beq_iff_eq] at hx
    obtain ⟨a, b⟩ := hq tk hmem hx.1 hx.2
    simp [a, b, hx.2]
  omega

/-- `num_concurrent` of a request is what the call was given (`doMap` registers exactly this record), and the call's
semaphore starts with that many free slots -/
theorem C05_nc_is_given (stars : Nat) (g : String) (sp : SpawnSpec) (items : List Item) (nc : Nat) :
    (newReq .map stars g sp 0 items nc).nc = nc ∧
    (newReq .map stars g sp 0 items nc).mapSem = { value := .fin nc, waiters := [] } := ⟨rfl, rfl⟩

/-! Non-vacuity of the bound: `map` over 4 gated elements with `num_concurrent = 2` on an unbounded pool, after the
spawner and both tasks have taken their first steps: exactly two workers of the call are live. -/
def C05_demo : History :=
  [.mkpool none none none, .on 0 [] (.map 0 [{ bad := false }, { bad := false }, { bad := false }, { bad := false }] 2 none gatedSpec),
   .run 0 [], .run 0 [], .run 0 []]

example : (((World.init 0).run C05_demo).pools.map fun p => (p.mapLive 0, p.mapActive 0, p.reqs.map (·.nc))) = [(2, 2, [2])] := by
  decide +kernel
/-- the consumer is suspended on its own semaphore with the third element in hand, the fourth untouched -/
example : (((World.init 0).run C05_demo).pools.map fun p =>
    (tasksOf p.tasks 0, p.reqs.map fun r => (r.pulled, r.items.length, r.n0))) = [(2, [(3, 1, 4)])] := by
  decide +kernel
example : (((World.init 0).run C05_demo).pools.map fun p => p.reqs.map fun r => (r.skipped, r.frame)) =
    [[(0, MFrame.waitMapSem)]] := by
  decide +kernel

/-- that state meets the premises of `C05_work_conserving`: the consumer is alive, its waiter entry
pending, no wake-up on its way — and indeed both slots are held by tasks of the call -/
example : (((World.init 0).run C05_demo).pools.map fun p => p.reqs.map fun r =>
    (r.outcome.isNone, r.mapSem.waiters.map (·.st), grantsL r.mapSem.waiters, heldM p.tasks 0, r.nc)) =
    [[(true, [WaitSt.pending], 0, 2, 2)]] := by
  decide +kernel

/-! Non-vacuity: `map` over 4 elements with `num_concurrent = 2` on an unbounded pool: two tasks, the third
element is in hand, the fourth has not been touched. -/
example : ((mapLoop 0 [{ bad := false }, { bad := false }, { bad := false }, { bad := false }]
      ((Pool.init .inf none).doMap 0 [{ bad := false }, { bad := false }, { bad := false }, { bad := false }] 2 none gatedSpec).1).reqs.map fun r =>
    (r.created, r.pulled, r.items.length, r.frame)) = [(2, 3, 1, MFrame.waitMapSem)] := by decide +kernel

end Taskpool