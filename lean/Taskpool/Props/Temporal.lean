import Taskpool.Inv.Mono
import Taskpool.Props.C07
import Taskpool.Props.C08
import Taskpool.Props.C11
/-! # What never goes back — whole-history statements about two points in time

`World.later_run` (`Inv/Mono.lean`): whatever inputs follow, every pool only moves forward (`Mono`).  Combined with the
state invariants this turns "at every reachable state …" into "from then on, for ever …". -/
namespace Taskpool

theorem World.later_of_append (base : Nat) (h h' : History) (i : Nat) (p : Pool)
    (hp : ((World.init base).run h).pools[i]? = some p) :
    ∃ p', ((World.init base).run (h ++ h')).pools[i]? = some p' ∧ Mono p p' := by
  rw [World.run_append]
  exact World.later_run _ h' i p hp

/-- a cancellation once on record stays on record -/
theorem Mono.snapped {p q : Pool} (hm : Mono p q) {m : Nat} (h : ∃ x, p.reqs[m]? = some x ∧ x.cancelSnap.isSome = true) :
    ∃ x', q.reqs[m]? = some x' ∧ x'.cancelSnap.isSome = true := by
  obtain ⟨x, a, b⟩ := h
  obtain ⟨x', a', _, _, c, _⟩ := hm.rq m x a
  cases hs : x.cancelSnap with
  | none => rw [hs] at b; cases b
  | some s => exact ⟨x', a', by rw [c s hs]; rfl⟩

theorem foldl_metaCancel_snapshot (ms : List Nat) (p : Pool) (m : Nat) (hm : m ∈ ms) (r : Req) (hr : p.reqs[m]? = some r)
    (ho : r.outcome = none) (hnr : r.frame ≠ .running) (hnd : r.frame ≠ .done) :
    ∃ r', (ms.foldl (fun p m => p.metaCancel m) p).reqs[m]? = some r' ∧ r'.cancelSnap.isSome = true := by
  induction ms generalizing p with
  | nil => cases hm
  | cons a as ih =>
    simp only [List.foldl_cons]
    by_cases e : a = m
    · subst e
      obtain ⟨r', a1, a2, _⟩ := C07_metaCancel_snapshot p a r hr ho hnr hnd
      exact (Pool.tame_foldl as _ (fun p m => Pool.tame_metaCancel p m) _).mono.snapped ⟨r', a1, a2⟩
    · have hm' : m ∈ as := by
        rcases List.mem_cons.mp hm with h | h
        · exact absurd h.symm e
        · exact h
      exact ih (p.metaCancel a) hm' (by rw [Pool.metaCancel_ne p e]; exact hr)

theorem cancelGroupBody_records (q q' : Pool) (g : String) (ids order : List Nat)
    (h : q.cancelGroupBody g ids order = some q')
    (m : Nat) (r : Req) (hr : q.reqs[m]? = some r) (hin : r.inRunning = true) (hg : r.group = g)
    (ho : r.outcome = none) (hnr : r.frame ≠ .running) (hnd : r.frame ≠ .done) :
    ∃ r', q'.reqs[m]? = some r' ∧ r'.cancelSnap.isSome = true := by
  obtain ⟨ts, rfl⟩ := Pool.cancelGroupBody_some h
  have hmem : m ∈ Pool.indicesWhere q.reqs fun r => r.inRunning && r.group == g :=
    mem_indicesWhere_iff.mpr ⟨r, hr, by simp [hin, hg]⟩
  obtain ⟨r1, a1, a2⟩ := foldl_metaCancel_snapshot _ q m hmem r hr ho hnr hnd
  -- the flags `inRunning` / `inCancelled` are rewritten, the snapshot stays
  have hcm : ∃ r2, (q.cancelGroupMetas g).reqs[m]? = some r2 ∧ r2.cancelSnap.isSome = true := by
    unfold Pool.cancelGroupMetas
    simp only [List.getElem?_map, a1, Option.map_some]
    refine ⟨_, rfl, ?_⟩
    split <;> exact a2
  exact (Pool.tame_foldl ts _ (fun p t => Pool.tame_cancelTask p t) _).mono.snapped hcm

/-- **`cancel_group(g)` records the cancellation** of every spawner of `g` that is filed as running, has no outcome
and is not inside its own handle (i.e. the call does not come from that spawner's own argument iterator) -/
theorem C07_cancel_group_records (p : Pool) (g : String) (h : (p.doCancelGroup g).2 = .none)
    (m : Nat) (r : Req) (hr : p.reqs[m]? = some r) (hin : r.inRunning = true) (hg : r.group = g)
    (ho : r.outcome = none) (hnr : r.frame ≠ .running) (hnd : r.frame ≠ .done) :
    ∃ r', (p.doCancelGroup g).1.reqs[m]? = some r' ∧ r'.cancelSnap.isSome = true := by
  unfold Pool.doCancelGroup at h ⊢
  split
  · rename_i hn; simp [hn] at h
  · rename_i ids hids
    simp only [hids] at h
    simp only
    split
    · rename_i hb; simp [hb] at h
    · rename_i p2 hp2
      refine cancelGroupBody_records _ p2 g ids _ hp2 m r ?_ hin hg ho hnr hnd
      show p.popOrder.1.reqs[m]? = some r
      rw [Pool.popOrder_fst]; exact hr

theorem cancelGroupBody_other (q q' : Pool) (g : String) (ids order : List Nat)
    (h : q.cancelGroupBody g ids order = some q') (m : Nat) (r : Req) (hr : q.reqs[m]? = some r) (hg : r.group ≠ g) :
    q'.reqs[m]? = some r := by
  obtain ⟨ts, rfl⟩ := Pool.cancelGroupBody_some h
  have hnm : m ∉ Pool.indicesWhere q.reqs fun r => r.inRunning && r.group == g := fun hm => by
    obtain ⟨x, hx, hfx⟩ := mem_indicesWhere_iff.mp hm
    rw [hr] at hx
    cases hx
    simp only [Bool.and_eq_true, beq_iff_eq] at hfx
    exact hg hfx.2
  -- `_cancel_task` writes no request; `Task.cancel()` on the spawners of `g` none but theirs
  refine foldl_keeps (P := fun x : Pool => x.reqs[m]? = some r) _ (fun x t e => (onlyTask_cancelTask x t).reqs ▸ e) ts _ ?_
  unfold Pool.cancelGroupMetas
  have := foldl_keeps_mem (P := fun x : Pool => x.reqs[m]? = some r) (fun p m => p.metaCancel m)
    (Pool.indicesWhere q.reqs fun r => r.inRunning && r.group == g)
    (fun x a ha e => (Pool.metaCancel_ne x fun e' : a = m => hnm (e' ▸ ha)).trans e) q hr
  simp only [List.getElem?_map, this, Option.map_some]
  have hne : (r.group == g) = false := by simpa using hg
  simp [hne]

/-- `cancel_all()` does the same for every group the pool knows: every live spawner of a known group that is not inside
its own handle gets its cancellation recorded -/
theorem C07_cancel_all_records (p : Pool) (h : p.doCancelAll.2 = .none)
    (m : Nat) (r : Req) (hr : p.reqs[m]? = some r) (hin : r.inRunning = true)
    (hknown : ∃ ids, (r.group, ids) ∈ p.groups)
    (ho : r.outcome = none) (hnr : r.frame ≠ .running) (hnd : r.frame ≠ .done) :
    ∃ r', p.doCancelAll.1.reqs[m]? = some r' ∧ r'.cancelSnap.isSome = true := by
  -- until the group of `r` has had its turn the record is as it was; from then on a snapshot is on file, for good
  have key := Pool.cancelAllLoop_keeps (P := fun gs q => ((∃ ids, (r.group, ids) ∈ gs) ∧ q.reqs[m]? = some r) ∨
      ∃ x, q.reqs[m]? = some x ∧ x.cancelSnap.isSome = true) p.popOrder.2 fun g ids gs q q' hP hq1 => by
    rcases hP with ⟨⟨ids', hmem⟩, hqm⟩ | ⟨x, a, b⟩
    · by_cases e : r.group = g
      · exact .inr (cancelGroupBody_records q q' g ids _ hq1 m r hqm hin e ho hnr hnd)
      · refine .inl ⟨?_, cancelGroupBody_other q q' g ids _ hq1 m r hqm e⟩
        rcases List.mem_cons.mp hmem with h0 | h0
        · exact absurd (congrArg Prod.fst h0) e
        · exact ⟨ids', h0⟩
    · exact .inr ((Pool.tame_cancelGroupBody q q' g ids _ hq1).mono.snapped ⟨x, a, b⟩)
  unfold Pool.doCancelAll at h ⊢
  simp only at h ⊢
  split
  · rename_i hb; simp [hb] at h
  · rename_i p2 hp2
    have hreq : ({ p.popOrder.1 with groups := [] } : Pool).reqs[m]? = some r := by
      show p.popOrder.1.reqs[m]? = some r
      rw [Pool.popOrder_fst]; exact hr
    have hgs : p.popOrder.1.groups = p.groups := by rw [Pool.popOrder_fst]
    obtain ⟨ids, hmem⟩ := hknown
    exact (key _ _ p2 (.inl ⟨⟨ids, by rw [hgs]; exact List.mem_reverse.mpr hmem⟩, hreq⟩) hp2).elim
      (fun ⟨⟨_, hm⟩, _⟩ => nomatch hm) id

/-- **C07 — never again.** Take any history `h` after which the cancellation of spawner `m` of pool `i` is on record
(`C07_metaCancel_snapshot`: that is what `cancel_group` / `cancel_all` do to every live spawner of the group that is
not inside its own handle).  Then after **any** continuation `h'` — more requests, more cancellations, resizes,
flushes, user code, any scheduling — that call has created no further task and has not advanced its argument
iterable: its counters, and the number of tasks that belong to it, are what they were. -/
theorem C07_never_again (base : Nat) (h h' : History) (i : Nat) (p : Pool)
    (hp : ((World.init base).run h).pools[i]? = some p)
    (m : Nat) (r : Req) (hr : p.reqs[m]? = some r) (hs : r.cancelSnap.isSome = true) :
    ∃ p' r', ((World.init base).run (h ++ h')).pools[i]? = some p' ∧ p'.reqs[m]? = some r' ∧
      r'.created = r.created ∧ r'.pulled = r.pulled ∧ tasksOf p'.tasks m = tasksOf p.tasks m := by
  obtain ⟨p', hp', hm⟩ := World.later_of_append base h h' i p hp
  obtain ⟨r', hr', _, _, hsk, _⟩ := hm.rq m r hr
  obtain ⟨c, hc⟩ := World.cfg_of_pool base h i p hp
  obtain ⟨c', hc'⟩ := World.cfg_of_pool base (h ++ h') i p' hp'
  cases hsn : r.cancelSnap with
  | none => rw [hsn] at hs; cases hs
  | some s =>
    obtain ⟨a1, a2, _⟩ := cancAll hc m r s.1 s.2 hr hsn
    obtain ⟨b1, b2, _⟩ := cancAll hc' m r' s.1 s.2 hr' (hsk s hsn)
    refine ⟨p', r', hp', hr', b1.trans a1.symm, b2.trans a2.symm, ?_⟩
    rw [(accAll hc').tk m r' hr', (accAll hc).tk m r hr]
    exact b1.trans a1.symm

/-- **C08 / C09 — closed for good.** Once a pool is closed it is closed after every continuation (and any closed pool
rejects every spawning request with `PoolIsClosed`: `C09_closed_rejects_apply` and its siblings) -/
theorem C08_closed_forever (base : Nat) (h h' : History) (i : Nat) (p : Pool)
    (hp : ((World.init base).run h).pools[i]? = some p) (hc : p.closed = true) :
    ∃ p', ((World.init base).run (h ++ h')).pools[i]? = some p' ∧ p'.closed = true := by
  obtain ⟨p', hp', hm⟩ := World.later_of_append base h h' i p hp
  exact ⟨p', hp', hm.cl hc⟩

/-- **C03 — finished is final.** A task that has finished stays finished after every continuation (so none of its
callbacks can run again, `C03_exactly_once_all`) -/
theorem C03_finished_forever (base : Nat) (h h' : History) (i : Nat) (p : Pool)
    (hp : ((World.init base).run h).pools[i]? = some p) (t : Nat) (tk : PTask) (ht : p.tasks[t]? = some tk)
    (hf : tk.phase = .finished) :
    ∃ p' tk', ((World.init base).run (h ++ h')).pools[i]? = some p' ∧ p'.tasks[t]? = some tk' ∧ tk'.phase = .finished := by
  obtain ⟨p', hp', hm⟩ := World.later_of_append base h h' i p hp
  obtain ⟨tk', a, b⟩ := hm.fin t tk ht hf
  exact ⟨p', tk', hp', a, b⟩

/-- **C11 — ids only grow.** The ids of a pool's tasks are the indices `0 … n-1` of the tasks it has created; after
every continuation there are at least as many, so an id issued once is never issued again -/
theorem C11_ids_only_grow (base : Nat) (h h' : History) (i : Nat) (p : Pool)
    (hp : ((World.init base).run h).pools[i]? = some p) :
    ∃ p', ((World.init base).run (h ++ h')).pools[i]? = some p' ∧ p.tasks.length ≤ p'.tasks.length ∧
      p.reqs.length ≤ p'.reqs.length := by
  obtain ⟨p', hp', hm⟩ := World.later_of_append base h h' i p hp
  exact ⟨p', hp', hm.tl, hm.rl⟩

end Taskpool
