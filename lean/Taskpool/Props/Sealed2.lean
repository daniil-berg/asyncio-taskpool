import Taskpool.Props.Sealed
import Taskpool.Inv.SealInv2
import Taskpool.Inv.ClosedWalk
import Taskpool.Inv.Grows
/-! # Pools that nobody unlocks: progress, requests and the end callbacks — with `gather_and_close()` in the history

* nobody is left waiting and **every call that waits returns** at quiescence (`C02_no_spawner_left_waiting_sealed`,
  `C08_calls_return_at_quiescence_sealed`); a pool is closed exactly when a `gather_and_close()` has returned normally
  (`C08_closed_iff_gac_returned`, every history);
* `gather_and_close()` returns only after **every task of the pool has finished**, callbacks included
  (`C08_every_task_finished_when_closing`), and after every request that was never cancelled has started all its
  invocations / consumed its whole iterable (`C08_requests_complete_when_closing`);
* the quiescence theorems about requests (`C04_all_invocations_at_quiescence_sealed`,
  `C05_every_element_at_quiescence_sealed`);
* neither `flush()` nor `gather_and_close()` forgets a task that is **inside its end callback**
  (`C13_task_in_end_callback_stays_filed`, `C13_flush_forgets_only_finished`). -/
namespace Taskpool
open Pool

/-- **no spawner is left behind**, `gather_and_close()` included: whenever the loop is idle and every asyncio Task of the
pool is done, every spawner has finished -/
theorem C02_no_spawner_left_waiting_sealed (base : Nat) (h : History) (hh : ∀ x ∈ h, x.sealOk = true)
    (hidle : ((World.init base).run h).ready = []) (i : Nat) (c : Cfg) (p : Pool)
    (hc : ((World.init base).run h).cfgs[i]? = some c) (hp : ((World.init base).run h).pools[i]? = some p)
    (hsz : c.size0 = .inf ∨ ∃ n, c.size0 = .fin n ∧ 0 < n) (hall : p.AllTasksDone)
    (m : Nat) (r : Req) (hr : p.reqs[m]? = some r) : r.outcome.isSome = true :=
  (atRest_sealed ⟨i, hc, hp⟩ hh hidle).no_spawner_left hsz hall m r hr

/-- **every call that waits returns**, `gather_and_close()` included: whenever the loop is idle and every asyncio Task of
the pool is done, every `flush()` and every `gather_and_close()` call has returned, and a call still suspended in
`until_closed()` means that the pool is not closed -/
theorem C08_calls_return_at_quiescence_sealed (base : Nat) (h : History) (hh : ∀ x ∈ h, x.sealOk = true)
    (hidle : ((World.init base).run h).ready = []) (i : Nat) (c : Cfg) (p : Pool)
    (hc : ((World.init base).run h).cfgs[i]? = some c) (hp : ((World.init base).run h).pools[i]? = some p)
    (hsz : c.size0 = .inf ∨ ∃ n, c.size0 = .fin n ∧ 0 < n) (hall : p.AllTasksDone)
    (a : Nat) (A : Api) (hA : p.apis[a]? = some A) :
    A.outcome.isSome = true ∨ (A.frame = .waitClosed ∧ p.closed = false) :=
  C08_calls_return_at_quiescence base h hidle i c p hc hp hall
    (fun m r hr => C02_no_spawner_left_waiting_sealed base h hh hidle i c p hc hp hsz hall m r hr) a A hA

/-- **closed exactly when a `gather_and_close()` has returned normally** — after every history: nothing else closes a
pool, so `until_closed()` waiters are never released earlier; and an `until_closed()` call that has returned has seen
the pool closed -/
theorem C08_closed_iff_gac_returned (base : Nat) (h : History) (i : Nat) (c : Cfg) (p : Pool)
    (hc : ((World.init base).run h).cfgs[i]? = some c) (hp : ((World.init base).run h).pools[i]? = some p) :
    (p.closed = true ↔ ∃ (a : Nat) (A : Api), p.apis[a]? = some A ∧ A.kind.isGac = true ∧ A.outcome = some .ok) ∧
    (∀ (a : Nat) (A : Api), p.apis[a]? = some A → A.kind = .untilClosed → A.outcome.isSome = true → p.closed = true) := by
  have hcl := World.closed_run ⟨i, hc, hp⟩
  exact ⟨⟨hcl.cg, fun ⟨a, A, hA, hk, ho⟩ => hcl.gc a A hA hk ho⟩, hcl.uc⟩

/-- **a closed pool holds no tasks — for good**: in every state after the pool was closed (not only at quiescence) the
three registries are empty and no spawner is filed as running; with `C08_closed_forever` and `C09_closed_rejects_*` this is
"afterwards the pool is closed: it holds no tasks … and every later spawn request raises `PoolIsClosed`" -/
theorem C08_closed_pool_holds_no_tasks (base : Nat) (h : History) (hh : ∀ x ∈ h, x.sealOk = true) (i : Nat) (c : Cfg)
    (p : Pool) (hc : ((World.init base).run h).cfgs[i]? = some c) (hp : ((World.init base).run h).pools[i]? = some p)
    (hcl : p.closed = true) :
    p.running = [] ∧ p.cancelledR = [] ∧ p.ended = [] ∧ ∀ (m : Nat) (r : Req), p.reqs[m]? = some r → r.inRunning = false := by
  obtain ⟨_, _, _, hm⟩ := sealed2All ⟨i, hc, hp⟩ hh
  obtain ⟨a, b, d⟩ := hm.em hcl
  exact ⟨a, b, d, hm.nr hcl⟩

/-- at quiescence, once a `gather_and_close()` has returned normally: the pool is closed, nothing is filed as running or
cancelled, every task has finished, and every `until_closed()` call has returned -/
theorem C08_closed_at_quiescence_sealed (base : Nat) (h : History) (hh : ∀ x ∈ h, x.sealOk = true)
    (hidle : ((World.init base).run h).ready = []) (i : Nat) (c : Cfg) (p : Pool)
    (hc : ((World.init base).run h).cfgs[i]? = some c) (hp : ((World.init base).run h).pools[i]? = some p)
    (hsz : c.size0 = .inf ∨ ∃ n, c.size0 = .fin n ∧ 0 < n) (hall : p.AllTasksDone)
    (a : Nat) (A : Api) (hA : p.apis[a]? = some A) (hk : A.kind.isGac = true) (ho : A.outcome = some .ok) :
    p.closed = true ∧ p.running = [] ∧ p.cancelledR = [] ∧
    (∀ k ∈ p.tasks, k.phase = .finished ∧ k.released = true) ∧
    (∀ (b : Nat) (B : Api), p.apis[b]? = some B → B.outcome.isSome = true) := by
  have hcl := (World.closed_run ⟨i, hc, hp⟩).gc a A hA hk ho
  have hq := (atRest_sealed ⟨i, hc, hp⟩ hh hidle).tasks hall
  obtain ⟨hr, hcn, _, _⟩ := C08_closed_pool_holds_no_tasks base h hh i c p hc hp hcl
  refine ⟨hcl, hr, hcn, fun k hk => ⟨(hq k hk).1, (hq k hk).2.1⟩, fun b B hB => ?_⟩
  rcases C08_calls_return_at_quiescence_sealed base h hh hidle i c p hc hp hsz hall b B hB with e | ⟨_, e⟩
  · exact e
  · rw [hcl] at e; cases e

/-- **every task of the pool has finished, callbacks included**, when the second gather of a `gather_and_close()` has
completed normally: a task that still holds its slot is filed as running or cancelled, hence awaited (`SealOK.g2`); one
that has handed it back and has not finished is inside its end callback, hence filed as ended (`EndOK.ef`), hence awaited
(`EndOK.ge`); and a gather completes normally only when all its child tasks have finished -/
theorem C08_every_task_finished_when_closing (base : Nat) (h : History) (hh : ∀ x ∈ h, x.sealOk = true) (i : Nat) (c : Cfg)
    (p : Pool) (hc : ((World.init base).run h).cfgs[i]? = some c) (hp : ((World.init base).run h).pools[i]? = some p)
    (a : Nat) (A : Api) (g : Nat) (G : Gather) (hA : p.apis[a]? = some A) (hk : A.kind.isGac = true)
    (hf : A.frame = .gather2 g) (hG : p.gathers[g]? = some G) (ho : G.outer = some .ok) :
    ∀ (t : Nat) (tk : PTask), p.tasks[t]? = some tk → tk.phase = .finished := by
  obtain ⟨⟨hg, hw, hs⟩, _, he, _⟩ := sealed2All ⟨i, hc, hp⟩ hh
  obtain ⟨hfin, hrel⟩ := C08_all_finished_when_closing base h hh i c p hc hp a A g G hA hk hf hG ho
  intro t tk ht
  have hny : ¬ (tk.phase = .created ∨ tk.phase = .inWorker ∨ tk.phase = .inCancelCb) := fun hx => by
    have := hrel t tk ht
    rw [hg.phase.held ht hx] at this
    cases this
  cases hph : tk.phase with
  | finished => rfl
  | created => exact absurd (Or.inl hph) hny
  | inWorker => exact absurd (Or.inr (Or.inl hph)) hny
  | inCancelCb => exact absurd (Or.inr (Or.inr hph)) hny
  | wrapUp => exact absurd hph (hw.tw t tk ht (fun e => e)).1
  | inEndCb =>
    exfalso
    have hmem := he.ef t tk ht (fun e => e) hph
    obtain ⟨tk', a1, b1⟩ := hg.fl.awaited hG ho (he.ge a A g hA hf hk) t hmem
    rw [ht] at a1; cases a1
    rw [hph] at b1; cases b1

/-- **every request that was never cancelled is complete** when the pool closes: from the second gather of a `gather_and_close()` on,
a request whose spawner nobody cancelled has finished normally with nothing left — all `num` invocations started or
skipped, the whole iterable consumed — or its argument iterator raised -/
theorem C08_requests_complete_when_closing (base : Nat) (h : History) (hh : ∀ x ∈ h, x.sealOk = true) (i : Nat) (c : Cfg)
    (p : Pool) (hc : ((World.init base).run h).cfgs[i]? = some c) (hp : ((World.init base).run h).pools[i]? = some p)
    (a : Nat) (A : Api) (g : Nat) (hA : p.apis[a]? = some A) (hk : A.kind.isGac = true) (hf : A.frame = .gather2 g)
    (m : Nat) (r : Req) (hr : p.reqs[m]? = some r) (hnc : r.everCancelled = false) :
    (r.outcome = some .ok ∧ r.remaining = 0 ∧ r.items = [] ∧ (r.kind = .map → r.pulled = r.created + r.skipped)) ∨
      (r.kind = .map ∧ r.outcome = some (.exc (.user 4))) := by
  obtain ⟨_, hfs, _, _⟩ := sealed2All ⟨i, hc, hp⟩ hh
  obtain ⟨_, hdoom, _, _⟩ := C08_second_gather_awaits_everything base h hh i c p hc hp a A g hA hk hf
  cases ho : r.outcome with
  | none =>
    exfalso
    have hev : r.everCancelled = true := by
      rcases hdoom m r hr ho with e | ⟨_, e⟩ | ⟨_, e⟩
      · exact hfs.cg m r hr e
      · obtain ⟨w, hwm, hwo, hst⟩ := removeWaiterL_fst_some m p.sem.waiters .cancelled e
        exact hfs.cw w hwm hst r (by rw [hwo]; exact hr)
      · obtain ⟨w, hwm, _, hst⟩ := removeWaiterL_fst_some m r.mapSem.waiters .cancelled e
        exact hfs.cm m r hr w hwm hst
    rw [hnc] at hev; cases hev
  | some o =>
    rcases hfs.ok m r hr hnc o ho with ⟨e, a1, b1, d1⟩ | ⟨a1, e⟩
    · exact Or.inl ⟨by rw [e], a1, b1, d1⟩
    · exact Or.inr ⟨a1, by rw [e]⟩

/-- **C04: no invocation is lost**, also when `lock()` or `gather_and_close()` follow the request (the property's own
clause): at quiescence an `apply` / `start` request that was never cancelled has finished normally and has started (or
skipped, where the call raised) every one of its `num` invocations -/
theorem C04_all_invocations_at_quiescence_sealed (base : Nat) (h : History) (hh : ∀ x ∈ h, x.sealOk = true)
    (hidle : ((World.init base).run h).ready = []) (i : Nat) (c : Cfg) (p : Pool)
    (hc : ((World.init base).run h).cfgs[i]? = some c) (hp : ((World.init base).run h).pools[i]? = some p)
    (hsz : c.size0 = .inf ∨ ∃ n, c.size0 = .fin n ∧ 0 < n) (hall : p.AllTasksDone)
    (m : Nat) (r : Req) (hr : p.reqs[m]? = some r) (hnc : r.everCancelled = false) (hk : r.kind = .apply) :
    r.outcome = some .ok ∧ tasksOf p.tasks m + r.skipped = r.n0 :=
  (atRest_sealed ⟨i, hc, hp⟩ hh hidle).all_invocations hsz hall m r hr hnc hk

/-- **C05: element-wise with nothing skipped, to the end**, `gather_and_close()` included -/
theorem C05_every_element_at_quiescence_sealed (base : Nat) (h : History) (hh : ∀ x ∈ h, x.sealOk = true)
    (hidle : ((World.init base).run h).ready = []) (i : Nat) (c : Cfg) (p : Pool)
    (hc : ((World.init base).run h).cfgs[i]? = some c) (hp : ((World.init base).run h).pools[i]? = some p)
    (hsz : c.size0 = .inf ∨ ∃ n, c.size0 = .fin n ∧ 0 < n) (hall : p.AllTasksDone)
    (m : Nat) (r : Req) (hr : p.reqs[m]? = some r) (hnc : r.everCancelled = false) (hk : r.kind = .map) :
    (r.outcome = some .ok ∧ r.items = [] ∧ r.pulled = r.n0 ∧ tasksOf p.tasks m + r.skipped = r.n0) ∨
    r.outcome = some (.exc (.user 4)) :=
  (atRest_sealed ⟨i, hc, hp⟩ hh hidle).every_element hsz hall m r hr hnc hk

/-- after **every** history: a map-style request was given `num_concurrent ≥ 1` (`map` rejects anything else, and
nothing ever rewrites it) — so a consumer suspended on its own semaphore is never waiting for a slot that cannot exist -/
theorem C05_num_concurrent_positive (base : Nat) (h : History) (i : Nat) (c : Cfg) (p : Pool)
    (hc : ((World.init base).run h).cfgs[i]? = some c) (hp : ((World.init base).run h).pools[i]? = some p)
    (m : Nat) (r : Req) (hr : p.reqs[m]? = some r) (hk : r.kind = .map) : 1 ≤ r.nc :=
  World.nc_run ⟨i, hc, hp⟩ m r hr hk

/-- **a task inside its end callback stays filed as ended** — neither a `flush()` (however many overlap) nor a
`gather_and_close()` forgets it: `cancel(id)` keeps answering `AlreadyEnded`, `num_ended` keeps counting it -/
theorem C13_task_in_end_callback_stays_filed (base : Nat) (h : History) (hh : ∀ x ∈ h, x.sealOk = true) (i : Nat) (c : Cfg)
    (p : Pool) (hc : ((World.init base).run h).cfgs[i]? = some c) (hp : ((World.init base).run h).pools[i]? = some p)
    (t : Nat) (tk : PTask) (ht : p.tasks[t]? = some tk) (hph : tk.phase = .inEndCb) : t ∈ p.ended :=
  (sealed2All ⟨i, hc, hp⟩ hh).2.2.1.ef t tk ht (fun e => e) hph

/-- **`flush()` forgets finished tasks only**: when its second gather has completed normally, every id of its two
snapshots — the ids its last step removes from the registries — belongs to a task that has finished -/
theorem C13_flush_forgets_only_finished (base : Nat) (h : History) (hh : ∀ x ∈ h, x.sealOk = true) (i : Nat) (c : Cfg)
    (p : Pool) (hc : ((World.init base).run h).cfgs[i]? = some c) (hp : ((World.init base).run h).pools[i]? = some p)
    (a : Nat) (A : Api) (g : Nat) (G : Gather) (hA : p.apis[a]? = some A) (hk : A.kind.isGac = false)
    (hf : A.frame = .gather2 g) (hG : p.gathers[g]? = some G) (ho : G.outer = some .ok) :
    ∀ t, t ∈ A.snapE ∨ t ∈ A.snapC → TaskFin p t := by
  obtain ⟨⟨hg, _, _⟩, _, he, _⟩ := sealed2All ⟨i, hc, hp⟩ hh
  exact fun t ht => ht.elim (hg.fl.awaited hG ho (he.fe a A g hA hf hk) t) (hg.fl.awaited hG ho (hg.fl.api a A g hA hf hk) t)

end Taskpool
