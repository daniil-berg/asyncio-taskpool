import Taskpool.Inv.GoodInv
import Taskpool.Inv.UserCode
/-! # C06 — cancel(ids) is exact and all-or-nothing -/
namespace Taskpool
open Pool

/-- if some id is not running, `cancel` returns the error of the FIRST such id (argument order) and the whole
pool state is unchanged: nothing at all is cancelled -/
theorem C06_all_or_nothing (p : Pool) (ids : List Int) (e : Err) (h : p.firstErr ids = some e) :
    p.doCancel ids = (p, .err e) := by
  unfold doCancel; rw [h]

/-- `firstErr` is the classification of the first id that is not running -/
theorem C06_first_error (p : Pool) (id : Int) (rest : List Int) :
    p.firstErr (id :: rest) = (match p.lookupRunning id with | some e => some e | none => p.firstErr rest) := rfl

/-- the classification: cancelled → AlreadyCancelled, ended → AlreadyEnded, anything else that is not running
(flushed, never issued, negative) → InvalidTaskID -/
theorem C06_classification (p : Pool) (id : Int) :
    p.lookupRunning id =
      if id < 0 then some .taskNotFound
      else if p.running.contains id.toNat then none
      else if p.cancelledR.contains id.toNat then some .alreadyCancelled
      else if p.ended.contains id.toNat then some .alreadyEnded
      else some .taskNotFound := rfl

/-- `q` differs from `p` at most in the records of the tasks in `S` and in the wake-ups queued (`emit`) -/
structure OnlyTasks (S : Nat → Prop) (p q : Pool) : Prop where
  running : q.running = p.running
  cancelledR : q.cancelledR = p.cancelledR
  ended : q.ended = p.ended
  sem : q.sem = p.sem
  reqs : q.reqs = p.reqs
  groups : q.groups = p.groups
  locked : q.locked = p.locked
  closed : q.closed = p.closed
  lost : q.lost = p.lost
  log : q.log = p.log
  tasks : ∀ i, ¬ S i → q.tasks[i]? = p.tasks[i]?

abbrev OnlyTask (t : Nat) : Pool → Pool → Prop := OnlyTasks (· = t)

theorem OnlyTasks.refl (S : Nat → Prop) (p : Pool) : OnlyTasks S p p :=
  ⟨rfl, rfl, rfl, rfl, rfl, rfl, rfl, rfl, rfl, rfl, fun _ _ => rfl⟩

/-- the asyncio plumbing of a task in `S` (`Inv/UserCode.lean`): `Task.cancel()`, `_cancel_task`, a suspension, a wake-up -/
theorem onlyTasks_own {S : Nat → Prop} (p₀ : Pool) {t : Nat} (hs : S t) : OwnKept (OnlyTasks S p₀) t where
  modTask := fun _ _ _ h => { h with tasks := fun i hi =>
    (List.getElem?_modify_ne _ _ fun e : t = i => hi (e ▸ hs)).trans (h.tasks i hi) }
  emitRef := fun _ h => { h with }

theorem onlyTask_cancelTask (p : Pool) (t : Nat) : OnlyTask t p (p.cancelTask t) :=
  (onlyTasks_own (S := (· = t)) p rfl).cancelTask (.refl _ p)

theorem onlyTasks_doCancel {S : Nat → Prop} {p₀ p : Pool} (h : OnlyTasks S p₀ p) (ids : List Int)
    (hS : ∀ id ∈ ids, S id.toNat) : OnlyTasks S p₀ (p.doCancel ids).1 := by
  unfold doCancel
  split
  · exact h
  · exact foldl_keeps_mem _ ids (fun q id hid hq => (onlyTasks_own p₀ (hS id hid)).cancelTask hq) p h

/-- **exact delivery, frame part**: on success the registries, the semaphore, every spawner, every group and the
event log are untouched, and so is the record of every task that was not named -/
theorem C06_success_frame (p : Pool) (ids : List Int) (h : p.firstErr ids = none) :
    (p.doCancel ids).2 = .none ∧ (p.doCancel ids).1.running = p.running ∧
    (p.doCancel ids).1.cancelledR = p.cancelledR ∧ (p.doCancel ids).1.ended = p.ended ∧
    (p.doCancel ids).1.sem = p.sem ∧ (p.doCancel ids).1.reqs = p.reqs ∧ (p.doCancel ids).1.groups = p.groups ∧
    (p.doCancel ids).1.log = p.log ∧
    (∀ i : Nat, (∀ id ∈ ids, id.toNat ≠ i) → (p.doCancel ids).1.tasks[i]? = p.tasks[i]?) :=
  have f := onlyTasks_doCancel (S := fun i => ∃ id ∈ ids, id.toNat = i) (.refl _ p) ids fun id hid => ⟨id, hid, rfl⟩
  ⟨by unfold doCancel; rw [h], f.running, f.cancelledR, f.ended, f.sem, f.reqs, f.groups, f.log,
    fun i hi => f.tasks i fun ⟨id, hid, e⟩ => hi id hid e⟩

/-- **exact delivery, effect part**: cancelling a running task that is suspended on a pending future delivers
exactly one `CancelledError` there (the future is cancelled, one wake-up is queued); a task that has not begun is
marked and never starts its coroutine; otherwise the cancellation is pending for its next suspension point -/
theorem C06_delivery (p : Pool) (t : Nat) (tk : PTask) (h : p.tasks[t]? = some tk) (hd : tk.outcome = none) :
    ∃ tk', (p.cancelTask t).tasks[t]? = some tk' ∧
      (if tk.unstarted then tk'.cancelledEarly = true
       else if p.wakesOnCancel t then tk'.fut = .cancelled ∧ tk'.sched = true
       else tk'.mustCancel = true) := by
  unfold cancelTask
  rw [h]
  dsimp only
  cases hu : tk.unstarted with
  | true =>
    simp only [if_true]
    exact ⟨_, modify_get_self h _, rfl⟩
  | false =>
    unfold taskCancel
    rw [h]
    simp only [hd, Option.isSome_none, Bool.false_eq_true, if_false]
    cases hw : p.wakesOnCancel t with
    | true =>
      simp only [if_true]
      exact ⟨_, modify_get_self (modify_get_self h _) _, rfl, rfl⟩
    | false =>
      simp only [Bool.false_eq_true, if_false]
      exact ⟨_, modify_get_self h _, rfl⟩

/-- **one CancelledError ends a worker, however often it is named.** In every pool after every history: at most one
`CancelledError` has been delivered into a worker *and let through or answered by returning* (`nSaw` is the ghost
counter incremented by the very step that delivers such an error and writes the log entry `X`), and none while the
task is still in its worker — however often its id was named in `cancel`, `stop`, `cancel_group` or `cancel_all`
calls, from wherever.  (A worker of the `resume` kind catches its first `CancelledError` and goes on awaiting: log
entry `Y`, not counted here — see `C06_survivor_still_running`.) -/
theorem C06_single_error (base : Nat) (h : History) (i : Nat) (c : Cfg) (p : Pool)
    (hc : ((World.init base).run h).cfgs[i]? = some c) (hp : ((World.init base).run h).pools[i]? = some p)
    (t : Nat) (tk : PTask) (ht : p.tasks[t]? = some tk) :
    tk.nSaw ≤ 1 ∧ ((tk.phase = .created ∨ tk.phase = .inWorker) → tk.nSaw = 0) :=
  ⟨(lifeAll ⟨i, hc, hp⟩ t tk ht).s1, (lifeAll ⟨i, hc, hp⟩ t tk ht).s0⟩

/-- **a worker that catches its `CancelledError` and goes on is a running task like any other**: the step that
delivers the error into such a worker (`resume` kind, first error) moves nothing between the registries, leaves the
task in its worker, awaiting a pending future, with no cancellation pending — so the next `cancel(id)` / `stop` /
`cancel_group` finds it running, accepts its id (`C06_all_or_nothing`) and delivers again (`C06_delivery`) -/
theorem C06_survivor_still_running (p : Pool) (t : Nat) (tk k : PTask) (hk : p.tasks[t]? = some k)
    (hr : (p.reqOf tk).wspec.resume = true) (hs : tk.sawCancel = false) (hm : k.mustCancel = false) :
    (p.workerCancelled t tk).running = p.running ∧ (p.workerCancelled t tk).cancelledR = p.cancelledR ∧
    (p.workerCancelled t tk).ended = p.ended ∧
    ∃ k', (p.workerCancelled t tk).tasks[t]? = some k' ∧ k'.phase = .inWorker ∧ k'.fut = .pending ∧
      k'.mustCancel = false ∧ k'.outcome = k.outcome ∧ k'.sawCancel = true := by
  have hw : p.workerCancelled t tk =
      ((p.logEv (.resumed t)).modTask t fun k => { k with sawCancel := true }).suspendTask t .inWorker := by
    unfold workerCancelled
    rw [if_pos (by rw [hr, hs]; rfl)]
  rw [hw]
  have o := onlyTasks_own (S := (· = t)) (p.logEv (.resumed t)) rfl
  have h := o.suspendTask (o.mod (.refl _ _) fun x => { x with sawCancel := true }) .inWorker
  have hq : ((p.logEv (.resumed t)).modTask t fun k => { k with sawCancel := true }).tasks[t]? =
      some { k with sawCancel := true } := modify_get_self hk _
  obtain ⟨k', b1, b2, b3, b4, _, _, b7, b8⟩ := suspendTask_at _ t .inWorker _ hq
  rw [if_neg (by rw [hm]; exact Bool.false_ne_true)] at b8
  exact ⟨h.running, h.cancelledR, h.ended, k', b1, b2, b8.1, b3, b4, b7⟩

/-- the step to a later await, taken apart: the log entry `N t` and one await less (the step of a worker that makes no
pool call there, up to its suspension), then the pool calls of the user code between the two awaits, *then* the
suspension on a fresh future — so a `Task.cancel()` the worker's own calls aim at the worker itself finds it running
(not suspended), sets `must_cancel`, and is delivered by `suspendTask` at the await that follows -/
theorem C06_workerNext_eq (p : Pool) (t : Nat) (tk : PTask) :
    p.workerNext t tk =
      (((p.logEv (.next t)).modTask t fun k => { k with awaitsLeft := k.awaitsLeft - 1 }).runHooks tk.req
        (p.reqOf tk).hooks.next).suspendTask t .inWorker := rfl

/-- without pool calls between the two awaits the step is the one `C06_later_await_is_running` describes -/
theorem C06_workerNext_no_calls (p : Pool) (t : Nat) (tk : PTask) (hn : (p.reqOf tk).hooks.next = []) :
    p.workerNext t tk =
      ((p.logEv (.next t)).modTask t fun k => { k with awaitsLeft := k.awaitsLeft - 1 }).suspendTask t .inWorker := by
  unfold workerNext
  simp only [hn, runHooks, List.foldl_nil]

/-- the same for the handle's step itself: under the conditions that select the branch, `stepInWorker` *is* that step -/
theorem C06_later_await_step (p : Pool) (t : Nat) (tk : PTask)
    (hc : (tk.fut == .cancelled || tk.mustCancel) = false) (hf : tk.fut = .ok) (ha : tk.awaitsLeft > 0) :
    p.stepInWorker t tk = p.workerNext t tk := by
  unfold stepInWorker
  rw [if_neg (by rw [hc]; exact Bool.false_ne_true)]
  simp only [hf, ha, if_true]

/-- **a worker that has gone on to a later suspension point is, for the pool, the running task it was**: the step that
resumes a worker whose awaited future completed normally and that has further `await`s ahead (`awaitsLeft > 0`; log
entry `N`) moves nothing between the registries, leaves the semaphore, every spawner, every group, the lock, the
`closed` flag and every other task untouched, writes exactly the log entry `N t`, and leaves the task in its worker —
awaiting a fresh *pending* future with no cancellation pending (or, had a `must_cancel` been pending on the record, with
that future cancelled at once and a wake-up queued: the cancellation is delivered at the new suspension point). Its
asyncio Task is as undone as before. So the next `cancel(id)` / `stop` / `cancel_group` finds it running, accepts its
id (`C06_all_or_nothing`) and delivers the `CancelledError` at this later suspension point (`C06_delivery`:
`wakesOnCancel` holds for it, see `C06_later_await_cancellable`). `tk` is the record the step read, `k` the record as
filed while the step runs (as in `C06_survivor_still_running`). Stated for a worker that makes no pool call of its own
between the two awaits (`hooks.next = []`); what the step does when it makes some is `C06_later_await_with_calls`. -/
theorem C06_later_await_is_running (p : Pool) (t : Nat) (tk k : PTask) (hk : p.tasks[t]? = some k)
    (hc : (tk.fut == .cancelled || tk.mustCancel) = false) (hf : tk.fut = .ok) (ha : tk.awaitsLeft > 0)
    (hn : (p.reqOf tk).hooks.next = []) :
    (p.stepInWorker t tk).running = p.running ∧ (p.stepInWorker t tk).cancelledR = p.cancelledR ∧
    (p.stepInWorker t tk).ended = p.ended ∧ (p.stepInWorker t tk).counters = p.counters ∧
    (p.stepInWorker t tk).sem = p.sem ∧ (p.stepInWorker t tk).reqs = p.reqs ∧ (p.stepInWorker t tk).groups = p.groups ∧
    (p.stepInWorker t tk).locked = p.locked ∧ (p.stepInWorker t tk).closed = p.closed ∧
    (p.stepInWorker t tk).lost = p.lost ∧ (p.stepInWorker t tk).log = p.log ++ [.next t] ∧
    (∀ i, i ≠ t → (p.stepInWorker t tk).tasks[i]? = p.tasks[i]?) ∧
    ∃ k', (p.stepInWorker t tk).tasks[t]? = some k' ∧ k'.phase = .inWorker ∧ k'.mustCancel = false ∧
      k'.outcome = k.outcome ∧ k'.released = k.released ∧ k'.awaitsLeft = k.awaitsLeft - 1 ∧
      (if k.mustCancel then k'.fut = .cancelled ∧ k'.sched = true ∧ (p.stepInWorker t tk).emit = p.emit ++ [.task t]
       else k'.fut = .pending ∧ k'.sched = k.sched ∧ (p.stepInWorker t tk).emit = p.emit) := by
  rw [C06_later_await_step p t tk hc hf ha, C06_workerNext_no_calls p t tk hn]
  have o := onlyTasks_own (S := (· = t)) (p.logEv (.next t)) rfl
  have h := o.suspendTask (o.mod (.refl _ _) fun x => { x with awaitsLeft := x.awaitsLeft - 1 }) .inWorker
  refine ⟨h.running, h.cancelledR, h.ended, ?_, h.sem, h.reqs, h.groups, h.locked, h.closed, h.lost, h.log, h.tasks,
    ?_⟩
  · unfold counters
    rw [h.running, h.cancelledR, h.ended]
    rfl
  · have hq : ((p.logEv (.next t)).modTask t fun k => { k with awaitsLeft := k.awaitsLeft - 1 }).tasks[t]? =
        some { k with awaitsLeft := k.awaitsLeft - 1 } := modify_get_self hk _
    obtain ⟨k', b1, b2, b3, b4, b5, b6, _, b8⟩ := suspendTask_at _ t .inWorker _ hq
    exact ⟨k', b1, b2, b3, b4, b5, b6, b8⟩

/-- the same at the level of the handle: running the wake-up handle of a task whose worker awaited a future that
completed normally, with further `await`s ahead and no cancellation pending, leaves the registries alone and the task
suspended on a pending future — so `Task.cancel()` on it cancels that future and queues a wake-up (`wakesOnCancel`, the
premise of the second branch of `C06_delivery`). For a worker without pool calls of its own between the two awaits, as
`C06_later_await_is_running` -/
theorem C06_later_await_cancellable (p : Pool) (t : Nat) (tk : PTask) (hk : p.tasks[t]? = some tk)
    (hs : tk.sched = true) (hph : tk.phase = .inWorker) (hf : tk.fut = .ok) (hm : tk.mustCancel = false)
    (ha : tk.awaitsLeft > 0) (ho : tk.outcome = none) (hn : (p.reqOf tk).hooks.next = []) :
    (p.stepTask t).running = p.running ∧ (p.stepTask t).cancelledR = p.cancelledR ∧ (p.stepTask t).ended = p.ended ∧
    (p.stepTask t).sem = p.sem ∧ (p.stepTask t).wakesOnCancel t = true ∧ (p.stepTask t).log = p.log ++ [.next t] := by
  unfold stepTask
  simp only [hk, hs, Bool.not_true, Bool.false_eq_true, if_false, hph]
  have h0 : (p.modTask t fun k => { k with sched := false }).tasks[t]? = some { tk with sched := false } :=
    modify_get_self hk _
  obtain ⟨a1, a2, a3, _, a5, _, _, _, _, _, a11, _, k', b1, b2, _, b4, _, _, b7⟩ :=
    C06_later_await_is_running (p.modTask t fun k => { k with sched := false }) t tk _ h0 (by simp [hf, hm]) hf ha hn
  simp only [hm, Bool.false_eq_true, if_false] at b7
  refine ⟨a1, a2, a3, a5, ?_, a11⟩
  unfold wakesOnCancel
  rw [b1]
  have : k'.outcome = none := by rw [b4]; exact ho
  simp [this, b2, b7.1]

theorem tame_suspendTask_same (p : Pool) (t : Nat) (ph : Phase) (h : ∀ k, p.tasks[t]? = some k → k.phase = ph) :
    Tame p (p.suspendTask t ph) := by
  unfold suspendTask
  split
  · exact Tame.refl p
  · rename_i k hk
    -- writing the phase the record has is no write
    have e : ∀ f : PTask → PTask, (p.modTask t fun x => f { x with phase := ph }) = p.modTask t f := fun f => by
      unfold modTask
      rw [modify_congr_at p.tasks t _ f]
      intro a ha
      rw [← h a ha]
    split
    · exact (e fun x => { x with fut := .cancelled, mustCancel := false }) ▸ (tame_modTask p t _).trans (tame_schedTask _ t)
    · exact (e fun x => { x with fut := .pending }) ▸ tame_modTask p t _

/-- **whatever the worker calls on the pool between two awaits, it is for the pool the running task it was**: the step
that resumes a worker (of a task filed in its worker, `k.phase = .inWorker`) and takes it to a later await is `Tame` —
user code never moves a slot: the semaphore's value, the three registries (so the counters), `lost`, the number of
tasks and every task's phase / `released` / callback counters / request / map slot are what they were —, and it leaves
the task in its worker, its asyncio Task as undone as before, no cancellation pending, awaiting a future that is either
pending (`wakesOnCancel` holds: the next `cancel(id)` is delivered there, `C06_delivery`) or already cancelled with the
wake-up queued (`sched`) — the case of a worker that cancelled itself, its group or everything from between the awaits:
that cancellation is delivered at the await that follows. -/
theorem C06_later_await_with_calls (p : Pool) (t : Nat) (tk k : PTask) (hk : p.tasks[t]? = some k)
    (hph : k.phase = .inWorker) :
    Tame p (p.workerNext t tk) ∧
    ∃ k', (p.workerNext t tk).tasks[t]? = some k' ∧ k'.phase = .inWorker ∧ k'.mustCancel = false ∧
      k'.outcome.isSome = k.outcome.isSome ∧ k'.released = k.released ∧
      ((k'.fut = .pending ∧ (k.outcome = none → (p.workerNext t tk).wakesOnCancel t = true)) ∨
       (k'.fut = .cancelled ∧ k'.sched = true)) := by
  have t1 : Tame p (((p.logEv (.next t)).modTask t fun k => { k with awaitsLeft := k.awaitsLeft - 1 }).runHooks tk.req
      (p.reqOf tk).hooks.next) :=
    ((tame_logEv p (.next t)).trans (tame_modTask _ t _)).trans (tame_runHooks _ _ _)
  -- the record of `t` after the user code: same soft part as `k`
  obtain ⟨k1, hk1, hsoft⟩ := getElem?_fwd t1.len t1.soft hk
  have hph1 : k1.phase = .inWorker := by
    have := congrArg SoftP.phase hsoft
    exact this.trans hph
  have hout : k1.outcome.isSome = k.outcome.isSome := congrArg SoftP.hasOut hsoft
  have hrel : k1.released = k.released := congrArg SoftP.released hsoft
  refine ⟨?_, ?_⟩
  · rw [C06_workerNext_eq]
    refine t1.trans (tame_suspendTask_same _ t .inWorker ?_)
    intro a ha
    rw [hk1] at ha; cases ha
    exact hph1
  · rw [C06_workerNext_eq]
    obtain ⟨k', a1, a2, a3, a4, a5, _, _, a7⟩ := suspendTask_at _ t .inWorker k1 hk1
    refine ⟨k', a1, a2, a3, by rw [a4]; exact hout, by rw [a5]; exact hrel, ?_⟩
    cases hm : k1.mustCancel with
    | false =>
      simp only [hm, Bool.false_eq_true, if_false] at a7
      refine Or.inl ⟨a7.1, fun ho => ?_⟩
      unfold wakesOnCancel
      rw [a1]
      have : k'.outcome = none := by
        rw [a4]
        rw [ho] at hout
        cases hx : k1.outcome with
        | none => rfl
        | some o => rw [hx] at hout; cases hout
      simp [this, a2, a7.1]
    | true =>
      simp only [hm, if_true] at a7
      exact Or.inr ⟨a7.1, a7.2.1⟩

/-- Non-vacuity: a worker with two further suspension points: released once (`N`), cancelled at its second suspension point -/
def C06_demo_later : History :=
  [.mkpool (some 2) none none,
   .on 0 [] (.apply 1 none { Pool.gatedSpec with ws := { mode := .gated, swallow := false, awaits := 2 } }),
   .run 0 [], .run 0 [], .on 0 [] (.gate 0 .ok), .run 0 [], .on 0 [] (.cancel [0]), .run 0 []]

example : (((World.init 0).run C06_demo_later).pools.map fun p =>
      (p.log.map Ev.show, p.running ++ p.cancelledR, p.ended, p.tasks.map fun k => k.awaitsLeft)) =
    [(["S0(a)", "N0", "X0"], ([] : List Nat), [0], [1])] := by decide +kernel

def C06_demo : History :=
  [.mkpool (some 2) none none, .on 0 [] (.apply 2 none Pool.gatedSpec), .run 0 [], .run 0 [], .run 0 []]

example : (((World.init 0).run C06_demo).pools.map fun p => (p.firstErr [0, 1], p.firstErr [0, 5])) =
    [(none, some .taskNotFound)] := by decide +kernel

end Taskpool
