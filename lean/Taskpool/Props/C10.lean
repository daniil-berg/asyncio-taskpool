import Taskpool.Props.C06
import Taskpool.Inv.Count
import Taskpool.Inv.Decimal
/-! # C10 — Groups partition the tasks; names are unique and fresh -/
namespace Taskpool
open Pool

/-- `get_group_ids(*names)`: the union of the named groups' ids if every name is live, `InvalidGroupName` otherwise -/
theorem C10_get_group_ids_exact (p : Pool) (names : List String) :
    p.getGroupIds names =
      if names.all (fun n => (p.groupIds n).isSome) then some (names.map fun n => (p.groupIds n).getD []).flatten
      else none := by
  induction names with
  | nil => simp [getGroupIds]
  | cons n rest ih =>
    simp only [getGroupIds, List.all_cons, List.map_cons, List.flatten_cons]
    cases hn : p.groupIds n with
    | none => simp
    | some ids =>
      simp only [Option.isSome_some, Bool.true_and, Option.getD_some]
      rw [ih]
      by_cases hall : (rest.all fun n => (p.groupIds n).isSome) = true <;> simp [hall]

theorem C10_unknown_name_raises (p : Pool) (names : List String) (n : String) (hn : n ∈ names) (h : p.groupIds n = none) :
    (p.applyOp (.getIds names)).2 = .err .groupNotFound ∧ (p.applyOp (.getIds names)).1 = p := by
  simp only [applyOp, C10_get_group_ids_exact]
  have : names.all (fun n => (p.groupIds n).isSome) = false := by
    rw [List.all_eq_false]
    exact ⟨n, hn, by simp [h]⟩
  simp [this]

theorem groupIds_sub_flat (p : Pool) (g : String) (ids : List Nat) (h : p.groupIds g = some ids) :
    ∃ a b, p.groups = a ++ (g, ids) :: b := by
  unfold groupIds at h
  cases hf : p.groups.find? (fun x => x.1 == g) with
  | none => simp [hf] at h
  | some e =>
    simp [hf] at h
    have h2 := List.find?_some hf
    simp at h2
    obtain ⟨a, b, hab, _⟩ := List.find?_eq_some_iff_append.mp hf |>.2
    refine ⟨a, b, ?_⟩
    rw [hab]
    obtain ⟨n, l⟩ := e
    simp at h h2
    subst h; subst h2; rfl

theorem groupIds_isSome_mem (p : Pool) (n : String) (h : (p.groupIds n).isSome = true) : n ∈ p.groups.map (·.1) := by
  obtain ⟨ids, hi⟩ := Option.isSome_iff_exists.mp h
  obtain ⟨a, b, e⟩ := groupIds_sub_flat p n ids hi
  simp [e]

/-- **generated names are fresh.** A generated name is not the name of a live group and has the form
`"<prefix>-worker-group-<i>"`.  The only fact about text used is that rendering different numbers gives different names
(`hinj`, discharged in `C10_generated_fresh_all`). -/
theorem C10_generated_fresh (p : Pool) (pre : String)
    (hinj : ∀ i j : Nat, pre ++ "-worker-group-" ++ toString i = pre ++ "-worker-group-" ++ toString j → i = j) :
    (p.groupIds (p.genName pre)).isSome = false ∧
    ∃ i : Nat, p.genName pre = pre ++ "-worker-group-" ++ toString i := by
  unfold genName
  simp only
  cases hf : (List.range (p.groups.length + 1)).find? (fun i => (p.groupIds (pre ++ "-worker-group-" ++ toString i)).isNone) with
  | some i =>
    simp only
    have h2 := List.find?_some hf
    exact ⟨by simpa using h2, i, rfl⟩
  | none =>
    -- pigeonhole: `groups.length + 1` different names cannot all be names of live groups
    exfalso
    rw [List.find?_eq_none] at hf
    have hall : ∀ i ∈ List.range (p.groups.length + 1), pre ++ "-worker-group-" ++ toString i ∈ p.groups.map (·.1) := by
      intro i hi
      apply groupIds_isSome_mem
      have := hf i hi
      cases hg : p.groupIds (pre ++ "-worker-group-" ++ toString i) with
      | none => exact absurd hg (by simpa using this)
      | some _ => rfl
    have hnd : ((List.range (p.groups.length + 1)).map fun i => pre ++ "-worker-group-" ++ toString i).Nodup :=
      List.Pairwise.map _ (fun i j hij e => hij (hinj i j e)) List.nodup_range
    have hle := List.Nodup.length_le_of_subset hnd (by
      intro x hx
      obtain ⟨i, hi, rfl⟩ := List.mem_map.mp hx
      exact hall i hi)
    simp only [List.length_map, List.length_range] at hle
    omega

/-- **generated names are fresh**, unconditionally: decimal rendering of naturals is injective (`Inv/Decimal.lean`:
core's `Nat.ofDigitChars` reads the digits back), which is the hypothesis of `C10_generated_fresh`. For every pool state
and every prefix, the generated name is not the name of a live group and has the documented form. -/
theorem C10_generated_fresh_all (p : Pool) (pre : String) :
    (p.groupIds (p.genName pre)).isSome = false ∧
    ∃ i : Nat, p.genName pre = pre ++ "-worker-group-" ++ toString i :=
  C10_generated_fresh p pre (generated_names_inj pre)

/-- `start-group-<k>` uses the pool's own counter of accepted `start` calls, which the accepted call increments -/
theorem C10_start_name_counter (p : Pool) (num : Int) (g : String) (h : (p.doStart num).2 = .name g) :
    g = "start-group-" ++ toString p.startCalls ∧ (p.doStart num).1.startCalls = p.startCalls + 1 := by
  unfold doStart at h ⊢
  split at h
  · simp at h
  · split at h
    · simp at h
    · simp only at h ⊢
      simp only [Res.name.injEq] at h
      exact ⟨h.symm, rfl⟩

/-- a new task is filed under the group of the request that created it, and under no other name -/
theorem addToGroup_spec (gs : List (String × List Nat)) (g : String) (id : Nat) (n : String) :
    ((addToGroup gs g id).find? (fun x => x.1 == n)).map (·.2) =
      if n = g then some (((gs.find? (fun x => x.1 == g)).map (·.2)).getD [] ++ [id])
      else (gs.find? (fun x => x.1 == n)).map (·.2) := by
  induction gs with
  | nil =>
    simp only [addToGroup, List.find?_cons, List.find?_nil]
    by_cases e : n = g
    · subst e; simp
    · have : (g == n) = false := by simp; exact fun h => e h.symm
      simp [this, e]
  | cons x xs ih =>
    obtain ⟨a, ids⟩ := x
    simp only [addToGroup]
    by_cases hag : a = g
    · subst hag
      simp only [if_true, List.find?_cons]
      by_cases e : n = a
      · subst e; simp
      · have : (a == n) = false := by simp; exact fun h => e h.symm
        simp [this, e]
    · simp only [hag, if_false, List.find?_cons]
      by_cases e : n = g
      · subst e
        have : (a == n) = false := by simp [hag]
        simp only [this]
        rw [ih]; simp
      · by_cases han : a = n
        · subst han; simp [hag]
        · have : (a == n) = false := by simp [han]
          simp only [this]
          rw [ih]; simp [e]

theorem C10_member_of_own_group (p : Pool) (m : Nat) (isMap : Bool) (n : String) :
    (p.createTask m isMap).groupIds n =
      if n = (p.reqs[m]?.getD default).group then some ((p.groupIds n).getD [] ++ [p.tasks.length])
      else p.groupIds n := by
  unfold createTask groupIds
  simp only [emitRef, modReq]
  rw [addToGroup_spec]
  split
  · rename_i e; subst e; rfl
  · rfl

/-- **groups partition the tasks** — for every history (any sizes, any number of pools, `pool_size` assignments
included): no id is reported twice by one group, two live groups with different registry entries never share an id,
and every reported id is the id of a task the pool created -/
theorem C10_disjoint (base : Nat) (h : History) (i : Nat) (c : Cfg) (p : Pool)
    (hc : ((World.init base).run h).cfgs[i]? = some c) (hp : ((World.init base).run h).pools[i]? = some p) :
    (flat p.groups).Nodup ∧ (∀ t ∈ flat p.groups, t < p.tasks.length) ∧
    (∀ g ids, p.groupIds g = some ids → ids.Nodup ∧ ∀ t ∈ ids, t < p.tasks.length) ∧
    (∀ a b c' g1 ids1 g2 ids2, p.groups = a ++ (g1, ids1) :: b ++ (g2, ids2) :: c' → ∀ t, t ∈ ids1 → t ∉ ids2) := by
  have hg := groupsAll ⟨i, hc, hp⟩
  refine ⟨hg.nd, hg.lt, ?_, ?_⟩
  · intro g ids hgi
    obtain ⟨a, b, hab⟩ := groupIds_sub_flat p g ids hgi
    have hnd := hg.nd
    rw [hab] at hnd
    simp only [flat_append, flat_cons] at hnd
    have h1 := (List.nodup_append.mp hnd).2.1
    refine ⟨(List.nodup_append.mp h1).1, fun t ht => hg.lt t ?_⟩
    rw [hab]; simp only [flat_append, flat_cons]
    exact List.mem_append_right _ (List.mem_append_left _ ht)
  · intro a b c' g1 ids1 g2 ids2 hab t h1 h2
    have hnd := hg.nd
    rw [hab] at hnd
    simp only [flat_append, flat_cons, List.append_assoc] at hnd
    have hx := (List.nodup_append.mp hnd).2.1
    have hy := (List.nodup_append.mp hx).2.2
    exact hy t h1 t (List.mem_append_right _ (List.mem_append_left _ h2)) rfl

/-! Non-vacuity: with groups apply-worker-group-0 and -1 live, the next generated name is …-2 -/
example : ((((Pool.init .inf none).doApply 1 none gatedSpec).1.doApply 1 none gatedSpec).1.genName "apply") =
    "apply-worker-group-2" := by decide +kernel

end Taskpool
