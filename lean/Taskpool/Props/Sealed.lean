import Taskpool.Inv.SealInv2
import Taskpool.Props.C02
import Taskpool.Props.C03
import Taskpool.Props.C12
import Taskpool.Props.Quiescence
/-! # Pools that nobody unlocks: the theorems of C01 / C02 / C03 / C08 / C12 / C13 with `gather_and_close()` in the history

"No task is ever lost" (`lost = false`: no wrapper misses its registry entry, no `flush` / `gather_and_close` drops a
task that still holds its slot) holds for histories **without** `gather_and_close` (`C03_never_lost`) and fails in
general — known finding R9 (`unlock()` while a `gather_and_close()` is pending).  The theorems below prove it for
every history in which nobody calls `unlock()` — neither the caller nor user code run by the pool — and `pool_size` is
not assigned (`WOp.sealOk`): any number of `gather_and_close()` and `flush()` calls, overlapping in any way, with
cancellations, failures, locks and requests from user code anywhere.  That is the documented way to use
`gather_and_close()`; R9 is exactly the complement.

They rest on `World.sealed2_run` (`Inv/SealInv2.lean`): `Good` in its strict variant ∧ `Want` ∧ `Seal` — and, for the
statements at quiescence, `FinSOK` ∧ `EndFiled` ∧ `EmptiedOK` — in every pool of every reachable world. -/
namespace Taskpool
open Pool

theorem WOp.sealOk_noSetSize (x : WOp) (h : x.sealOk = true) : x.admits noSetSize = true := by
  cases x with
  | mkpool _ _ _ => rfl
  | on i orders op =>
    simp only [WOp.sealOk, Op.sealOk, Bool.and_eq_true] at h
    simpa [WOp.admits, noSetSize] using h.2
  | run _ _ => rfl

section
variable {base : Nat} {h : History} {c : Cfg} {p : Pool}

theorem sealed2All (r : Reached base h c p) (hh : ∀ x ∈ h, x.sealOk = true) :
    SealedC c p ∧ FinSOK p ∧ EndFiled p ∧ EmptiedOK p :=
  let ⟨i, hc, hp⟩ := r
  (World.sealed2_run base h hh).inv i c p hc hp

theorem sealedFin (r : Reached base h c p) (hh : ∀ x ∈ h, x.sealOk = true) {n : Nat} (hsz : c.size0 = .fin n) :
    Good (.fin n) false true p := hsz ▸ (sealed2All r hh).1.1

theorem Good.laxL {cap : Cap} {L R : Bool} {p : Pool} (h : Good cap L R p) : Good cap true R p :=
  ⟨⟨h.slot, h.phase, h.reg, h.grp, h.life, h.fl, h.wk, h.rz, fun e => Bool.noConfusion e, fun e => Bool.noConfusion e⟩,
    h.map, h.acc, h.canc⟩

theorem atRest_sealed (r : Reached base h c p) (hh : ∀ x ∈ h, x.sealOk = true)
    (hidle : ((World.init base).run h).ready = []) : AtRest c p :=
  have hs := sealed2All r hh
  let ⟨i, hc, hp⟩ := r
  ⟨hs.1.1.laxL, hs.1.1.ll rfl, World.idle_pool base h hidle i c p hc hp, r.all mhInvariant, World.nc_run r, hs.2.1.ok⟩

end

/-- **no task is ever lost**, `gather_and_close()` included -/
theorem C03_never_lost_sealed (base : Nat) (h : History) (hh : ∀ x ∈ h, x.sealOk = true) (i : Nat) (c : Cfg) (p : Pool)
    (hc : ((World.init base).run h).cfgs[i]? = some c) (hp : ((World.init base).run h).pools[i]? = some p) :
    p.lost = false := (sealedAll base h hh i c p hc hp).1

/-- **slots in use = tasks in flight** in every reachable state, `gather_and_close()` included:
`free + granted + num_running + num_cancelled = size` -/
theorem C02_idle_accounting_sealed (base : Nat) (h : History) (hh : ∀ x ∈ h, x.sealOk = true)
    (i : Nat) (c : Cfg) (p : Pool) (n : Nat)
    (hc : ((World.init base).run h).cfgs[i]? = some c) (hp : ((World.init base).run h).pools[i]? = some p)
    (hsz : c.size0 = .fin n) :
    ∃ v, p.sem.value = .fin v ∧ v + grantsL p.sem.waiters + p.running.length + p.cancelledR.length = n :=
  C02_idle_accounting base h (fun x hx => x.sealOk_noSetSize (hh x hx)) i c p n hc hp hsz
    (C03_never_lost_sealed base h hh i c p hc hp)

/-- every finished task has entered each callback it owes **exactly once** -/
theorem C03_exactly_once_sealed (base : Nat) (h : History) (hh : ∀ x ∈ h, x.sealOk = true) (i : Nat) (c : Cfg)
    (p : Pool) (hc : ((World.init base).run h).cfgs[i]? = some c) (hp : ((World.init base).run h).pools[i]? = some p)
    (t : Nat) (tk : PTask) (ht : p.tasks[t]? = some tk) (hf : tk.phase = .finished) :
    tk.nEC = (if tk.endCb = .none then 0 else 1) ∧
    (tk.wasCancelled = true → tk.nCC = (if tk.cancelCb = .none then 0 else 1)) ∧
    (tk.wasCancelled = false → tk.nCC = 0) :=
  C03_exactly_once base h i c p hc hp (C03_never_lost_sealed base h hh i c p hc hp) t tk ht hf

/-- the registries are complete: a task that has not handed back its slot counts as running or as cancelled -/
theorem C03_complete_sealed (base : Nat) (h : History) (hh : ∀ x ∈ h, x.sealOk = true) (i : Nat) (c : Cfg) (p : Pool)
    (hc : ((World.init base).run h).cfgs[i]? = some c) (hp : ((World.init base).run h).pools[i]? = some p)
    (t : Nat) (tk : PTask) (ht : p.tasks[t]? = some tk) (hrel : tk.released = false) :
    t ∈ p.running ∨ t ∈ p.cancelledR :=
  C03_complete_partial base h i c p hc hp (C03_never_lost_sealed base h hh i c p hc hp) t tk ht hrel

/-- whatever fails — workers, call sites, callbacks —, every finished task has handed back its slot -/
theorem C12_finished_released_sealed (base : Nat) (h : History) (hh : ∀ x ∈ h, x.sealOk = true) (i : Nat) (c : Cfg)
    (p : Pool) (hc : ((World.init base).run h).cfgs[i]? = some c) (hp : ((World.init base).run h).pools[i]? = some p)
    (t : Nat) (tk : PTask) (ht : p.tasks[t]? = some tk) (hf : tk.phase = .finished) : tk.released = true :=
  C12_finished_released base h i c p hc hp (C03_never_lost_sealed base h hh i c p hc hp) t tk ht hf

/-- neither `flush()` nor `gather_and_close()` ever forgets a task that is still running or inside its callbacks -/
theorem C13_never_forgets_unfinished_sealed (base : Nat) (h : History) (hh : ∀ x ∈ h, x.sealOk = true) (i : Nat) (c : Cfg)
    (p : Pool) (hc : ((World.init base).run h).cfgs[i]? = some c) (hp : ((World.init base).run h).pools[i]? = some p) :
    p.lost = false ∧
    ∀ (t : Nat) (tk : PTask), p.tasks[t]? = some tk → tk.released = false → t ∈ p.running ∨ t ∈ p.cancelledR :=
  ⟨C03_never_lost_sealed base h hh i c p hc hp, C03_complete_sealed base h hh i c p hc hp⟩

/-- **while a `gather_and_close()` waits in its first gather** the pool is locked and that gather — which collects
exceptions, so that no child can end it early — has every spawner that is filed as running among its children; every
other live spawner is doomed (cancelled, about to end without creating a task) -/
theorem C08_first_gather_has_every_spawner (base : Nat) (h : History) (hh : ∀ x ∈ h, x.sealOk = true) (i : Nat) (c : Cfg)
    (p : Pool) (hc : ((World.init base).run h).cfgs[i]? = some c) (hp : ((World.init base).run h).pools[i]? = some p)
    (a : Nat) (A : Api) (g : Nat) (hA : p.apis[a]? = some A) (hk : A.kind.isGac = true) (hf : A.frame = .gather1 g) :
    p.locked = true ∧
    (∃ G : Gather, p.gathers[g]? = some G ∧ G.retExc = true ∧
      ∀ (m : Nat) (r : Req), p.reqs[m]? = some r → r.inRunning = true → Child.spawner m ∈ G.children) ∧
    (∀ (m : Nat) (r : Req), p.reqs[m]? = some r → r.outcome = none → r.inRunning = true ∨ DoomedAt p m r) := by
  obtain ⟨_, _, _, hs⟩ := sealedAll base h hh i c p hc hp
  exact ⟨hs.lk a A hA (by simp [Api.gacPending, hk, hf]), hs.g1 a A g hA hk hf, fun m r hr ho => hs.fr m r hr (fun e => e) ho⟩

/-- **while a `gather_and_close()` waits in its second gather** the pool is locked, every live spawner is doomed — no
task will be created any more —, and that gather has **every task that is filed as running or cancelled** among its
children, at every moment of the wait: whatever has not ended is awaited -/
theorem C08_second_gather_awaits_everything (base : Nat) (h : History) (hh : ∀ x ∈ h, x.sealOk = true) (i : Nat) (c : Cfg)
    (p : Pool) (hc : ((World.init base).run h).cfgs[i]? = some c) (hp : ((World.init base).run h).pools[i]? = some p)
    (a : Nat) (A : Api) (g : Nat) (hA : p.apis[a]? = some A) (hk : A.kind.isGac = true) (hf : A.frame = .gather2 g) :
    p.locked = true ∧
    (∀ (m : Nat) (r : Req), p.reqs[m]? = some r → r.outcome = none → DoomedAt p m r) ∧
    (∃ G : Gather, p.gathers[g]? = some G ∧ ∀ t ∈ p.running ++ p.cancelledR, Child.task t ∈ G.children) ∧
    (∀ (t : Nat) (tk : PTask), p.tasks[t]? = some tk → tk.released = false →
      ∃ G : Gather, p.gathers[g]? = some G ∧ Child.task t ∈ G.children) := by
  obtain ⟨hl, hr, _, hs⟩ := sealedAll base h hh i c p hc hp
  obtain ⟨hnr, G, hG, hsub⟩ := hs.g2 a A g hA hk hf
  refine ⟨hs.lk a A hA (by simp [Api.gacPending, hk, hf]), ?_, ⟨G, hG, hsub⟩, ?_⟩
  · intro m r hm ho
    rcases hs.fr m r hm (fun e => e) ho with e | e
    · rw [hnr m r hm] at e; cases e
    · exact e
  · intro t tk ht hrel
    exact ⟨G, hG, hsub t (List.mem_append.mpr (hr.cpl hl t tk ht hrel))⟩

/-- what a gather that has completed normally was known to await has finished -/
theorem FlushOK.awaited {p : Pool} (fl : FlushOK p) {g : Nat} {G : Gather} (hG : p.gathers[g]? = some G)
    (ho : G.outer = some .ok) {l : List Nat} (h : ∃ G' : Gather, p.gathers[g]? = some G' ∧ ∀ t ∈ l, Child.task t ∈ G'.children) :
    ∀ t ∈ l, TaskFin p t := by
  obtain ⟨G', hG', hsub⟩ := h
  rw [hG] at hG'; cases hG'
  exact fun t ht => fl.gth g G hG ho t (hsub t ht)

/-- **the closing step drops nothing**: when the second gather of a `gather_and_close()` has completed normally, every
task of the pool has handed back its slot, and every task that was still filed as running or cancelled has finished,
callbacks included -/
theorem C08_all_finished_when_closing (base : Nat) (h : History) (hh : ∀ x ∈ h, x.sealOk = true) (i : Nat) (c : Cfg)
    (p : Pool) (hc : ((World.init base).run h).cfgs[i]? = some c) (hp : ((World.init base).run h).pools[i]? = some p)
    (a : Nat) (A : Api) (g : Nat) (G : Gather) (hA : p.apis[a]? = some A) (hk : A.kind.isGac = true)
    (hf : A.frame = .gather2 g) (hG : p.gathers[g]? = some G) (ho : G.outer = some .ok) :
    (∀ t ∈ p.running ++ p.cancelledR, TaskFin p t) ∧ (∀ (t : Nat) (tk : PTask), p.tasks[t]? = some tk → tk.released = true) := by
  obtain ⟨hg, _, hs⟩ := (World.sealed_run base h hh).inv i c p hc hp
  have hfin := hg.fl.awaited hG ho (hs.g2 a A g hA hk hf).2
  refine ⟨hfin, ?_⟩
  intro t tk ht
  cases hrel : tk.released with
  | true => rfl
  | false =>
    obtain ⟨tk', a1, b1⟩ := hfin t (List.mem_append.mpr (hg.reg.cpl (hg.ll rfl) t tk ht hrel))
    rw [ht] at a1; cases a1
    have hr' : tk.released = true := ((hg.life t tk ht).fin b1 (hg.ll rfl)).1
    rw [hrel] at hr'; cases hr'

/-- at every idle point the slots in use equal the tasks in flight: `free + num_running + num_cancelled = size` -/
theorem C02_idle_accounting_exact_sealed (base : Nat) (h : History) (hh : ∀ x ∈ h, x.sealOk = true)
    (hidle : ((World.init base).run h).ready = []) (i : Nat) (c : Cfg) (p : Pool) (n : Nat)
    (hc : ((World.init base).run h).cfgs[i]? = some c) (hp : ((World.init base).run h).pools[i]? = some p)
    (hsz : c.size0 = .fin n) :
    ∃ v, p.sem.value = .fin v ∧ v + p.running.length + p.cancelledR.length = n :=
  have hg := sealedFin ⟨i, hc, hp⟩ hh hsz
  (World.idle_pool base h hidle i c p hc hp).accounting_exact hg.slot hg.reg (hg.ll rfl)

/-- `is_full` at idle, exactly at capacity — also while a `gather_and_close()` is pending or after a failed one -/
theorem C01_is_full_iff_at_idle_sealed (base : Nat) (h : History) (hh : ∀ x ∈ h, x.sealOk = true)
    (hidle : ((World.init base).run h).ready = []) (i : Nat) (c : Cfg) (p : Pool) (n : Nat)
    (hc : ((World.init base).run h).cfgs[i]? = some c) (hp : ((World.init base).run h).pools[i]? = some p)
    (hsz : c.size0 = .fin n) (hcb : p.cancelledR = []) :
    p.isFull = true ↔ p.running.length = n :=
  have hg := sealedFin ⟨i, hc, hp⟩ hh hsz
  isFull_iff_core hg (hg.ll rfl) hcb (grantsL_zero_of_pending _ (World.idle_pool base h hidle i c p hc hp).pend)

/-- **capacity comes back**: whenever the loop is idle and every asyncio Task of the pool is done, every task has
finished and handed back its slot and its map slot, and the semaphore of a pool of size `n > 0` is back at `n` with an
empty waiter queue — whatever `gather_and_close()` calls succeeded, failed or are still pending -/
theorem C02_capacity_back_at_quiescence_sealed (base : Nat) (h : History) (hh : ∀ x ∈ h, x.sealOk = true)
    (hidle : ((World.init base).run h).ready = []) (i : Nat) (c : Cfg) (p : Pool) (n : Nat)
    (hc : ((World.init base).run h).cfgs[i]? = some c) (hp : ((World.init base).run h).pools[i]? = some p)
    (hsz : c.size0 = .fin n) (hpos : 0 < n) (hall : p.AllTasksDone) :
    (p.sem.value = .fin n ∧ p.sem.waiters = []) ∧
    ∀ k ∈ p.tasks, k.phase = .finished ∧ k.released = true ∧ k.mapHeld = false :=
  have ha := atRest_sealed ⟨i, hc, hp⟩ hh hidle
  ⟨ha.capacity_back hsz hpos hall, ha.tasks hall⟩

/-! Non-vacuity: a `gather_and_close()` issued while a `map` spawner waits for room in a pool of size 1; a second one
and a `flush()` overlap; everything is released, the pool is closed, nothing was lost. -/
def Sealed_demo : History :=
  [.mkpool (some 1) none none,
   .on 0 [] (.map 0 [⟨false, false⟩, ⟨false, false⟩] 2 none gatedSpec),
   .run 0 [], .run 0 [],
   .on 0 [] (.gac true), .run 0 [], .on 0 [] (.flush true), .on 0 [] (.gac false), .run 0 [], .run 0 [],
   .on 0 [] (.gate 0 .ok), .run 0 [], .run 0 [], .run 0 [], .run 0 [],
   .on 0 [] (.gate 1 .ok), .run 0 [], .run 0 [], .run 0 [], .run 0 [], .run 0 [], .run 0 [], .run 0 []]

example : ∀ x ∈ Sealed_demo, x.sealOk = true := by decide +kernel

example : (((World.init 0).run Sealed_demo).pools.map fun p => (p.closed, p.lost, p.tasks.map (·.phase), p.sem.value)) =
    [(true, false, [Phase.finished, Phase.finished], Cap.fin 1)] := by decide +kernel

example : (((World.init 0).run Sealed_demo).pools.map fun p => p.apis.map (·.outcome)) =
    [[some Outcome.ok, some Outcome.ok, some Outcome.ok]] := by decide +kernel

/-- half-way through `Sealed_demo` (both `gather_and_close()` calls wait in their first gather for the spawner that waits for room):
the premises of `C08_first_gather_has_every_spawner` are met by a reachable state -/
example : (((World.init 0).run (Sealed_demo.take 10)).pools.map fun p => (p.apis.map (·.frame), p.reqs.map (·.frame), p.locked)) =
    [([AFrame.gather1 0, AFrame.done, AFrame.gather1 3], [MFrame.waitRoom], true)] := by decide +kernel

end Taskpool
