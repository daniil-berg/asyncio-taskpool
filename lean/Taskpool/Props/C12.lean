import Taskpool.Props.C13
import Taskpool.Props.C07
import Taskpool.Inv.GoodInv
/-! # C12 — A failing task or callback harms only itself

Proved here: a worker that raises goes through exactly the same ending path as one that returns — its slot is
handed back and it is filed as ended — and a collecting `flush`/`gather_and_close` cannot raise.  Slot conservation
under *every* outcome (worker exception, raising call site, raising callbacks) is C02's theorem, which quantifies
over all histories including the failing ones.  The two-run noninterference statement of DESIGN §5 is
`C12_noninterference` (Props/C12NonInt.lean). -/
namespace Taskpool
open Pool

/-- whatever the worker's outcome (`e = none`: returned, `e = some x`: raised `x`), the step that ends the worker
goes through the same `_task_ending` path and preserves every invariant: slot conservation (the slot is handed back
exactly once), the registries, the groups and the callback life cycle -/
theorem C12_failure_same_invariants {cap : Cap} {L R : Bool} (p : Pool) (t : Nat) (e : Option Err) (hg : Good cap L R p) (s : SoftP)
    (hc : p.Cur t s) (hph : s.phase = .inWorker) : Good cap L R (p.afterWorker t e) :=
  AtTask.afterWorker ⟨hg, hc, rfl⟩ e (inWork_of hc hg (Or.inr hph))

/-- **every task that finishes has handed back its slot**, in every pool after every history (any sizes, failures,
cancellations, `pool_size` assignments), as long as nothing was `lost` (no `KeyError` in a wrapper, DESIGN §4.3) -/
theorem C12_finished_released (base : Nat) (h : History) (i : Nat) (c : Cfg) (p : Pool)
    (hc : ((World.init base).run h).cfgs[i]? = some c) (hp : ((World.init base).run h).pools[i]? = some p)
    (hl : p.lost = false) (t : Nat) (tk : PTask) (ht : p.tasks[t]? = some tk) (hf : tk.phase = .finished) :
    tk.released = true :=
  ((lifeAll ⟨i, hc, hp⟩ t tk ht).fin hf hl).1

/-- the same with the hypothesis discharged, for every history without `gather_and_close` (any number of concurrent
`flush` calls included): whatever fails — workers, call sites, callbacks — every finished task has handed back its slot -/
theorem C12_finished_released_all (base : Nat) (h : History) (hn : ∀ x ∈ h, x.admits noGac = true) (i : Nat) (c : Cfg)
    (p : Pool) (hc : ((World.init base).run h).cfgs[i]? = some c) (hp : ((World.init base).run h).pools[i]? = some p)
    (t : Nat) (tk : PTask) (ht : p.tasks[t]? = some tk) (hf : tk.phase = .finished) : tk.released = true :=
  C12_finished_released base h i c p hc hp (strictAll ⟨i, hc, hp⟩ hn).1 t tk ht hf

/-- a collecting `flush()` / `gather_and_close()` (`return_exceptions=True`) cannot raise: its gathers complete only
normally (`C13_re_verdict`) -/
theorem C12_collect_never_raises (G : Gather) (co : Option Outcome) (h : G.retExc = true) :
    gatherVerdict G co = none ∨ gatherVerdict G co = some .ok := C13_re_verdict G co h

/-- without `return_exceptions` the exception a gather reports is the outcome of one of its children — a task's or
a spawner's own exception, never one made up by the pool -/
theorem C12_reported_exception_is_a_childs (G : Gather) (co : Option Outcome) (e : Err)
    (h : gatherVerdict G co = some (.exc e)) : co = some (.exc e) :=
  gatherVerdict_exc h

end Taskpool
