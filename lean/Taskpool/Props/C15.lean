import Taskpool.Props.C02
import Taskpool.Props.C09
/-! # C15 — pool_size reports and enforces the configured maximum when changed

The unchanged code violates three of the four clauses (known findings R5-getter, R5-shrink, R5-grow:
`test_pool_size` pins the getter to the semaphore counter, so no repair passes the unedited suite).
This file proves the clause that holds, states exactly what the code does instead (so that any *other* deviation
is still caught by the correspondence), and refutes the other three clauses on the model with closed witnesses
that are replayed on the real code on every run. -/
namespace Taskpool
open Pool

/-- what `pool.pool_size` evaluates to -/
def Pool.poolSize (p : Pool) : Cap := p.sem.value

/-- **the clause that holds**: a negative value raises ValueError and changes nothing (full state equality) -/
theorem C15_negative_rejected (p : Pool) (v : Int) (h : v < 0) : p.doSetSize v = (p, .err .valueError) :=
  C09_negative_size_rejected p v h

/-- as-is semantics of the assignment: the *free-slot counter* is overwritten, nothing else is touched (but the ghost
bit that records the assignment) — no waiter is woken, no task is disturbed -/
theorem C15_as_is_setter (p : Pool) (v : Int) (h : 0 ≤ v) :
    p.doSetSize v = ({ p with sem := { p.sem with value := .fin v.toNat }, resized := true }, .none) := by
  unfold doSetSize; simp [Int.not_lt.mpr h]

/-- "a lower value disturbs no running task" does hold: task records, registries, groups and spawners are unchanged -/
theorem C15_partial_assignment_disturbs_no_task (p : Pool) (v : Int) :
    (p.doSetSize v).1.tasks = p.tasks ∧ (p.doSetSize v).1.running = p.running ∧
    (p.doSetSize v).1.cancelledR = p.cancelledR ∧ (p.doSetSize v).1.ended = p.ended ∧
    (p.doSetSize v).1.reqs = p.reqs ∧ (p.doSetSize v).1.groups = p.groups := by
  unfold doSetSize; split <;> exact ⟨rfl, rfl, rfl, rfl, rfl, rfl⟩

/-- as-is semantics of the getter, for a pool whose size was never assigned: it reports the configured size
*minus* the slots in use — the statement "always reports the configured maximum" is false whenever a task runs -/
theorem C15_as_is_getter (base : Nat) (h : History) (hn : ∀ x ∈ h, x.admits noSetSize = true)
    (i : Nat) (c : Cfg) (p : Pool) (n : Nat)
    (hc : ((World.init base).run h).cfgs[i]? = some c) (hp : ((World.init base).run h).pools[i]? = some p)
    (hsz : c.size0 = .fin n) :
    ∃ v, p.poolSize = .fin v ∧ v + heldL p.tasks + grantsL p.sem.waiters = n :=
  C02_slot_conservation base h hn i c p n hc hp hsz

/-! Refutations: closed terms; the same histories are the witnesses in `known_findings.json`. -/

/-- R5-getter: a size-2 pool with one running task reports `pool_size = 1` -/
def C15_witness_getter : History :=
  [.mkpool (some 2) none none, .on 0 [] (.apply 1 none Pool.gatedSpec), .run 0 [], .run 0 []]

theorem C15_refuted_getter :
    ((World.init 0).run C15_witness_getter).pools.map (fun p => (p.poolSize, p.running.length)) = [(.fin 1, 1)] := by
  decide +kernel

/-- R5-shrink: unbounded pool, two running tasks of a map; `pool_size = 0` is assigned; one task ends and the
next element is admitted at once although 1 task is running and the limit is 0 -/
def C15_witness_shrink : History :=
  [.mkpool none none none,
   .on 0 [] (.map 0 [{ bad := false }, { bad := false }, { bad := false }] 2 none Pool.gatedSpec),
   .run 0 [], .on 0 [] (.setSize 0), .run 0 [], .run 0 [], .on 0 [] (.gate 0 .ok), .run 0 [], .run 0 [], .run 0 []]

theorem C15_refuted_shrink :
    ((World.init 0).run C15_witness_shrink).pools.map (fun p => (p.running.length, p.tasks.length)) = [(2, 3)] := by
  decide +kernel

/-- R5-grow: size-1 pool, `apply num=3`: one task runs, the spawner waits; `pool_size = 3` is assigned; at idle
still only one task runs and the pool reports itself full -/
def C15_witness_grow : History :=
  [.mkpool (some 1) none none, .on 0 [] (.apply 3 none Pool.gatedSpec), .run 0 [], .run 0 [],
   .on 0 [] (.setSize 3), .run 0 [], .run 0 []]

theorem C15_refuted_grow :
    ((World.init 0).run C15_witness_grow).pools.map (fun p => (p.running.length, p.isFull)) = [(1, true)] ∧
    ((World.init 0).run C15_witness_grow).ready = [] := by
  decide +kernel

end Taskpool
