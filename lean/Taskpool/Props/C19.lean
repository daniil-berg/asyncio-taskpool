import Taskpool.Inv.ControlServer
/-! C19 — life cycle of the control server (partial: the kernel's socket behaviour and timing are outside the model
and exercised by the check over real TCP and Unix sockets).  All statements are for every history of
connect / command line / client close / `exit` / stop / restart inputs, both transports. -/
namespace Taskpool.Control

/-- `serve_forever()` hands back a live task of a listening server; until the stop request nothing changes that -/
theorem C19_serve_returns_task (unix : Bool) (ins : List SIn) (h : ((Srv.start unix).run ins).stopRequested = false) :
    ((Srv.start unix).run ins).listening = true ∧ ((Srv.start unix).run ins).serveDone = false
    ∧ ((Srv.start unix).run ins).socketFile = unix := by
  have := (srvInv_run ins (srvInv_start unix)).running h
  rw [run_unix] at this
  exact this

/-- once stopped and all clients gone: the task is done, the address refuses connections, `is_serving()` is false
and the Unix socket file is removed -/
theorem C19_stop_completes (unix : Bool) (ins : List SIn)
    (hs : ((Srv.start unix).run ins).stopRequested = true) (hg : ((Srv.start unix).run ins).allGone = true) :
    ((Srv.start unix).run ins).serveDone = true ∧ ((Srv.start unix).run ins).listening = false
    ∧ ((Srv.start unix).run ins).accepts = false ∧ ((Srv.start unix).run ins).socketFile = false := by
  have inv := srvInv_run ins (srvInv_start unix)
  have hd := inv.done_if hs hg
  exact ⟨hd, inv.stopped hs, inv.stopped hs, inv.file hd⟩

/-- the task is never done while a client is still connected, nor without a stop request -/
theorem C19_not_before_clients_gone (unix : Bool) (ins : List SIn) (hd : ((Srv.start unix).run ins).serveDone = true) :
    ((Srv.start unix).run ins).stopRequested = true ∧ ((Srv.start unix).run ins).allGone = true :=
  (srvInv_run ins (srvInv_start unix)).done_only hd

/-- after the stop request the address no longer accepts: a connect attempt changes nothing -/
theorem C19_refuses_after_stop (unix : Bool) (ins : List SIn) (hs : ((Srv.start unix).run ins).stopRequested = true) :
    ((Srv.start unix).run ins).step .connect = (Srv.start unix).run ins :=
  if_neg (ne_true_of_eq_false ((srvInv_run ins (srvInv_start unix)).stopped hs))

/-- a client disconnecting (clean close, EOF or the `exit` command) touches only its own connection: every other
connection, the listening state and the count of executed commands stay as they were -/
theorem C19_disconnect_isolated (s : Srv) (i : Nat) :
    (s.step (.clientClose i)).conns = s.conns.set i false ∧ (s.step (.exitCmd i)).conns = s.conns.set i false
    ∧ (∀ j, j ≠ i → (s.step (.clientClose i)).isOpen j = s.isOpen j)
    ∧ (s.step (.clientClose i)).listening = s.listening ∧ (s.step (.clientClose i)).commands = s.commands
    ∧ (s.step (.clientClose i)).stopRequested = s.stopRequested := by
  -- both inputs are `(s.drop i).settle`, and `settle` leaves these fields alone
  have hs := settle_fields (s.drop i)
  refine ⟨congrArg Srv.conns hs, congrArg Srv.conns hs, fun j hj => ?_, (congrArg Srv.listening hs :),
    (congrArg Srv.commands hs :), (congrArg Srv.stopRequested hs :)⟩
  show ((s.drop i).settle.conns)[j]?.getD false = _
  rw [congrArg Srv.conns hs]
  exact congrArg (·.getD false) (List.getElem?_set_ne (Ne.symm hj))

/-- a client that connects and goes away before or during its handshake (a port probe, garbage, a client killed at
start-up) is a connection like any other — `connect` is the transport-level connection, the handshake is not part of
this machine: once it has left, the server holds nothing of it, so `C19_stop_completes` applies to histories with such
clients unchanged -/
theorem C19_early_leaver_leaves_nothing (s : Srv) (hs : s.stopRequested = false) (hl : s.listening = true) :
    (s.step .connect).step (.clientClose s.conns.length) = { s with conns := s.conns ++ [false] }
    ∧ ({ s with conns := s.conns ++ [false] } : Srv).allGone = s.allGone := by
  constructor
  · simp [Srv.step, hl, Srv.drop, Srv.settle, hs]
  · simp [Srv.allGone, List.all_append]

/-- the same server object can be started again once its serving task is done: `serve_forever()` again hands back
a live task of a listening server (socket file back for a Unix server), with no connection of the earlier cycle
attached; the theorems over `run ins` quantify over histories with any number of such restarts -/
theorem C19_restart_serves_again (unix : Bool) (ins : List SIn) (hd : ((Srv.start unix).run ins).serveDone = true) :
    (((Srv.start unix).run ins).step .restart).listening = true
    ∧ (((Srv.start unix).run ins).step .restart).accepts = true
    ∧ (((Srv.start unix).run ins).step .restart).serveDone = false
    ∧ (((Srv.start unix).run ins).step .restart).stopRequested = false
    ∧ (((Srv.start unix).run ins).step .restart).socketFile = unix
    ∧ (((Srv.start unix).run ins).step .restart).allGone = true
    ∧ (((Srv.start unix).run ins).step .restart).conns = ((Srv.start unix).run ins).conns := by
  have inv := srvInv_run ins (srvInv_start unix)
  have hu := run_unix ins (Srv.start unix)
  have hg := (inv.done_only hd).2
  generalize (Srv.start unix).run ins = t at *
  have hs : t.step .restart = { t with listening := true, stopRequested := false, serveDone := false,
                                       socketFile := t.unix } := by
    simp only [Srv.step, hd, if_true]
  rw [hs]
  exact ⟨rfl, rfl, rfl, rfl, hu, hg, rfl⟩

/-! non-vacuity: two clients, stop while both are connected, one leaves by `exit`, the other by EOF -/

example : (Srv.start true).run [.connect, .connect, .line 0, .stop, .connect, .exitCmd 0]
    = { unix := true, listening := false, stopRequested := true, serveDone := false, socketFile := true,
        conns := [false, true], commands := 1 } := by decide +kernel

example : (Srv.start true).run [.connect, .connect, .line 0, .stop, .connect, .exitCmd 0, .clientClose 1]
    = { unix := true, listening := false, stopRequested := true, serveDone := true, socketFile := false,
        conns := [false, false], commands := 1 } := by decide +kernel

-- the last client before the stop never completed its handshake (connect, then gone)
example : (Srv.start true).run [.connect, .clientClose 0, .connect, .clientClose 1, .stop]
    = { unix := true, listening := false, stopRequested := true, serveDone := true, socketFile := false,
        conns := [false, false], commands := 0 } := by decide +kernel

example : (Srv.start false).run [.connect, .stop, .line 0]
    = { unix := false, listening := false, stopRequested := true, serveDone := true, socketFile := false,
        conns := [false], commands := 1 } := by decide +kernel

-- a second cycle on the same server object: stop, restart, a new client (index 1) is served, stop again
example : (Srv.start true).run [.connect, .stop, .clientClose 0, .restart, .connect, .line 1, .stop, .line 1]
    = { unix := true, listening := false, stopRequested := true, serveDone := true, socketFile := false,
        conns := [false, false], commands := 2 } := by decide +kernel

example : ((Srv.start true).run [.connect, .stop, .clientClose 0, .restart, .connect]).listening = true := by
  decide +kernel

end Taskpool.Control
