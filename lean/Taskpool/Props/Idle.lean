import Taskpool.Inv.SchedWorld
import Taskpool.Inv.WantWalk2
import Taskpool.Props.C01
import Taskpool.Props.C05
/-! # When the loop is idle, nothing waits for the pool itself

Two invariants over every history — *whoever has something to do is flagged* (`Pool.Want`, pool-local, `Inv/Want*.lean`)
and *whoever is flagged has a handle in the loop's ready queue* (`World.SchedOK`, `Inv/Sched*.lean`) — meet here: if the
ready queue of the loop is empty, then in every pool

* every task whose asyncio Task is not done is suspended on a **pending future of the environment** — the worker's own,
  or that of a coroutine callback — never on anything the pool owes it;
* no slot of the pool's semaphore, and no slot of any call's own semaphore, is "on its way" to a woken spawner: every
  waiter entry is pending;
* every spawner without an outcome is suspended in one of the two semaphores, and has its entry in that queue.

These discharge the premise "the loop is idle" of `C01_is_full_iff`, `C02_idle_accounting` and `C05_work_conserving`. -/
namespace Taskpool

open Pool

/-- the state of one pool when the loop is idle -/
structure IdlePool (p : Pool) : Prop where
  tasks : ∀ (t : Nat) (k : PTask), p.tasks[t]? = some k →
    k.quiet = true ∧ k.phase ≠ .wrapUp ∧ (k.phase = .finished → k.outcome.isSome = true)
  pend : ∀ w ∈ p.sem.waiters, w.st = .pending
  mpend : ∀ (m : Nat) (r : Req), p.reqs[m]? = some r → ∀ w ∈ r.mapSem.waiters, w.st = .pending
  spawners : ∀ (m : Nat) (r : Req), p.reqs[m]? = some r → r.outcome = none →
    (r.frame = .waitRoom ∧ m ∈ owners p.sem.waiters) ∨ (r.frame = .waitMapSem ∧ r.mapSem.waiters ≠ [])

/-- whoever has something to do is flagged (`Want`) and nobody is flagged: the pool is idle -/
theorem IdlePool.of_want {p : Pool} (hw : Want p) (hf : ∀ r, p.flag r = false) : IdlePool p := by
  have nE : ¬ False := fun h => h
  have tflag : ∀ (t : Nat) (k : PTask), p.tasks[t]? = some k → k.sched = false := fun t k hk => by
    simpa [Pool.flag, hk] using hf (.task t)
  have rflag : ∀ (m : Nat) (r : Req), p.reqs[m]? = some r → r.sched = false := fun m r hr => by
    simpa [Pool.flag, hr] using hf (.spawner m)
  -- a waiter entry that is not pending flags its spawner
  have pend : ∀ (r : Req) (w : Waiter), r.sched = false → (w.st ≠ .pending → r.sched = true) → w.st = .pending :=
    fun r w hs hne => Decidable.byContradiction fun e => by rw [hne e] at hs; cases hs
  refine ⟨fun t k hk => ⟨?_, hw.tw t k hk nE⟩, ?_, ?_, ?_⟩
  · cases hq : k.quiet with
    | true => rfl
    | false =>
      have := hw.tq t k hk nE hq
      rw [tflag t k hk] at this
      cases this
  · intro w hwm
    obtain ⟨r, hr, hcl⟩ := hw.pw w hwm
    exact pend r w (rflag _ r hr) (hcl nE).2.2
  · intro m r hr w hwm
    exact pend r w (rflag m r hr) ((hw.mw m r hr w hwm).2 nE).2.2
  · intro m r hr ho
    obtain ⟨h1, h2, h3⟩ := hw.rs m r hr nE ho
    cases hfr : r.frame with
    | notStarted =>
      have := h1 hfr
      rw [rflag m r hr] at this; cases this
    | running => exact absurd hfr h2
    | done => exact absurd hfr h3
    | waitRoom => exact Or.inl ⟨rfl, hw.pe m r hr nE ho hfr⟩
    | waitMapSem => exact Or.inr ⟨rfl, hw.me m r hr nE ho hfr⟩

theorem World.idle_pool (base : Nat) (h : History) (hidle : ((World.init base).run h).ready = [])
    (i : Nat) (c : Cfg) (p : Pool)
    (hc : ((World.init base).run h).cfgs[i]? = some c) (hp : ((World.init base).run h).pools[i]? = some p) :
    IdlePool p :=
  .of_want (Reached.all ⟨i, hc, hp⟩ wantInvariant)
    (World.idle_no_flag base h hidle i p hp)

theorem grantsL_zero_of_pending (ws : List Waiter) (h : ∀ w ∈ ws, w.st = .pending) : grantsL ws = 0 :=
  (grantsL_eq_zero ws).mpr fun w hw e => by rw [h w hw] at e; cases e

theorem IdlePool.accounting_exact {n : Nat} {p : Pool} (hi : IdlePool p) (hs : SlotOK (.fin n) p) (hr : RegOK p)
    (hl : p.lost = false) : ∃ v, p.sem.value = .fin v ∧ v + p.running.length + p.cancelledR.length = n := by
  obtain ⟨v, hv, hs⟩ := idle_accounting_core hs hr hl
  have := grantsL_zero_of_pending _ hi.pend
  exact ⟨v, hv, by omega⟩

/-- **C02 / C03, the "eventually" clause at rest.** Whenever the loop is idle, a task whose asyncio Task is not done is
suspended inside its worker or inside a coroutine callback on a future that the *environment* still has to complete: no
task is ever left waiting for the pool (no wrapper stuck between its worker and its callbacks, none never begun). -/
theorem C02_idle_tasks_wait_for_user_code_only (base : Nat) (h : History)
    (hidle : ((World.init base).run h).ready = []) (i : Nat) (c : Cfg) (p : Pool)
    (hc : ((World.init base).run h).cfgs[i]? = some c) (hp : ((World.init base).run h).pools[i]? = some p)
    (t : Nat) (k : PTask) (hk : p.tasks[t]? = some k) (hnd : k.outcome = none) :
    (k.phase = .inWorker ∨ k.phase = .inCancelCb ∨ k.phase = .inEndCb) ∧ k.fut = .pending := by
  have hq := ((World.idle_pool base h hidle i c p hc hp).tasks t k hk).1
  simp only [PTask.quiet, hnd, Option.isSome_none, Bool.false_or, Bool.and_eq_true, Bool.or_eq_true, beq_iff_eq] at hq
  exact ⟨by rcases hq.1 with (a | a) | a <;> simp [a], hq.2⟩

/-- **C02: at every idle point the slots in use equal the tasks in flight** — `free + num_running + num_cancelled =
size`, with no "slot on its way" term: the hand-over of a slot schedules the spawner, so an idle loop has none. Histories
without `pool_size` assignment and without `gather_and_close` (known finding R9), any number of concurrent flushes. -/
theorem C02_idle_accounting_exact (base : Nat) (h : History) (hn : h.NoSetSize) (hg : ∀ x ∈ h, x.admits noGac = true)
    (hidle : ((World.init base).run h).ready = []) (i : Nat) (c : Cfg) (p : Pool) (n : Nat)
    (hc : ((World.init base).run h).cfgs[i]? = some c) (hp : ((World.init base).run h).pools[i]? = some p)
    (hsz : c.size0 = .fin n) :
    ∃ v, p.sem.value = .fin v ∧ v + p.running.length + p.cancelledR.length = n :=
  have hgood := goodFin ⟨i, hc, hp⟩ hn hsz
  (World.idle_pool base h hidle i c p hc hp).accounting_exact hgood.slot hgood.reg (strictAll ⟨i, hc, hp⟩ hg).1

/-- **C01, `is_full` at idle — the property's own premise.** In every pool of finite size after every history without an
assignment to `pool_size` and without `gather_and_close`: whenever the loop is idle and no task is in the middle of its
cancel callback, `is_full` is true **exactly when** `num_running` equals the pool size. -/
theorem C01_is_full_iff_at_idle (base : Nat) (h : History) (hn : h.NoSetSize) (hg : ∀ x ∈ h, x.admits noGac = true)
    (hidle : ((World.init base).run h).ready = []) (i : Nat) (c : Cfg) (p : Pool) (n : Nat)
    (hc : ((World.init base).run h).cfgs[i]? = some c) (hp : ((World.init base).run h).pools[i]? = some p)
    (hsz : c.size0 = .fin n) (hcb : p.cancelledR = []) :
    p.isFull = true ↔ p.running.length = n :=
  C01_is_full_iff base h hn hg i c p n hc hp hsz hcb
    (grantsL_zero_of_pending _ (World.idle_pool base h hidle i c p hc hp).pend)

/-- **C05, work conservation at idle.** In every pool of every reachable world: whenever the loop is idle, a map-family
call whose consumer is alive and suspended on the call's own semaphore has **all `num_concurrent` slots held by tasks of
the call that have not yet handed theirs back** — the premises "its waiter entry is pending" and "no wake-up is on its
way" of `C05_work_conserving` follow from idleness. -/
theorem C05_work_conserving_at_idle (base : Nat) (h : History) (hidle : ((World.init base).run h).ready = [])
    (i : Nat) (c : Cfg) (p : Pool)
    (hc : ((World.init base).run h).cfgs[i]? = some c) (hp : ((World.init base).run h).pools[i]? = some p)
    (m : Nat) (r : Req) (hr : p.reqs[m]? = some r) (hlive : r.outcome = none) (hw : r.frame = .waitMapSem) :
    heldM p.tasks m = r.nc := by
  have hi := World.idle_pool base h hidle i c p hc hp
  have hpen := hi.mpend m r hr
  have hne : r.mapSem.waiters ≠ [] := by
    rcases hi.spawners m r hr hlive with ⟨a, _⟩ | ⟨_, b⟩
    · rw [hw] at a; cases a
    · exact b
  obtain ⟨w, hwm⟩ := List.exists_mem_of_ne_nil _ hne
  exact C05_work_conserving base h i c p hc hp m r hr hlive hw ⟨w, hwm, hpen w hwm⟩
    (grantsL_zero_of_pending _ hpen)

end Taskpool
