import Taskpool.Inv.Count
/-! # C03 — Task lifecycle and callbacks are exact and ordered

The registries and the callback counts, in every pool after every history (assignments to `pool_size` included); the
theorems that need "nothing was lost" take it as a hypothesis or are stated for histories without `gather_and_close`. -/
namespace Taskpool
open Pool

theorem NYR_iff (ph : Phase) : NYR ph = true ↔ ph = .created ∨ ph = .inWorker ∨ ph = .inCancelCb := by
  cases ph <;> simp [NYR]

theorem PhaseOK.held {p : Pool} (h : PhaseOK p) {t : Nat} {tk : PTask} (ht : p.tasks[t]? = some tk)
    (hph : tk.phase = .created ∨ tk.phase = .inWorker ∨ tk.phase = .inCancelCb) : tk.released = false :=
  h t tk ht ((NYR_iff _).mpr hph)

theorem RegOK.not_filed {p : Pool} (hr : RegOK p) {t : Nat} {tk : PTask} (ht : p.tasks[t]? = some tk)
    (hrel : tk.released = true) : t ∉ p.running ∧ t ∉ p.cancelledR := by
  refine ⟨fun hm => ?_, fun hm => ?_⟩
  · obtain ⟨tk', a, b⟩ := hr.run t hm
    rw [ht] at a; cases a; rw [hrel] at b; cases b
  · obtain ⟨tk', a, b, _⟩ := hr.can t hm
    rw [ht] at a; cases a; rw [hrel] at b; cases b

/-- **exactly one registry**: in every pool of every reachable world — any size, bounded or not, any history,
assignments to `pool_size` included — no id is filed twice, neither inside one registry nor in two of them -/
theorem C03_one_registry (base : Nat) (h : History) (i : Nat) (c : Cfg) (p : Pool)
    (hc : ((World.init base).run h).cfgs[i]? = some c) (hp : ((World.init base).run h).pools[i]? = some p) :
    (p.running ++ p.cancelledR ++ p.ended).Nodup ∧
    ∀ t, (t ∈ p.running → t ∉ p.cancelledR ∧ t ∉ p.ended) ∧ (t ∈ p.cancelledR → t ∉ p.running ∧ t ∉ p.ended) ∧
         (t ∈ p.ended → t ∉ p.running ∧ t ∉ p.cancelledR) := by
  obtain ⟨_, hr⟩ := baseAll ⟨i, hc, hp⟩
  exact ⟨hr.nd, fun t => nodup3_mem_disj hr.nd t⟩

/-- every id the pool files is the id of a task it created; a task counted as running or cancelled still holds
its slot, one counted as cancelled is past its worker (it is in, or on its way to, its cancel callback), and one
counted as ended has handed back its slot -/
theorem C03_registries_meaning (base : Nat) (h : History) (i : Nat) (c : Cfg) (p : Pool)
    (hc : ((World.init base).run h).cfgs[i]? = some c) (hp : ((World.init base).run h).pools[i]? = some p) :
    (∀ t ∈ p.running, ∃ tk : PTask, p.tasks[t]? = some tk ∧ tk.released = false) ∧
    (∀ t ∈ p.cancelledR, ∃ tk : PTask, p.tasks[t]? = some tk ∧ tk.released = false ∧
        tk.phase ≠ .created ∧ tk.phase ≠ .inWorker) ∧
    (∀ t ∈ p.ended, ∃ tk : PTask, p.tasks[t]? = some tk ∧ tk.released = true) ∧
    (∀ t, (t ∈ p.running ∨ t ∈ p.cancelledR ∨ t ∈ p.ended) → t < p.tasks.length) := by
  obtain ⟨_, hr⟩ := baseAll ⟨i, hc, hp⟩
  exact ⟨hr.run, hr.can, hr.fin, fun t ht => hr.lt t ht⟩

/-- as long as nothing was lost (ghost bit, DESIGN §4.3), every task that still holds its slot counts as running or
as cancelled: there is no hidden fourth state -/
theorem C03_complete_partial (base : Nat) (h : History) (i : Nat) (c : Cfg) (p : Pool)
    (hc : ((World.init base).run h).cfgs[i]? = some c) (hp : ((World.init base).run h).pools[i]? = some p)
    (hl : p.lost = false) (t : Nat) (tk : PTask) (ht : p.tasks[t]? = some tk)
    (hrel : tk.released = false) : t ∈ p.running ∨ t ∈ p.cancelledR :=
  (baseAll ⟨i, hc, hp⟩).2.cpl hl t tk ht hrel

/-- a task in its worker, or not yet begun, or in its cancel callback has not handed back its slot (all pools, all
histories) -/
theorem C03_phase_vs_slot (base : Nat) (h : History) (i : Nat) (c : Cfg) (p : Pool)
    (hc : ((World.init base).run h).cfgs[i]? = some c) (hp : ((World.init base).run h).pools[i]? = some p)
    (t : Nat) (tk : PTask) (ht : p.tasks[t]? = some tk)
    (hph : tk.phase = .created ∨ tk.phase = .inWorker ∨ tk.phase = .inCancelCb) : tk.released = false :=
  (baseAll ⟨i, hc, hp⟩).1.held ht hph

/-! `nEC` / `nCC` are ghost counters of a task: how often the wrapper entered the end / the cancel callback (they are
incremented by the very step that writes the `endCb` / `cancelCb` entry into the event log, `Pool.cbBegin`).
`wasCancelled` records that the coroutine ended by cancellation and the cancellation was registered
(`except CancelledError` ran `_task_cancellation`).  All statements hold in every pool after **every** history. -/

/-- **at most once** — neither callback is ever entered twice for one task -/
theorem C03_callbacks_at_most_once (base : Nat) (h : History) (i : Nat) (c : Cfg) (p : Pool)
    (hc : ((World.init base).run h).cfgs[i]? = some c) (hp : ((World.init base).run h).pools[i]? = some p)
    (t : Nat) (tk : PTask) (ht : p.tasks[t]? = some tk) : tk.nEC ≤ 1 ∧ tk.nCC ≤ 1 :=
  ⟨(lifeAll ⟨i, hc, hp⟩ t tk ht).e1, (lifeAll ⟨i, hc, hp⟩ t tk ht).c1⟩

/-- **the end callback runs when the task already counts as ended**: it is entered only after the slot was handed
back (which the same step does right after filing the id as ended), never for a task that still counts as running or
cancelled -/
theorem C03_end_cb_after_ending (base : Nat) (h : History) (i : Nat) (c : Cfg) (p : Pool)
    (hc : ((World.init base).run h).cfgs[i]? = some c) (hp : ((World.init base).run h).pools[i]? = some p)
    (t : Nat) (tk : PTask) (ht : p.tasks[t]? = some tk) (hn : tk.nEC = 1) :
    tk.released = true ∧ t ∉ p.running ∧ t ∉ p.cancelledR := by
  have hrel : tk.released = true := by
    cases hr : tk.released with
    | true => rfl
    | false => have : tk.nEC = 0 := (lifeAll ⟨i, hc, hp⟩ t tk ht).e0 hr; omega
  exact ⟨hrel, (baseAll ⟨i, hc, hp⟩).2.not_filed ht hrel⟩

/-- **the cancel callback runs only if the coroutine ended by cancellation** (the converse, for a finished task, is
`C03_exactly_once`), and never for a task that is still in or before its worker; **and before the end callback**: once
the end callback has been entered for a cancelled task with a cancel callback, the cancel callback has been entered
already; a callback the task does not have is never entered -/
theorem C03_cancel_cb_only_if_cancelled_and_first (base : Nat) (h : History) (i : Nat) (c : Cfg) (p : Pool)
    (hc : ((World.init base).run h).cfgs[i]? = some c) (hp : ((World.init base).run h).pools[i]? = some p)
    (t : Nat) (tk : PTask) (ht : p.tasks[t]? = some tk) :
    (tk.nCC = 1 → tk.wasCancelled = true) ∧
    ((tk.phase = .created ∨ tk.phase = .inWorker) → tk.nCC = 0 ∧ tk.nEC = 0) ∧
    (tk.nEC = 1 → tk.wasCancelled = true → tk.cancelCb ≠ .none → tk.nCC = 1) ∧
    (tk.cancelCb = .none → tk.nCC = 0) ∧ (tk.endCb = .none → tk.nEC = 0) := by
  have hl := lifeAll ⟨i, hc, hp⟩ t tk ht
  have hph := (baseAll ⟨i, hc, hp⟩).1
  exact ⟨hl.cw, fun hx => ⟨(hl.c0 hx).1, hl.e0 (hph.held ht (hx.elim Or.inl fun e => Or.inr (Or.inl e)))⟩, hl.ord, hl.cn, hl.en⟩

/-- **exactly once.** When a task has finished — and nothing was `lost` (no `KeyError` in a wrapper, DESIGN §4.3) —
its end callback was entered exactly once if it has one (and not at all otherwise); its cancel callback was entered
exactly once if it has one and the coroutine ended by cancellation, and not at all otherwise -/
theorem C03_exactly_once (base : Nat) (h : History) (i : Nat) (c : Cfg) (p : Pool)
    (hc : ((World.init base).run h).cfgs[i]? = some c) (hp : ((World.init base).run h).pools[i]? = some p)
    (hlost : p.lost = false) (t : Nat) (tk : PTask) (ht : p.tasks[t]? = some tk) (hf : tk.phase = .finished) :
    tk.nEC = (if tk.endCb = .none then 0 else 1) ∧
    (tk.wasCancelled = true → tk.nCC = (if tk.cancelCb = .none then 0 else 1)) ∧
    (tk.wasCancelled = false → tk.nCC = 0) :=
  ((lifeAll ⟨i, hc, hp⟩ t tk ht).fin hf hlost).2

/-- **nothing is ever lost** in a history without `gather_and_close` (any number of concurrent `flush` calls included),
whatever the mix of normal returns, exceptions, cancellations (of tasks, groups, everything), sync and coroutine
callbacks, gates and resizes: no wrapper ever misses its registry entry -/
theorem C03_never_lost (base : Nat) (h : History) (hn : ∀ x ∈ h, x.admits noGac = true) (i : Nat) (c : Cfg) (p : Pool)
    (hc : ((World.init base).run h).cfgs[i]? = some c) (hp : ((World.init base).run h).pools[i]? = some p) :
    p.lost = false := (strictAll ⟨i, hc, hp⟩ hn).1

/-- **exactly once** in every history without `gather_and_close`: `C03_exactly_once`, its hypothesis discharged by
`C03_never_lost` -/
theorem C03_exactly_once_all (base : Nat) (h : History) (hn : ∀ x ∈ h, x.admits noGac = true) (i : Nat) (c : Cfg)
    (p : Pool) (hc : ((World.init base).run h).cfgs[i]? = some c) (hp : ((World.init base).run h).pools[i]? = some p)
    (t : Nat) (tk : PTask) (ht : p.tasks[t]? = some tk) (hf : tk.phase = .finished) :
    tk.nEC = (if tk.endCb = .none then 0 else 1) ∧
    (tk.wasCancelled = true → tk.nCC = (if tk.cancelCb = .none then 0 else 1)) ∧
    (tk.wasCancelled = false → tk.nCC = 0) :=
  C03_exactly_once base h i c p hc hp (C03_never_lost base h hn i c p hc hp) t tk ht hf

/-- **the three registries are complete** in every history without `gather_and_close`: a task that has not handed back
its slot counts as running or as cancelled -/
theorem C03_complete (base : Nat) (h : History) (hn : ∀ x ∈ h, x.admits noGac = true) (i : Nat) (c : Cfg) (p : Pool)
    (hc : ((World.init base).run h).cfgs[i]? = some c) (hp : ((World.init base).run h).pools[i]? = some p)
    (t : Nat) (tk : PTask) (ht : p.tasks[t]? = some tk) (hrel : tk.released = false) :
    t ∈ p.running ∨ t ∈ p.cancelledR :=
  C03_complete_partial base h i c p hc hp (C03_never_lost base h hn i c p hc hp) t tk ht hrel

/-- a task suspended inside a coroutine callback has entered that callback exactly once; in the cancel callback it
still holds its slot, in the end callback it has handed it back -/
theorem C03_suspended_in_callback (base : Nat) (h : History) (i : Nat) (c : Cfg) (p : Pool)
    (hc : ((World.init base).run h).cfgs[i]? = some c) (hp : ((World.init base).run h).pools[i]? = some p)
    (t : Nat) (tk : PTask) (ht : p.tasks[t]? = some tk) :
    (tk.phase = .inCancelCb → tk.nCC = 1 ∧ tk.cancelCb = .coro ∧ tk.released = false) ∧
    (tk.phase = .inEndCb → tk.nEC = 1 ∧ tk.endCb = .coro ∧ tk.released = true) := by
  have hl := lifeAll ⟨i, hc, hp⟩ t tk ht
  have hph := (baseAll ⟨i, hc, hp⟩).1
  exact ⟨fun hx => ⟨(hl.cc hx).1, (hl.cc hx).2, hph.held ht (Or.inr (Or.inr hx))⟩, hl.ec⟩

/-! Non-vacuity: a cancelled task with a plain cancel callback and a plain end callback: both entered once, in order. -/
def C03_spec : SpawnSpec :=
  { ws := { mode := .gated, swallow := false }, endCb := .plain, cancelCb := .plain, badCall := false, isCoro := true, hooks := {} }

def C03_demo : History :=
  [.mkpool (some 1) none none, .on 0 [] (.apply 1 none C03_spec), .run 0 [], .run 0 [],
   .on 0 [] (.cancel [0]), .run 0 []]

example : (((World.init 0).run C03_demo).pools.map fun p => p.tasks.map fun k => (k.phase, k.nCC, k.nEC, k.wasCancelled)) =
    [[(Phase.finished, 1, 1, true)]] := by decide +kernel

end Taskpool
