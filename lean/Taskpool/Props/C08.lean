import Taskpool.Props.C09
import Taskpool.Props.C13
import Taskpool.Inv.GatherWorld
/-! # C08 — gather_and_close waits for everything, then closes for good

Step-level theorems about the stages of the call.  That an awaited gather completes only through its children's
completion callbacks is the (modelled) semantics of `asyncio.gather`; the theorems pin down what the collecting
gather of stage 1 needs in order to complete, and what the closing step does.

`C08_gather_count_exact` and `C08_gather_completes_only_when_all_finished` are about whole histories: in every
reachable world every gather's count of completed children is exact (the callback slots that have been run and those
outstanding — registered on a child, queued, or in the loop's ready queue — add up to the number of children), so a
gather completes exactly when its last child has, and the model's defensive test "complete normally only if every child
task has finished" never fails. -/
namespace Taskpool
open Pool

/-- the stage-1 gather over the spawners collects exceptions; such a gather completes only with the completion of
its **last** child — a spawner that was cancelled before it ever ran cannot end the wait early -/
theorem C08_collecting_gather_waits_for_all (G : Gather) (co : Option Outcome) (o : Outcome) (h : G.retExc = true)
    (hv : gatherVerdict G co = some o) : o = .ok ∧ G.nfinished + 1 = G.children.length :=
  gatherVerdict_elim (P := fun v => v = some o → _) G co (fun a => nomatch a.symm.trans h)
    (fun _ a => nomatch a.symm.trans h) (fun a x => ⟨(Option.some.inj x).symm, a⟩) (fun _ => nofun) hv

/-- **the closing step**: when the second gather has completed normally the pool holds no task, is closed, and has no
`until_closed()` waiter left on its list (that each of them is scheduled by this step is `foldl_schedApi_sched`) -/
theorem C08_close_effect (p : Pool) (a : Nat) :
    (p.gacAfter2 a .ok).closed = true ∧ (p.gacAfter2 a .ok).running = [] ∧ (p.gacAfter2 a .ok).cancelledR = [] ∧
    (p.gacAfter2 a .ok).ended = [] ∧ (p.gacAfter2 a .ok).closedWaiters = [] :=
  -- scheduling the waiters touches none of these fields
  foldl_keeps (P := fun q : Pool => q.closed = true ∧ q.running = [] ∧ q.cancelledR = [] ∧ q.ended = [] ∧ q.closedWaiters = [])
    (fun q w => q.schedApi w) (fun q w h => schedApi_eq q w ▸ h) p.closedWaiters _ ⟨rfl, rfl, rfl, rfl, rfl⟩

/-- every waiter of `until_closed()` is scheduled by the closing step -/
theorem foldl_schedApi_sched (ws : List Nat) (q : Pool) (w : Nat) (hw : w ∈ ws) (A : Api) (hA : q.apis[w]? = some A) :
    ∃ A', (ws.foldl (fun p w => p.schedApi w) q).apis[w]? = some A' ∧ A'.sched = true := by
  obtain ⟨as, em, e, hap⟩ := foldl_schedApi_eq ws q
  rw [e]
  exact ⟨_, (hap w).trans (congrArg _ hA), by dsimp only; rw [if_pos hw]⟩

/-- a gather that failed closes nothing: the registries, the flag and the waiters stay as they are -/
theorem C08_failure_does_not_close (p : Pool) (a : Nat) (o : Outcome) (ho : o ≠ .ok) :
    (p.gacAfter2 a o).closed = p.closed ∧ (p.gacAfter2 a o).running = p.running ∧
    (p.gacAfter2 a o).closedWaiters = p.closedWaiters := by
  unfold gacAfter2
  split
  · exact absurd rfl ho
  · exact ⟨rfl, rfl, rfl⟩

/-- on an open pool `until_closed()` only registers itself as a waiter (it is not completed, nothing is scheduled); on a
closed pool it returns at once (`C08_until_closed_returns_when_closed`); the waiters are scheduled by the closing step
(`foldl_schedApi_sched`) -/
theorem C08_until_closed_waits (p : Pool) (a : Nat) (A : Api) (hA : p.apis[a]? = some A) (ho : p.closed = false) :
    (p.untilClosedStart a).closedWaiters = p.closedWaiters ++ [a] ∧
    (p.untilClosedStart a).apis[a]? = some { A with frame := .waitClosed } ∧ (p.untilClosedStart a).emit = p.emit := by
  unfold untilClosedStart
  simp only [ho, Bool.false_eq_true, if_false]
  exact ⟨rfl, modify_get_self hA _, rfl⟩

theorem C08_until_closed_returns_when_closed (p : Pool) (a : Nat) (A : Api) (hA : p.apis[a]? = some A)
    (ho : p.closed = true) :
    (p.untilClosedStart a).apis[a]? = some { A with frame := .done, outcome := some .ok, sched := false } := by
  unfold untilClosedStart
  simp only [ho, if_true]
  exact modify_get_self hA _

/-- right after the closing step `apply` of a coroutine function raises PoolIsClosed.  (For `map` / `start` apply
`C09_closed_rejects_map` / `C09_closed_rejects_start` likewise; that the pool stays closed from then on is
`C08_closed_forever`, Props/Temporal.lean.) -/
theorem C08_closed_for_good (p : Pool) (a : Nat) (num : Int) (group : Option String) (sp : SpawnSpec)
    (hc : sp.isCoro = true) :
    ((p.gacAfter2 a .ok).doApply num group sp).2 = .err .poolIsClosed :=
  by rw [C09_closed_rejects_apply _ num group sp hc (C08_close_effect p a).1]

theorem World.cfg_of_pool (base : Nat) (h : History) (i : Nat) (p : Pool)
    (hp : ((World.init base).run h).pools[i]? = some p) : ∃ c, Reached base h c p :=
  let ⟨c, hc, _⟩ := (World.reachable baseC_invariant base h fun x _ => admits_all x).get hp
  ⟨c, i, hc, hp⟩

theorem World.outFin_run (base : Nat) (h : History) (n : Nat) (p : Pool)
    (hp : ((World.init base).run h).pools[n]? = some p) : OutFin p := by
  obtain ⟨c, r⟩ := World.cfg_of_pool base h n p hp
  exact fun t k hk ho => (lifeAll r t k hk).out ho

/-- **a complete count means a completed gather whose child tasks have all finished** — in every pool of every
reachable world -/
theorem C08_gather_count_exact (base : Nat) (h : History) (n : Nat) (p : Pool) (g : Nat) (G : Gather)
    (hp : ((World.init base).run h).pools[n]? = some p) (hG : p.gathers[g]? = some G)
    (hn : G.children.length ≤ G.nfinished) :
    G.outer.isSome = true ∧ ∀ t, Child.task t ∈ G.children → TaskFin p t := by
  have hinv := (World.ginv_run base h).inv n p hp
  refine ⟨hinv.fin g G hG hn, ?_⟩
  intro t ht
  obtain ⟨j, hj, hjc⟩ := List.getElem_of_mem ht
  obtain ⟨k, hk, hr⟩ := hinv.reg g G j t hG (by rw [List.getElem?_eq_getElem hj, hjc])
  refine ⟨k, hk, ?_⟩
  apply Classical.byContradiction
  intro hnf
  have hout : k.outcome = none := by
    cases hko : k.outcome with
    | none => rfl
    | some o => exact absurd (World.outFin_run base h n p hp t k hk (by rw [hko]; rfl)) hnf
  -- the unfinished child still carries its registration, so its slot is outstanding and the count incomplete, against `hn`
  have := hinv.on.room hG (Nat.lt_of_lt_of_le (Pool.pot_ge_reg p t k hk hout (g, j) (hr hnf)) (Nat.le_add_left _ _))
  omega

/-- **the defensive test of the model never fails**: whenever the loop is about to run a gather callback handle that
would complete the gather normally, every child task of that gather has finished — so "the outer future completes
only when every child has" is a theorem about the machine, not an assumption built into it -/
theorem C08_gather_completes_only_when_all_finished (base : Nat) (h : History) (k n g j : Nat) (p : Pool) (G : Gather)
    (co : Option Outcome)
    (hk : ((World.init base).run h).ready[k]? = some (n, .gchild g j))
    (hp : ((World.init base).run h).pools[n]? = some p) (hG : p.gathers[g]? = some G)
    (hv : gatherVerdict G co = some .ok) :
    G.children.all p.childFinished = true := by
  have hinv := (World.ginv_run base h).inv n p hp
  have hpos : 0 < ((World.init base).run h).rdy n (g, j) := by
    rw [World.rdy_eq]
    exact List.count_pos_iff.mpr (List.mem_of_getElem? hk)
  have hc := Pool.verdict_ok_count G co hv
  exact Pool.all_childFinished p G (hinv.all_finished (World.outFin_run base h n p hp) g G hG j hpos (by omega))

/-! Non-vacuity: a pool with one running task; `gather_and_close` completes only after the task has ended, then
the pool is closed and the `until_closed()` waiter is released. -/
def C08_demo : History :=
  [.mkpool (some 1) none none, .on 0 [] (.apply 1 none Pool.gatedSpec), .on 0 [] .untilClosed,
   .run 0 [], .run 0 [], .run 0 [], .on 0 [] (.gac false), .run 0 [], .run 0 []]

example : (((World.init 0).run C08_demo).pools.map fun p => (p.closed, p.apis.map (·.outcome), p.running)) =
    [(false, [none, none], [0])] := by decide +kernel
example : (((World.init 0).run (C08_demo ++ [.on 0 [] (.gate 0 .ok), .run 0 [], .run 0 [], .run 0 [], .run 0 []])).pools.map
    fun p => (p.closed, p.apis.map (·.outcome), p.running)) = [(true, [some Outcome.ok, some Outcome.ok], [])] := by
  decide +kernel

-- both gathers (stage 1: the spawner, stage 2: the task) have one child, a complete count, and have completed normally
example : (((World.init 0).run (C08_demo ++ [.on 0 [] (.gate 0 .ok), .run 0 [], .run 0 [], .run 0 [], .run 0 []])).pools.map
    fun p => p.gathers.map fun G => (G.children.length, G.nfinished, G.outer)) = [[(1, 1, some Outcome.ok), (1, 1, some Outcome.ok)]] := by
  decide +kernel

end Taskpool
