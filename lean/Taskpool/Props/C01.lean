import Taskpool.Inv.Count
import Taskpool.Props.C02
/-! # C01 — Pool size is never exceeded -/
namespace Taskpool

/-- a history in which no assignment to `pool_size` occurs ("pool size fixed while tasks are in flight") -/
def History.NoSetSize (h : History) : Prop := ∀ x ∈ h, x.admits noSetSize = true

/-- **C01 (first clause).** For every pool size `n`, both pool classes, any number of pools in the loop, every
history without an assignment to `pool_size` — any interleaving of requests, completions, failures, cancellations,
flushes and closes, placed between any two handles or inside any user code the pool runs, with handles executed in
*any* order — at no instant do more than `n` workers run in a pool of size `n`. -/
theorem C01_live_le_size (base : Nat) (h : History) (hn : h.NoSetSize)
    (i : Nat) (c : Cfg) (p : Pool) (n : Nat)
    (hc : ((World.init base).run h).cfgs[i]? = some c) (hp : ((World.init base).run h).pools[i]? = some p)
    (hsz : c.size0 = .fin n) : p.live ≤ n := by
  have hg := goodFin ⟨i, hc, hp⟩ hn hsz
  obtain ⟨v, _, hs⟩ := hg.slot
  have := live_le_held _ hg.phase
  omega

/-- **C01 (reported count).** Under the same quantifier the reported `num_running` — even together with
`num_cancelled`, the tasks sitting in their cancel callback — never exceeds the size. -/
theorem C01_running_le_size (base : Nat) (h : History) (hn : h.NoSetSize)
    (i : Nat) (c : Cfg) (p : Pool) (n : Nat)
    (hc : ((World.init base).run h).cfgs[i]? = some c) (hp : ((World.init base).run h).pools[i]? = some p)
    (hsz : c.size0 = .fin n) : p.running.length + p.cancelledR.length ≤ n := by
  have hg := goodFin ⟨i, hc, hp⟩ hn hsz
  obtain ⟨v, _, hs⟩ := hg.slot
  have := inflight_le_held p hg.reg
  omega

/-- **C01 (default = unbounded).** A pool constructed without a size is never full, and its semaphore has no waiter:
nobody ever has to wait for room. -/
theorem C01_unbounded_never_full (base : Nat) (h : History) (hn : h.NoSetSize)
    (i : Nat) (c : Cfg) (p : Pool)
    (hc : ((World.init base).run h).cfgs[i]? = some c) (hp : ((World.init base).run h).pools[i]? = some p)
    (hsz : c.size0 = .inf) : p.isFull = false ∧ p.sem.waiters = [] := by
  obtain ⟨hv, hw⟩ := (goodInf ⟨i, hc, hp⟩ hn hsz).slot
  exact ⟨by simp [Pool.isFull, Sem.locked, hv, hw, Cap.isZero], hw⟩

theorem Sem.locked_iff (s : Sem) : s.locked = true ↔ s.value = .fin 0 ∨ ∃ w ∈ s.waiters, w.st ≠ .cancelled := by
  have : s.value.isZero = true ↔ s.value = .fin 0 := by
    cases s.value with
    | inf => simp [Cap.isZero]
    | fin n => cases n <;> simp [Cap.isZero]
  simp [Sem.locked, this]

theorem full_at_capacity_core {n : Nat} {p : Pool} (hs : SlotOK (.fin n) p) (hr : RegOK p) (hl : p.lost = false)
    (hfull : p.running.length = n) : p.isFull = true := by
  obtain ⟨v, hv, hs⟩ := idle_accounting_core hs hr hl
  exact (Sem.locked_iff _).mpr (Or.inl (by rw [hv]; congr; omega))

/-- **C01 (`is_full`, one direction).** Whenever as many tasks count as running as the pool has slots, `is_full` is
true (nothing `lost`, DESIGN §4.3 — discharged by `C03_never_lost` for histories without `gather_and_close`). -/
theorem C01_full_at_capacity (base : Nat) (h : History) (hn : h.NoSetSize)
    (i : Nat) (c : Cfg) (p : Pool) (n : Nat)
    (hc : ((World.init base).run h).cfgs[i]? = some c) (hp : ((World.init base).run h).pools[i]? = some p)
    (hsz : c.size0 = .fin n) (hl : p.lost = false) (hfull : p.running.length = n) : p.isFull = true :=
  have hg := goodFin ⟨i, hc, hp⟩ hn hsz
  full_at_capacity_core hg.slot hg.reg hl hfull

/-- "full ⇒ at capacity": if a slot were free, the no-lost-wake-up invariant (`WakeOK`) would leave no pending waiter,
so every waiter entry would be a cancelled one and `is_full` false -/
theorem isFull_iff_core {n : Nat} {L : Bool} {p : Pool} (hg : Good (.fin n) L true p) (hl : p.lost = false)
    (hcb : p.cancelledR = []) (hgr : grantsL p.sem.waiters = 0) : p.isFull = true ↔ p.running.length = n := by
  refine ⟨fun hfull => ?_, full_at_capacity_core hg.slot hg.reg hl⟩
  obtain ⟨v, hv, hs⟩ := idle_accounting_core hg.slot hg.reg hl
  rw [hcb, hgr] at hs
  rcases Nat.eq_zero_or_pos v with rfl | hpos
  · simpa using hs
  · exfalso
    rcases (Sem.locked_iff _).mp hfull with e | ⟨w, hw, hne⟩
    · rw [hv] at e
      cases e
      exact Nat.lt_irrefl _ hpos
    · cases hst : w.st with
      | pending => exact hg.wk (hg.rz rfl) v hv hpos hgr w hw hst
      | granted => exact (grantsL_eq_zero _).mp hgr w hw hst
      | cancelled => exact hne hst

/-- **C01 (`is_full`, both directions).** In every pool of finite size after every history without an assignment to
`pool_size` and without `gather_and_close`: at any point where no task sits in its cancel callback
(`num_cancelled = 0`) and no spawner has been handed a slot it has not picked up yet (true whenever the loop is idle:
the hand-over schedules the spawner), `is_full` is true **exactly when** `num_running` equals the pool size. The
direction "not at capacity ⇒ not full" rests on the semaphore's no-lost-wake-up invariant (`WakeOK`, DESIGN §4.3). -/
theorem C01_is_full_iff (base : Nat) (h : History) (hn : h.NoSetSize) (hg : ∀ x ∈ h, x.admits noGac = true)
    (i : Nat) (c : Cfg) (p : Pool) (n : Nat)
    (hc : ((World.init base).run h).cfgs[i]? = some c) (hp : ((World.init base).run h).pools[i]? = some p)
    (hsz : c.size0 = .fin n) (hcb : p.cancelledR = []) (hgr : grantsL p.sem.waiters = 0) :
    p.isFull = true ↔ p.running.length = n :=
  isFull_iff_core (goodFin ⟨i, hc, hp⟩ hn hsz) (strictAll ⟨i, hc, hp⟩ hg).1 hcb hgr

/-- size 0: nothing may ever start -/
theorem C01_zero_starts_nothing (base : Nat) (h : History) (hn : h.NoSetSize) (i : Nat) (c : Cfg) (p : Pool)
    (hc : ((World.init base).run h).cfgs[i]? = some c) (hp : ((World.init base).run h).pools[i]? = some p)
    (hsz : c.size0 = .fin 0) : p.live = 0 := by
  have := C01_live_le_size base h hn i c p 0 hc hp hsz
  omega

/-! Non-vacuity: a concrete history (size-1 pool, `apply num=2` of a gated worker, three handles) reaches a state
with a live worker, a blocked spawner and a full pool — the hypotheses are satisfiable and the bound is tight. -/
def C01_demo : History :=
  [.mkpool (some 1) none none,
   .on 0 [] (.apply 2 none Pool.gatedSpec),
   .run 0 [], .run 0 [], .run 0 []]

example : (((World.init 0).run C01_demo).pools.map Pool.live) = [1] := by decide +kernel
example : (((World.init 0).run C01_demo).pools.map Pool.isFull) = [true] := by decide +kernel
example : ∀ x ∈ C01_demo, x.admits noSetSize = true := by decide
example : ∀ x ∈ C01_demo, x.admits noGac = true := by decide
/-- the hypotheses of `C01_is_full_iff` hold in that state (one running task = size 1, the second invocation waits):
nobody in a cancel callback, no slot on its way to a spawner, a *pending* waiter in the queue -/
example : (((World.init 0).run C01_demo).pools.map fun p =>
    (p.cancelledR.length, grantsL p.sem.waiters, p.running.length, p.sem.waiters.length)) = [(0, 0, 1, 1)] := by
  decide +kernel

end Taskpool
