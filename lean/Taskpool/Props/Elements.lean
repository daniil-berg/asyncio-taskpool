import Taskpool.Inv.ElemWalk2
import Taskpool.Inv.GoodInv
/-! # C04 / C05 — which arguments each task is called with

After **every** history (`World.elem_run`, `Inv/ElemWalk2.lean`; the invariant is `ElemOK`, `Inv/Elem.lean`): each
invocation of an `apply` / `start` request is called with the request's own arguments; each task of a map-style request
is called with one element of the iterable in the star variant of its own request; and within a request the element
indices increase strictly with the task ids — no element is handed to two tasks and the tasks see the elements in
iteration order, however long the consumer had to wait between pulling an element and creating its task, whatever was
skipped, cancelled or requested in between.  The monitor clauses `wrong-arguments`, `wrong-element`, `element-order` check
the same on the real trace. -/
namespace Taskpool
open Pool

/-- **C04**: a task of an `apply` / `start` request was called as `func(*args, **kwargs)` of its request -/
theorem C04_invocation_arguments (base : Nat) (h : History) (i : Nat) (c : Cfg) (p : Pool)
    (hc : ((World.init base).run h).cfgs[i]? = some c) (hp : ((World.init base).run h).pools[i]? = some p)
    (t : Nat) (k : PTask) (r : Req) (ht : p.tasks[t]? = some k) (hr : p.reqs[k.req]? = some r) (hk : r.kind = .apply) :
    k.arg = .apply := by
  have he := World.elem_run ⟨i, hc, hp⟩
  apply he.ap t k ht
  cases hm : k.isMap with
  | false => rfl
  | true =>
    have := (he.km t k r ht hr).mp hm
    rw [hk] at this; cases this

/-- **C05**: a task of a map-style request was called with one element of the iterable, as `func(x)`, `func(*x)` or
`func(**x)` according to the variant of *its* request, and that element is one the request has already accounted for -/
theorem C05_task_gets_one_element (base : Nat) (h : History) (i : Nat) (c : Cfg) (p : Pool)
    (hc : ((World.init base).run h).cfgs[i]? = some c) (hp : ((World.init base).run h).pools[i]? = some p)
    (t : Nat) (k : PTask) (r : Req) (ht : p.tasks[t]? = some k) (hr : p.reqs[k.req]? = some r) (hk : r.kind = .map) :
    ∃ j, k.arg = .elem r.stars j ∧ j < r.created + r.skipped ∧ j < r.pulled := by
  have he := World.elem_run ⟨i, hc, hp⟩
  have hm : k.isMap = true := (he.km t k r ht hr).mpr hk
  obtain ⟨r', j, hr', _, ha, hj⟩ := he.el t k ht hm
  rw [hr] at hr'; cases hr'
  refine ⟨j, ha, hj, ?_⟩
  have hacc := ((accAll ⟨i, hc, hp⟩).rq k.req r hr).2 hk
  have := hacc.2.1
  simp only [Req.cnt] at this
  omega

/-- **C05: each element at most once, in iteration order**: of two tasks of the same request the one with the larger
id was called with a later element — in particular no element is repeated -/
theorem C05_elements_in_order (base : Nat) (h : History) (i : Nat) (c : Cfg) (p : Pool)
    (hc : ((World.init base).run h).cfgs[i]? = some c) (hp : ((World.init base).run h).pools[i]? = some p)
    (t1 t2 : Nat) (k1 k2 : PTask) (s1 s2 j1 j2 : Nat) (hlt : t1 < t2) (h1 : p.tasks[t1]? = some k1)
    (h2 : p.tasks[t2]? = some k2) (hreq : k1.req = k2.req) (a1 : k1.arg = .elem s1 j1) (a2 : k2.arg = .elem s2 j2) :
    j1 < j2 :=
  (World.elem_run ⟨i, hc, hp⟩).ord t1 t2 k1 k2 s1 s2 j1 j2 hlt h1 h2 hreq a1 a2

/-! Non-vacuity: `starmap` over four elements of which the second one's call raises, `num_concurrent = 1`, pool of size 1:
three tasks, called with elements 0, 2, 3 in that order. -/
def Elements_demo : History :=
  [.mkpool (some 1) none none,
   .on 0 [] (.map 1 [⟨false, false⟩, ⟨true, false⟩, ⟨false, false⟩, ⟨false, false⟩] 1 none gatedSpec),
   .run 0 [], .run 0 [], .on 0 [] (.gate 0 .ok), .run 0 [], .run 0 [], .run 0 [],
   .on 0 [] (.gate 1 .ok), .run 0 [], .run 0 [], .run 0 [], .on 0 [] (.gate 2 .ok), .run 0 [], .run 0 []]

example : (((World.init 0).run Elements_demo).pools.map fun p => p.tasks.map (·.arg)) =
    [[ArgD.elem 1 0, ArgD.elem 1 2, ArgD.elem 1 3]] := by decide +kernel

end Taskpool
