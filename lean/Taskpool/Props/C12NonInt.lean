import Taskpool.Inv.NonIntColl
/-! # C12 — A failing task or callback harms only itself: two-run noninterference

Two histories that differ in ONE input — the future task `t` of pool `i` awaits completes with an exception in one
run and normally in the other, at the worker's last await or inside a coroutine callback — lead to worlds that are
equal except for what the erasure `Pool.er t` forgets of pool `i`: the awaited future, `pendingExc` and the value of
the outcome of task `t`, and which of `raised t` / `returned t` (`cancelCbRaised t` / `cancelCbDone t`,
`endCbRaised t` / `endCbDone t`) the log holds.  Every other task, every registry, semaphore, spawner, gather,
background call and every queued handle is the same — provided every `flush` / `gather_and_close` of the histories
collects exceptions (`return_exceptions=True`; otherwise the call itself raises what the task raised). -/
namespace Taskpool
open Pool

/-- the relation on pools (`PR`), for pool `j` of the two worlds: equal up to the erasure for pool `i`, equal otherwise -/
def PR (i t j : Nat) (p p' : Pool) : Prop := if j = i then er t p' = er t p else p' = p

theorem PR.refl (i t j : Nat) (p : Pool) : PR i t j p p := by unfold PR; split <;> rfl

theorem PR.emit {i t j : Nat} {p p' : Pool} (h : PR i t j p p') : p'.emit = p.emit := by
  unfold PR at h
  split at h
  · have := congrArg Pool.emit h; exact this
  · rw [h]

theorem PR.lift {i t j : Nat} {p p' : Pool} (h : PR i t j p p') (f : Pool → Pool)
    (hf : er t p' = er t p → er t (f p') = er t (f p)) : PR i t j (f p) (f p') := by
  unfold PR at h ⊢
  by_cases e : j = i
  · rw [if_pos e] at h ⊢
    exact hf h
  · rw [if_neg e] at h ⊢
    rw [h]

theorem PR.comm {i t j : Nat} {p p' : Pool} (h : PR i t j p p') (f : Pool → Pool) (hf : ∀ x, f (er t x) = er t (f x)) :
    PR i t j (f p) (f p') :=
  h.lift f (R_comm hf)

theorem PR.orders {i t j : Nat} {p p' : Pool} (h : PR i t j p p') (o : List (List Nat)) :
    PR i t j ({ p with orders := o } : Pool) ({ p' with orders := o } : Pool) :=
  h.comm (fun x => { x with orders := o }) fun _ => rfl

/-- `PR` for the entries at index `j` of two pool lists (`OR`: on `Option Pool`), both absent or both present -/
def OR (i t j : Nat) : Option Pool → Option Pool → Prop
  | none, none => True
  | some p, some p' => PR i t j p p'
  | _, _ => False

theorem OR.cases {i t j : Nat} {o o' : Option Pool} (h : OR i t j o o') :
    (o = none ∧ o' = none) ∨ ∃ p p', o = some p ∧ o' = some p' ∧ PR i t j p p' := by
  cases o <;> cases o'
  · exact .inl ⟨rfl, rfl⟩
  · exact h.elim
  · exact h.elim
  · exact .inr ⟨_, _, rfl, rfl, h⟩

/-- the relation on worlds (`WR`): the two agree up to the erasure of task `t` in pool `i` -/
structure WR (i t : Nat) (w w' : World) : Prop where
  ready : w'.ready = w.ready
  cfgs : w'.cfgs = w.cfgs
  counter : w'.counter = w.counter
  pools : ∀ j, OR i t j w.pools[j]? w'.pools[j]?

theorem WR.refl (i t : Nat) (w : World) : WR i t w w := by
  refine ⟨rfl, rfl, rfl, ?_⟩
  intro j
  cases h : w.pools[j]? with
  | none => trivial
  | some p => exact PR.refl i t j p

theorem WR.len {i t : Nat} {w w' : World} (h : WR i t w w') : w'.pools.length = w.pools.length := by
  rcases Nat.lt_trichotomy w'.pools.length w.pools.length with hl | hl | hl
  · have := h.pools w'.pools.length
    rw [List.getElem?_eq_none (Nat.le_refl _), List.getElem?_eq_getElem hl] at this
    exact this.elim
  · exact hl
  · have := h.pools w.pools.length
    rw [List.getElem?_eq_none (Nat.le_refl _), List.getElem?_eq_getElem hl] at this
    exact this.elim

theorem WR.set {i t : Nat} {w w' : World} (h : WR i t w w') (k : Nat) (q q' : Pool) (hq : PR i t k q q')
    (v v' : World) (hr : v'.ready = v.ready) (hc : v'.cfgs = v.cfgs) (hn : v'.counter = v.counter)
    (hv : v.pools = w.pools.set k q) (hv' : v'.pools = w'.pools.set k q') : WR i t v v' := by
  refine ⟨hr, hc, hn, ?_⟩
  intro j
  rw [hv, hv', List.getElem?_set, List.getElem?_set]
  have hj := h.pools j
  have hl := h.len
  by_cases e : k = j
  · subst e
    simp only [↓reduceIte, hl]
    split
    · exact hq
    · trivial
  · simp only [e, ↓reduceIte]
    exact hj

abbrev CollW (w : World) : Prop := w.All (fun _ p => Pool.AllColl p)

/-- an operation on pool `k`, possibly not the same in the two runs, with related results -/
theorem WR.on {i t : Nat} {w w' : World} (h : WR i t w w') (k : Nat) (ords : List (List Nat)) (op op' : Op)
    (hop : ∀ p p', w.pools[k]? = some p → PR i t k p p' →
      PR i t k (({ p with orders := ords } : Pool).applyOp op).1 (({ p' with orders := ords } : Pool).applyOp op').1) :
    WR i t (w.step (.on k ords op)).1 (w'.step (.on k ords op')).1 := by
  simp only [World.step]
  rcases (h.pools k).cases with ⟨hp, hp'⟩ | ⟨p, p', hp, hp', hk⟩
  · rw [hp, hp']; exact h
  · rw [hp, hp']
    exact h.set k _ _ (hop p p' hp hk) _ _ h.ready h.cfgs h.counter rfl rfl

theorem WR.step {i t : Nat} {w w' : World} (h : WR i t w w') (hw : CollW w) (hw' : CollW w') (x : WOp) :
    WR i t (w.step x).1 (w'.step x).1 := by
  cases x with
  | mkpool size simple name =>
    simp only [World.step, World.mkpool, h.counter, h.cfgs]
    cases notCoroFn simple with
    | true => exact h
    | false =>
      cases negSize size with
      | true => exact ⟨h.ready, rfl, rfl, h.pools⟩
      | false =>
        refine ⟨h.ready, rfl, rfl, fun j => ?_⟩
        simp only [Bool.false_eq_true, ↓reduceIte, List.getElem?_append, h.len]
        split
        · exact h.pools j
        · cases j - w.pools.length with
          | zero => exact PR.refl i t j _
          | succ n => trivial
  | on k orders op =>
    exact h.on k orders op op fun _ _ _ hk => (PR.orders hk orders).lift (fun x => (x.applyOp op).1) fun e => (applyOp_R e op).1
  | run k orders =>
    simp only [World.step, h.ready]
    cases w.ready[k]? with
    | none => exact h
    | some jr =>
      rcases (h.pools jr.1).cases with ⟨hp, hp'⟩ | ⟨p, p', hp, hp', hj⟩
      · simp only [hp, hp']; exact ⟨rfl, h.cfgs, h.counter, h.pools⟩
      · obtain ⟨_, _, hc⟩ := hw.get hp
        obtain ⟨_, _, hc'⟩ := hw'.get hp'
        simp only [hp, hp']
        have hr := (PR.orders hj orders).lift (fun x => x.runRef jr.2) fun e =>
          runRef_R e (hc'.of_eq rfl rfl) (hc.of_eq rfl rfl) jr.2
        exact h.set jr.1 _ _ hr _ _ rfl h.cfgs h.counter rfl rfl

theorem WR.drain {i t : Nat} {w w' : World} (h : WR i t w w') : WR i t w.drain w'.drain := by
  refine ⟨?_, h.cfgs, h.counter, ?_⟩
  · simp only [World.drain, h.ready]
    congr 2
    apply List.ext_getElem?
    intro n
    simp only [List.getElem?_map, List.getElem?_zipIdx]
    rcases (h.pools n).cases with ⟨hp, hp'⟩ | ⟨p, p', hp, hp', hn⟩
    · rw [hp, hp']
    · rw [hp, hp', Option.map_some, Option.map_some, Option.map_some, Option.map_some, hn.emit]
  · intro j
    simp only [World.drain, List.getElem?_map]
    rcases (h.pools j).cases with ⟨hp, hp'⟩ | ⟨p, p', hp, hp', hj⟩
    · rw [hp, hp']; trivial
    · rw [hp, hp']; exact hj.comm (fun x => { x with emit := [] }) fun _ => rfl

theorem WR.next {i t : Nat} {w w' : World} (h : WR i t w w') (hw : CollW w) (hw' : CollW w') (x : WOp) :
    WR i t (w.next x) (w'.next x) := (h.step hw hw' x).drain

theorem WR.run {i t : Nat} (hs : History) (hc : ∀ x ∈ hs, x.admits Op.collecting = true) :
    ∀ {w w' : World}, WR i t w w' → CollW w → CollW w' → WR i t (w.run hs) (w'.run hs) := by
  induction hs with
  | nil => intro w w' h _ _; exact h
  | cons x xs ih =>
    intro w w' h hw hw'
    simp only [World.run, List.foldl_cons]
    have hx := hc x (by simp)
    exact ih (fun y hy => hc y (by simp [hy])) (h.next hw hw' x) (World.all_next allCollInvariant w x hx hw)
      (World.all_next allCollInvariant w' x hx hw')

/-- **the differing input**: on pool `i`, the future of task `t` completes with `e` in one run, normally in the other -/
theorem WR.diff (i t : Nat) (w : World) (ords : List (List Nat)) (e : Err)
    (hlast : ∀ p tk, w.pools[i]? = some p → p.tasks[t]? = some tk → tk.phase = .inWorker → tk.awaitsLeft = 0) :
    WR i t (w.next (.on i ords (.gate t (.exc e)))) (w.next (.on i ords (.gate t .ok))) := by
  refine WR.drain ((WR.refl i t w).on i ords _ _ fun p p' hp hk => ?_)
  have ho := PR.orders hk ords
  unfold PR at ho ⊢
  rw [if_pos rfl] at ho ⊢
  exact (doGate_diff ho.symm e fun tk htk => hlast p tk hp htk).symm

/-- **C12, two-run noninterference.**  The two runs differ in one input: the future task `t` of pool `i` awaits
completes with the exception `e` in `w` and normally in `w'`.  Then the ready queues, the configurations, the pool
counter and every pool other than `i` are equal, and pool `i` is the same up to `Pool.er t`. -/
theorem C12_noninterference (base : Nat) (h1 h2 : History) (i : Nat) (ords : List (List Nat)) (t : Nat) (e : Err)
    (hc1 : ∀ x ∈ h1, x.admits Op.collecting = true) (hc2 : ∀ x ∈ h2, x.admits Op.collecting = true)
    (hlast : ∀ p tk, ((World.init base).run h1).pools[i]? = some p → p.tasks[t]? = some tk →
      tk.phase = .inWorker → tk.awaitsLeft = 0) :
    let w  := (World.init base).run (h1 ++ [WOp.on i ords (.gate t (.exc e))] ++ h2)
    let w' := (World.init base).run (h1 ++ [WOp.on i ords (.gate t .ok)] ++ h2)
    w'.ready = w.ready ∧ w'.cfgs = w.cfgs ∧ w'.counter = w.counter ∧ w'.pools.length = w.pools.length ∧
    ∀ j p p', w.pools[j]? = some p → w'.pools[j]? = some p' → (if j = i then p'.er t = p.er t else p' = p) := by
  intro w w'
  have hw1 : CollW ((World.init base).run h1) := World.reachable allCollInvariant base h1 hc1
  have hR : WR i t w w' := by
    simp only [w, w', World.run, List.foldl_append, List.foldl_cons, List.foldl_nil]
    exact WR.run h2 hc2 (WR.diff i t _ ords e hlast) (World.all_next allCollInvariant _ _ rfl hw1)
      (World.all_next allCollInvariant _ _ rfl hw1)
  refine ⟨hR.ready, hR.cfgs, hR.counter, hR.len, ?_⟩
  intro j p p' hp hp'
  have := hR.pools j
  rw [hp, hp'] at this
  exact this

/-- task `t` of pool `i` is suspended on a pending future, inside a coroutine callback or at its worker's last await -/
def World.lastAwait (w : World) (i t : Nat) : Bool :=
  match w.pools[i]? with
  | none => false
  | some p =>
    match p.tasks[t]? with
    | none => false
    | some tk =>
      p.wakesOnCancel t && (tk.phase != .inWorker || tk.awaitsLeft == 0)

theorem World.lastAwait_spec {w : World} {i t : Nat} (h : w.lastAwait i t = true) :
    ∀ p tk, w.pools[i]? = some p → p.tasks[t]? = some tk → tk.phase = .inWorker → tk.awaitsLeft = 0 := by
  intro p tk hp htk hph
  simp only [World.lastAwait, hp, htk, hph, bne_self_eq_false, Bool.false_or, Bool.and_eq_true, beq_iff_eq] at h
  exact h.2

/-- the statement with the hypothesis in its checkable form: task `t` is suspended on a pending future (the differing
input does complete it), in a callback or at its last await -/
theorem C12_noninterference' (base : Nat) (h1 h2 : History) (i : Nat) (ords : List (List Nat)) (t : Nat) (e : Err)
    (hc1 : ∀ x ∈ h1, x.admits Op.collecting = true) (hc2 : ∀ x ∈ h2, x.admits Op.collecting = true)
    (hlast : ((World.init base).run h1).lastAwait i t = true) :
    let w  := (World.init base).run (h1 ++ [WOp.on i ords (.gate t (.exc e))] ++ h2)
    let w' := (World.init base).run (h1 ++ [WOp.on i ords (.gate t .ok)] ++ h2)
    w'.ready = w.ready ∧ w'.cfgs = w.cfgs ∧ w'.counter = w.counter ∧ w'.pools.length = w.pools.length ∧
    ∀ j p p', w.pools[j]? = some p → w'.pools[j]? = some p' → (if j = i then p'.er t = p.er t else p' = p) :=
  C12_noninterference base h1 h2 i ords t e hc1 hc2 (World.lastAwait_spec hlast)

/-- a coarser erasure, which `er` refines (`erCoarse_of_er`): forget how task `t` ended, the state of the future it awaits included (and the
bookkeeping flag `ambiguous`) -/
def Pool.erCoarse (t : Nat) (p : Pool) : Pool :=
  { p with tasks := p.tasks.modify t (fun k => { k with fut := .ok, pendingExc := none, outcome := k.outcome.map fun _ => Outcome.ok }),
           log := p.log.map (erEv t), ambiguous := false }

theorem Pool.erCoarse_er (t : Nat) (p : Pool) : (er t p).erCoarse t = p.erCoarse t := by
  simp only [Pool.erCoarse, er, List.modify_modify_eq, List.map_map]
  congr 1
  · exact congrArg _ <| funext fun k => by simp only [Function.comp_apply, erTask, Option.map_map]; rfl
  · exact List.map_congr_left fun e _ => erEv_erEv t e

theorem Pool.erCoarse_of_er {t : Nat} {p p' : Pool} (h : er t p' = er t p) : p'.erCoarse t = p.erCoarse t := by
  rw [← Pool.erCoarse_er t p', ← Pool.erCoarse_er t p, h]

/-- two gated workers are started and reach their (only) suspension point -/
def C12_demo_before : History :=
  [.mkpool (some 2) none none, .on 0 [] (.apply 2 none Pool.gatedSpec), .run 0 [], .run 0 [], .run 0 []]

/-- task 0 ends, a collecting `flush`, the second task is released and ends, another collecting `flush` -/
def C12_demo_after : History :=
  [.run 0 [], .on 0 [] (.flush true), .run 0 [], .on 0 [] (.gate 1 .ok), .run 0 [], .on 0 [] (.flush true), .run 0 []]

def C12_demo_raises : World :=
  (World.init 0).run (C12_demo_before ++ [WOp.on 0 [] (.gate 0 (.exc (.user 1)))] ++ C12_demo_after)
def C12_demo_returns : World :=
  (World.init 0).run (C12_demo_before ++ [WOp.on 0 [] (.gate 0 .ok)] ++ C12_demo_after)

/-- the premises hold: every `flush` collects, task 0 is suspended at its last await -/
example : (∀ x ∈ C12_demo_before, x.admits Op.collecting = true) ∧ (∀ x ∈ C12_demo_after, x.admits Op.collecting = true) ∧
    ((World.init 0).run C12_demo_before).lastAwait 0 0 = true := by decide +kernel

/-- the two runs do differ — in task 0's own record and log entry; both background calls return normally in both -/
example : (C12_demo_raises.pools.map fun p => p.log.map Ev.show) = [["S0(a)", "S1(a)", "E0", "R1"]] ∧
    (C12_demo_raises.pools.map fun p => p.tasks.map fun k => (k.outcome, k.pendingExc)) =
      [[(some (.exc (.user 1)), some (.user 1)), (some .ok, none)]] ∧
    (C12_demo_raises.pools.map fun p => p.apis.map fun a => a.outcome) = [[some .ok, some .ok]] := by
  decide +kernel

example : (C12_demo_returns.pools.map fun p => p.log.map Ev.show) = [["S0(a)", "S1(a)", "R0", "R1"]] ∧
    (C12_demo_returns.pools.map fun p => p.tasks.map fun k => (k.outcome, k.pendingExc)) =
      [[(some .ok, none), (some .ok, none)]] ∧
    (C12_demo_returns.pools.map fun p => p.apis.map fun a => a.outcome) = [[some .ok, some .ok]] := by
  decide +kernel

/-- the theorem applied to the demonstration -/
example : C12_demo_returns.ready = C12_demo_raises.ready ∧
    ∀ p p', C12_demo_raises.pools[0]? = some p → C12_demo_returns.pools[0]? = some p' → p'.er 0 = p.er 0 := by
  have h := C12_noninterference' 0 C12_demo_before C12_demo_after 0 [] 0 (.user 1) (by decide) (by decide) (by decide +kernel)
  exact ⟨h.1, fun p p' hp hp' => h.2.2.2.2 0 p p' hp hp'⟩

end Taskpool
