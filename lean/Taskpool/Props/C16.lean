import Taskpool.Inv.ControlParse
import Taskpool.Model.Control.Session
/-! C16 — any pool can be served: the handshake succeeds, the command surface is exactly the public members.
(partial: the help *text* and argparse's formatter are outside the model; they are sampled by the check at the
terminal widths of the property's quantifier.)  All statements are for an arbitrary member table.

`C16_exposes_exactly_public` and `C16_nonpublic_not_exposed` hold of every table; every other theorem that mentions one
assumes `wellFormed ms` (Model/Control.lean): member names are distinct ASCII identifiers and, for every exposed member,
`paramsOk`: parameter names are distinct identifiers, no option is called `help` (F1), no option starts with `_` (F2), no
parameter is called `command` (F4).  Python itself guarantees everything but the three exclusions (and ASCII), so F1, F2,
F4 are exactly the ways a subclass adding public members can leave the theorems' scope; at those points the real code
fails (known findings, witnessed on every run).  Running out of flag letters is not such a way: `assignFlags` falls back
to the long form and `C16_parser_builds` covers it.  The check evaluates `wellFormed` on the table extracted from the
served classes on every run. -/
namespace Taskpool.Control

/-- a command exists exactly for the public functions and properties of the class, under the dashed name -/
theorem C16_exposes_exactly_public (ms : List Member) (n : Str) :
    n ∈ (commandTable ms).map (·.name) ↔ ∃ m ∈ ms, isPublic m.name = true ∧ m.isCommand = true ∧ n = dash m.name := by
  simp only [List.mem_map]
  constructor
  · rintro ⟨c, hc, rfl⟩
    obtain ⟨m, hm, he, rfl⟩ := mem_commandTable.mp hc
    simp only [Member.exposed, Bool.and_eq_true] at he
    exact ⟨m, hm, he.1, he.2, rfl⟩
  · rintro ⟨m, hm, hp, hk, rfl⟩
    exact ⟨toCmd m, mem_commandTable.mpr ⟨m, hm, by simp [Member.exposed, hp, hk], rfl⟩, rfl⟩

/-- no command leads to a member whose name starts with an underscore, or that is neither function nor property -/
theorem C16_nonpublic_not_exposed (ms : List Member) (c : Cmd) (h : c ∈ commandTable ms) :
    c.member ∈ ms ∧ c.member.name.head? ≠ some '_' ∧ c.member.kind ≠ .other := by
  obtain ⟨m, hm, he, rfl⟩ := mem_commandTable.mp h
  simp only [Member.exposed, Bool.and_eq_true, isPublic, bne_iff_ne, ne_eq] at he
  refine ⟨hm, he.1, ?_⟩
  intro hk
  have := he.2
  have hk' : m.kind = .other := hk
  simp [Member.isCommand, hk'] at this

/-- identifiers contain no dash, so distinct members never share a command name -/
theorem C16_dash_injective {a b : Str} (ha : isIdent a = true) (hb : isIdent b = true) (h : dash a = dash b) : a = b :=
  dash_inj ha hb h

/-- the command named after a public member is that member -/
theorem C16_command_resolves (ms : List Member) (hwf : wellFormed ms = true) (m : Member) (hm : m ∈ ms)
    (he : m.exposed = true) : lookupCmd (commandTable ms) (dash m.name) = some { name := dash m.name, member := m } :=
  lookupCmd_exposed hwf hm he

/-- no parameter is ever handed `-h` -/
theorem C16_flags_avoid_help (ps : List Param) (used : List Char) (pf : Param × Option Char)
    (h : pf ∈ assignFlags ps used) : pf.2 ≠ some 'h' := by
  intro hh
  have : 'h' ∈ flagsOf (assignFlags ps used) := List.mem_filterMap.mpr ⟨pf, h, hh⟩
  exact ((assignFlags_spec ps used).1 'h' this).1 rfl

/-- the parser of the handshake can be built for every well-formed class: no two sub-commands share a name, no two
options of a sub-command share an option string (the `-h` / `--help` of every parser included) -/
theorem C16_parser_builds (ms : List Member) (hwf : wellFormed ms = true) : buildOk (commandTable ms) = true :=
  buildOk_of_wf hwf

/-- after a handshake line with any integer width the one reply is the pool's name and the session is ready -/
theorem C16_handshake_reply (ms : List Member) (hwf : wellFormed ms = true) (name : Str) (width : Int) :
    handshake (commandTable ms) name (.valid width) {} = { ready := true, replies := [name] } := by
  simp [handshake, buildOk_of_wf hwf]

theorem parseCmd_help_long (m : Member) {n : Str} (hn : n ≠ []) (hres : resolveLong (optTable m.params) n = .one helpOpt) :
    parseCmd (toCmd m) [.long n] = some (.help (some m.name)) := by
  have hamb : [Tok.long n].any (ambiguousTok (optTable m.params)) = false := by
    simp [ambiguousTok, hres, Resolved.isAmbiguous]
  have hsep : sepOk [Tok.long n] = true := rfl
  simp only [parseCmd, toCmd, hamb, hsep]
  rw [scanOpts_long_cons hn, hres]
  simp [helpOpt]

/-- every command answers `-h` and `--help`, written alone behind the command word, with its help; the top level answers
them with help whatever follows (any tokens but `Tok.other` and `Tok.long []`; the separator `--` is allowed) -/
theorem C16_help_everywhere (ms : List Member) (hwf : wellFormed ms = true) (m : Member) (hm : m ∈ ms)
    (he : m.exposed = true) (w : Word) (hw : w.text = dash m.name) :
    parseLine (commandTable ms) [.word w, .short 'h'] = some (.help (some m.name))
    ∧ parseLine (commandTable ms) [.word w, .long helpName] = some (.help (some m.name))
    ∧ (∀ rest, rest.any Tok.isOther = false → parseLine (commandTable ms) (.short 'h' :: rest) = some (.help none))
    ∧ (∀ rest, rest.any Tok.isOther = false → parseLine (commandTable ms) (.long helpName :: rest) = some (.help none)) := by
  have hl := lookupCmd_exposed hwf hm he
  refine ⟨?_, ?_, ?_, ?_⟩
  · rw [parseLine_command (hw ▸ hl) fun x hx => List.mem_singleton.mp hx ▸ rfl]
    simp [parseCmd, toCmd, ambiguousTok, sepOk, scanOpts, findShort, optTable, helpOpt]
  · have hres : resolveLong (optTable m.params) helpName = .one helpOpt := by
      simp [resolveLong, findLong, optTable, helpOpt]
    rw [parseLine_command (hw ▸ hl) fun x hx => List.mem_singleton.mp hx ▸ rfl]
    exact parseCmd_help_long m (by decide) hres
  · intro rest hr; simp [parseLine, Tok.isOther, hr]
  · intro rest hr; simp [parseLine, Tok.isOther, hr, helpName]

/-- abbreviations of `--help` (argparse's `allow_abbrev`): at the top level `--h`, `--he`, `--hel` are help requests
like `--help` itself (the top-level parser has no other long option); behind a command word every non-empty prefix
of `help` that is a prefix of no other long option of that command is the command's help request -/
theorem C16_help_abbreviated (ms : List Member) (hwf : wellFormed ms = true) (m : Member) (hm : m ∈ ms)
    (he : m.exposed = true) (w : Word) (hw : w.text = dash m.name) (n : Str) (hn : n ≠ []) (hp : n <+: helpName) :
    (∀ rest, rest.any Tok.isOther = false → parseLine (commandTable ms) (.long n :: rest) = some (.help none))
    ∧ ((∀ o ∈ optTable m.params, n <+: o.long → o.long = helpName) →
        parseLine (commandTable ms) [.word w, .long n] = some (.help (some m.name))) := by
  have hnot : Tok.isOther (.long n) = false := by
    cases n with
    | nil => exact absurd rfl hn
    | cons a l => rfl
  constructor
  · intro rest hr
    simp [parseLine, hnot, hr, List.isPrefixOf_iff_prefix.mpr hp]
  · intro hu
    have hl := lookupCmd_exposed hwf hm he
    have hres : resolveLong (optTable m.params) n = .one helpOpt :=
      resolveLong_of_abbrev (optsOk_optTable (wf_params hwf hm he)) (by simp [optTable]) (by simpa [helpOpt] using hp)
        (by simpa [helpOpt] using hu)
    rw [parseLine_command (hw ▸ hl) fun x hx => List.mem_singleton.mp hx ▸ hnot]
    exact parseCmd_help_long m hn hres

/-! non-vacuity: a three-member class (one public method with an `h…` option, one private method, one attribute) -/

def exHow : Param := { name := ['h', 'o', 'w'], kind := .optional, pass := .byPosition, conv := .int }
def exX : Param := { name := ['x'], kind := .positional, pass := .byPosition, conv := .int }
def exMembers : List Member :=
  [ { name := ['L', 'I', 'M'], kind := .other, params := [] },
    { name := ['_', 's'], kind := .function, params := [] },
    { name := ['s', 'a', 'y', '_', 'h', 'i'], kind := .function, params := [exX, exHow] } ]

example : wellFormed exMembers = true := by decide +kernel
example : (commandTable exMembers).map (·.name) = [['s', 'a', 'y', '-', 'h', 'i']] := by decide +kernel
example : assignFlags [exX, exHow] [] = [(exX, none), (exHow, some 'H')] := by decide +kernel
example : buildOk (commandTable exMembers) = true := by decide +kernel
def exSayWord : Word := { text := ['s', 'a', 'y', '-', 'h', 'i'], int? := none, floatOk := false, litOk := false, dotOk := false }
-- `--he` at the top level and behind `say-hi` is help; `--h` behind `say-hi` could be `--help` or `--how`
example : parseLine (commandTable exMembers) [.long ['h', 'e']] = some (.help none) := by decide +kernel
example : parseLine (commandTable exMembers) [.word exSayWord, .long ['h', 'e']]
    = some (.help (some ['s', 'a', 'y', '_', 'h', 'i'])) := by decide +kernel
example : parseLine (commandTable exMembers) [.word exSayWord, .long ['h']] = some (.error .ambiguous) := by decide +kernel

end Taskpool.Control
