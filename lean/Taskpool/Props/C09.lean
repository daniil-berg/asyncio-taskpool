import Taskpool.Inv.GoodInv
/-! # C09 — Rejected requests leave no trace; lock/unlock gate new requests -/
namespace Taskpool
open Pool

/-- every rejection of `apply` returns the pool unchanged (full state equality: no group, no spawner, no pull,
no log entry, no handle) -/
theorem C09_apply_reject_no_change (p : Pool) (num : Int) (group : Option String) (sp : SpawnSpec) (e : Err)
    (h : (p.doApply num group sp).2 = .err e) : (p.doApply num group sp).1 = p := by
  rw [doApply_eq] at h ⊢
  revert h
  cases p.checkStart sp.isCoro with
  | some e' => exact fun _ => rfl
  | none =>
    dsimp only
    split
    · exact fun _ => rfl
    · exact fun h => nomatch h

theorem C09_map_reject_no_change (p : Pool) (stars : Nat) (items : List Item) (nc : Int) (group : Option String)
    (sp : SpawnSpec) (e : Err) (h : (p.doMap stars items nc group sp).2 = .err e) :
    (p.doMap stars items nc group sp).1 = p := by
  rw [doMap_eq] at h ⊢
  revert h
  cases p.checkStart sp.isCoro with
  | some e' => exact fun _ => rfl
  | none =>
    dsimp only
    split
    · exact fun _ => rfl
    · split
      · exact fun _ => rfl
      · exact fun h => nomatch h

theorem C09_start_reject_no_change (p : Pool) (num : Int) (e : Err) (h : (p.doStart num).2 = .err e) :
    (p.doStart num).1 = p := by
  unfold doStart at h ⊢
  revert h
  cases p.simple with
  | none => exact fun _ => rfl
  | some sp =>
    dsimp only
    cases p.checkStart sp.isCoro with
    | some e' => exact fun _ => rfl
    | none => exact fun h => nomatch h

/-- the documented order of the checks: not-a-coroutine-function, closed, locked -/
theorem C09_check_order (p : Pool) (isCoro : Bool) :
    p.checkStart isCoro =
      if !isCoro then some .notCoroutineFunction else if p.closed then some .poolIsClosed
      else if p.locked then some .poolIsLocked else none := rfl

/-- the complete decision table of `apply` -/
theorem C09_apply_decision (p : Pool) (num : Int) (group : Option String) (sp : SpawnSpec) :
    (p.doApply num group sp).2 =
      if !sp.isCoro then .err .notCoroutineFunction
      else if p.closed then .err .poolIsClosed
      else if p.locked then .err .poolIsLocked
      else if (p.groupIds (group.getD (p.genName "apply"))).isSome then .err .groupExists
      else .name (group.getD (p.genName "apply")) := by
  rw [doApply_eq]
  unfold checkStart
  cases sp.isCoro <;> cases p.closed <;> cases p.locked <;> try rfl
  exact apply_ite Prod.snd ..

/-- the complete decision table of the map family (`num_concurrent < 1` is checked after the lock, before the name) -/
theorem C09_map_decision (p : Pool) (stars : Nat) (items : List Item) (nc : Int) (group : Option String) (sp : SpawnSpec) :
    (p.doMap stars items nc group sp).2 =
      if !sp.isCoro then .err .notCoroutineFunction
      else if p.closed then .err .poolIsClosed
      else if p.locked then .err .poolIsLocked
      else if nc < 1 then .err .valueError
      else if (p.groupIds (group.getD (p.genName (mapPrefix stars)))).isSome then .err .groupExists
      else .name (group.getD (p.genName (mapPrefix stars))) := by
  rw [doMap_eq]
  unfold checkStart
  cases sp.isCoro <;> cases p.closed <;> cases p.locked <;> try rfl
  exact (apply_ite Prod.snd ..).trans (congrArg _ (apply_ite Prod.snd ..))

/-- while locked (and open, with a coroutine function) every spawning call is refused with PoolIsLocked -/
theorem C09_locked_rejects_apply (p : Pool) (num : Int) (group : Option String) (sp : SpawnSpec)
    (hc : sp.isCoro = true) (ho : p.closed = false) (hl : p.locked = true) :
    p.doApply num group sp = (p, .err .poolIsLocked) := by
  rw [doApply_eq, hc, checkStart_locked p ho hl]

theorem C09_locked_rejects_map (p : Pool) (stars items nc group) (sp : SpawnSpec)
    (hc : sp.isCoro = true) (ho : p.closed = false) (hl : p.locked = true) :
    p.doMap stars items nc group sp = (p, .err .poolIsLocked) := by
  rw [doMap_eq, hc, checkStart_locked p ho hl]

theorem C09_locked_rejects_start (p : Pool) (num : Int) (sp : SpawnSpec) (hs : p.simple = some sp)
    (hc : sp.isCoro = true) (ho : p.closed = false) (hl : p.locked = true) :
    p.doStart num = (p, .err .poolIsLocked) :=
  doStart_eq p num sp hs _ (hc ▸ checkStart_locked p ho hl)

/-- after close every spawning call of a coroutine function raises PoolIsClosed, locked or not -/
theorem C09_closed_rejects_apply (p : Pool) (num group) (sp : SpawnSpec) (hc : sp.isCoro = true) (ho : p.closed = true) :
    p.doApply num group sp = (p, .err .poolIsClosed) := by
  rw [doApply_eq, hc, checkStart_closed p ho]

theorem C09_closed_rejects_map (p : Pool) (stars items nc group) (sp : SpawnSpec) (hc : sp.isCoro = true)
    (ho : p.closed = true) : p.doMap stars items nc group sp = (p, .err .poolIsClosed) := by
  rw [doMap_eq, hc, checkStart_closed p ho]

theorem C09_closed_rejects_start (p : Pool) (num : Int) (sp : SpawnSpec) (hs : p.simple = some sp)
    (hc : sp.isCoro = true) (ho : p.closed = true) : p.doStart num = (p, .err .poolIsClosed) :=
  doStart_eq p num sp hs _ (hc ▸ checkStart_closed p ho)

theorem C09_negative_size_rejected (p : Pool) (v : Int) (h : v < 0) : p.doSetSize v = (p, .err .valueError) := by
  unfold doSetSize; simp [h]

/-- a constructor call with a negative size or (SimpleTaskPool) a non-coroutine function creates no pool -/
theorem C09_bad_constructor (w : World) (size : Option Int) (simple : Option SpawnSpec) (name : Option String)
    (h : notCoroFn simple = true ∨ negSize size = true) :
    (w.mkpool size simple name).1.pools = w.pools ∧ ∃ e, (w.mkpool size simple name).2 = .err e := by
  unfold World.mkpool
  by_cases h1 : notCoroFn simple = true
  · simp [h1]
  · have h2 : negSize size = true := by rcases h with h | h; exact absurd h h1; exact h
    simp [h1, h2]

/-- `lock()` and `unlock()` are idempotent, and `unlock()` undoes `lock()` exactly -/
theorem C09_lock_idempotent (p : Pool) : p.doLock.doLock = p.doLock := rfl
theorem C09_unlock_idempotent (p : Pool) : p.doUnlock.doUnlock = p.doUnlock := rfl
theorem C09_unlock_restores (p : Pool) (h : p.locked = false) : p.doLock.doUnlock = p := by
  cases p
  dsimp only at h
  subst h
  rfl
theorem C09_lock_touches_only_the_flag (p : Pool) : { p.doLock with locked := p.locked } = p := by
  cases p; rfl

/-- after `unlock()` on an open pool, `apply` of a coroutine function is decided by the group name alone -/
theorem C09_unlock_accepts (p : Pool) (num : Int) (g : String) (sp : SpawnSpec) (hc : sp.isCoro = true)
    (ho : p.closed = false) (hg : (p.groupIds g).isSome = false) :
    (p.doUnlock.doApply num (some g) sp).2 = .name g := by
  have hg' : (p.doUnlock.groupIds g).isSome = false := hg
  rw [C09_apply_decision, hc, show p.doUnlock.closed = false from ho, show p.doUnlock.locked = false from rfl]
  simp only [Bool.not_true, Bool.false_eq_true, if_false, Option.getD_some, hg']

/-! Non-vacuity: a locked pool refuses, the same pool unlocked accepts. -/
example : ((Pool.init (.fin 2) none).doLock.doApply 1 none Pool.gatedSpec).2 = .err .poolIsLocked := by decide +kernel
example : ((Pool.init (.fin 2) none).doLock.doUnlock.doApply 1 none Pool.gatedSpec).2 = .name "apply-worker-group-0" := by
  decide +kernel

end Taskpool
