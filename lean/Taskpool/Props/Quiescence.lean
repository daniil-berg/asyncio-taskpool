import Taskpool.Props.Idle
import Taskpool.Props.C04
import Taskpool.Inv.MapHeldWalk
import Taskpool.Inv.FinWalk
import Taskpool.Inv.ApiWantWalk
import Taskpool.Inv.GatherCount
/-! # Quiescence: nothing is ever left waiting for the pool itself

The properties say "eventually" (C02: every task is *eventually* accounted for; C04: *no invocation is lost*; C05:
*nothing skipped*).  In a model without a notion of fairness, "eventually" means: **whenever the loop has nothing left
to run and user code holds nothing back** (every future the pool's tasks were suspended on has been completed by the
environment, i.e. every asyncio Task of the pool is done), **all the work is done** — no spawner is left suspended on
a semaphore, every request that was never cancelled has started every one of its invocations / consumed its whole
iterable, and the pool's capacity is back.  A lost wake-up, a leaked slot, a spawner forgotten in a queue would each
leave such a state with work undone; the theorems below exclude all of them at once, for every history without
`pool_size` assignment and without `gather_and_close` (the side conditions of the slot books;
`C08_calls_return_at_quiescence` needs neither, and `AtRest` also serves the sealed histories of `Props/Sealed.lean`). -/
namespace Taskpool

open Pool

/-- user code holds nothing back: the asyncio Task of every task of the pool is done -/
def Pool.AllTasksDone (p : Pool) : Prop := ∀ (t : Nat) (k : PTask), p.tasks[t]? = some k → k.outcome.isSome = true

theorem heldM_zero (ts : List PTask) (m : Nat) (h : ∀ k ∈ ts, k.mapHeld = false) : heldM ts m = 0 := by
  unfold heldM
  rw [List.countP_eq_zero]
  intro k hk
  simp [h k hk]

/-- a pool of configuration `c` at a moment when the loop is idle, in a history after which no task is lost and a
request that was never cancelled ends only with its work done: all that the theorems below use of where the state
comes from (`atRest_strict`: no assignment to `pool_size`, no `gather_and_close`; `atRest_sealed`: nobody unlocks) -/
structure AtRest (c : Cfg) (p : Pool) : Prop where
  good : Good c.size0 true true p
  lost : p.lost = false
  idle : IdlePool p
  mh : MHOK p
  nc : p.NcOK
  ok : ∀ (m : Nat) (r : Req), p.reqs[m]? = some r → r.everCancelled = false → ∀ o, r.outcome = some o →
         (o = .ok ∧ r.remaining = 0 ∧ r.items = [] ∧ (r.kind = .map → r.pulled = r.created + r.skipped)) ∨
         (r.kind = .map ∧ o = .exc (.user 4))

theorem atRest_strict {base : Nat} {h : History} {c : Cfg} {p : Pool} (r : Reached base h c p) (hn : h.NoSetSize) (hg : ∀ x ∈ h, x.admits noGac = true)
    (hidle : ((World.init base).run h).ready = []) : AtRest c p :=
  let ⟨i, hc, hp⟩ := r
  ⟨r.of goodC_invariant hn, (strictAll r hg).1, World.idle_pool base h hidle i c p hc hp, r.all mhInvariant, World.nc_run r,
   (r.of finInvariant hg).2.ok⟩

namespace AtRest
variable {c : Cfg} {p : Pool}

theorem tasks (ha : AtRest c p) (hall : p.AllTasksDone) :
    ∀ k ∈ p.tasks, k.phase = .finished ∧ k.released = true ∧ k.mapHeld = false := by
  intro k hk
  obtain ⟨t, ht⟩ := List.getElem?_of_mem hk
  have hf : k.phase = .finished := (ha.good.life t k ht).out (hall t k ht)
  exact ⟨hf, ((ha.good.life t k ht).fin hf ha.lost).1, ha.mh.fin t k ht hf ha.lost⟩

theorem capacity_back (ha : AtRest c p) {n : Nat} (hsz : c.size0 = .fin n) (hpos : 0 < n) (hall : p.AllTasksDone) :
    p.sem.value = .fin n ∧ p.sem.waiters = [] := by
  have hg : Good (.fin n) true true p := hsz ▸ ha.good
  have hgr := grantsL_zero_of_pending _ ha.idle.pend
  have hv := capacity_restored_core hg.slot (fun k hk => (ha.tasks hall k hk).2.1) hgr
  exact ⟨hv, List.eq_nil_iff_forall_not_mem.mpr fun w hw =>
    hg.wk (hg.rz rfl) n hv hpos hgr w hw (ha.idle.pend w hw)⟩

/-- no spawner is suspended: the pool's semaphore has no waiter, and a consumer waiting for a slot of its own call
would, with all `num_concurrent ≥ 1` slots free and none on its way, contradict that semaphore's no-lost-wake-up
invariant -/
theorem no_spawner_left (ha : AtRest c p) (hsz : c.size0 = .inf ∨ ∃ n, c.size0 = .fin n ∧ 0 < n) (hall : p.AllTasksDone)
    (m : Nat) (r : Req) (hr : p.reqs[m]? = some r) : r.outcome.isSome = true := by
  have hwn : p.sem.waiters = [] := by
    rcases hsz with e | ⟨n, e, hpos⟩
    · have hs : SlotOK .inf p := e ▸ ha.good.slot
      exact hs.2
    · exact (ha.capacity_back e hpos hall).2
  cases ho : r.outcome with
  | some o => rfl
  | none =>
    exfalso
    rcases ha.idle.spawners m r hr ho with ⟨_, hm⟩ | ⟨hfr, hne⟩
    · rw [hwn] at hm; cases hm
    · obtain ⟨v, hv, _, hge⟩ := ha.good.map.le m r hr
      have hk : r.kind = .map := by
        cases hkk : r.kind with
        | map => rfl
        | apply => exact absurd hfr ((ha.good.acc.rq m r hr).1 hkk).2.2
      have h1 := ha.nc m r hr hk
      have hM := heldM_zero _ m (fun k hk => (ha.tasks hall k hk).2.2)
      have hG := grantsL_zero_of_pending _ (ha.idle.mpend m r hr)
      have hP : r.pend = 0 := by simp [Req.pend, hfr]
      have hvpos : 0 < v := by have := hge ho; omega
      obtain ⟨w, hw⟩ := List.exists_mem_of_ne_nil _ hne
      exact ha.good.map.wk m r hr v hv hvpos hG w hw (ha.idle.mpend m r hr w hw)

theorem request (ha : AtRest c p) (hsz : c.size0 = .inf ∨ ∃ n, c.size0 = .fin n ∧ 0 < n) (hall : p.AllTasksDone)
    (m : Nat) (r : Req) (hr : p.reqs[m]? = some r) (hnc : r.everCancelled = false) :
    (r.outcome = some .ok ∧ r.remaining = 0 ∧ r.items = [] ∧ (r.kind = .map → r.pulled = r.created + r.skipped)) ∨
      (r.kind = .map ∧ r.outcome = some (.exc (.user 4))) := by
  obtain ⟨o, ho⟩ := Option.isSome_iff_exists.mp (ha.no_spawner_left hsz hall m r hr)
  rcases ha.ok m r hr hnc o ho with ⟨e, a, b, d⟩ | ⟨a, e⟩
  · exact Or.inl ⟨by rw [ho, e], a, b, d⟩
  · exact Or.inr ⟨a, by rw [ho, e]⟩

theorem all_invocations (ha : AtRest c p) (hsz : c.size0 = .inf ∨ ∃ n, c.size0 = .fin n ∧ 0 < n) (hall : p.AllTasksDone)
    (m : Nat) (r : Req) (hr : p.reqs[m]? = some r) (hnc : r.everCancelled = false) (hk : r.kind = .apply) :
    r.outcome = some .ok ∧ tasksOf p.tasks m + r.skipped = r.n0 := by
  have htk := ha.good.acc.tk m r hr
  rcases ha.request hsz hall m r hr hnc with ⟨e, hrem, _, _⟩ | ⟨hk2, _⟩
  · have h2 : ((r.created + r.skipped + r.remaining : Nat) : Int) = r.n0 + 0 := ((ha.good.acc.rq m r hr).1 hk).1
    exact ⟨e, by rw [htk]; omega⟩
  · rw [hk] at hk2; cases hk2

theorem every_element (ha : AtRest c p) (hsz : c.size0 = .inf ∨ ∃ n, c.size0 = .fin n ∧ 0 < n) (hall : p.AllTasksDone)
    (m : Nat) (r : Req) (hr : p.reqs[m]? = some r) (hnc : r.everCancelled = false) (hk : r.kind = .map) :
    (r.outcome = some .ok ∧ r.items = [] ∧ r.pulled = r.n0 ∧ tasksOf p.tasks m + r.skipped = r.n0) ∨
    r.outcome = some (.exc (.user 4)) := by
  have htk := ha.good.acc.tk m r hr
  rcases ha.request hsz hall m r hr hnc with ⟨e, _, hit, hpe⟩ | ⟨_, e⟩
  · left
    have a1 : r.pulled + r.items.length = r.n0 := ((ha.good.acc.rq m r hr).2 hk).1
    rw [hit, List.length_nil, Nat.add_zero] at a1
    have := hpe hk
    exact ⟨e, hit, a1, by rw [htk]; omega⟩
  · exact Or.inr e

end AtRest

/-- **C02: once all work is finished an N-sized pool can again run N tasks at once — and nobody is left waiting.**
After every history without `pool_size` assignment and without `gather_and_close`: whenever the loop is idle and every
asyncio Task of the pool is done, the semaphore of a pool of size `n` is back at `n` with an empty waiter queue. -/
theorem C02_capacity_back_at_quiescence (base : Nat) (h : History) (hn : h.NoSetSize) (hg : ∀ x ∈ h, x.admits noGac = true)
    (hidle : ((World.init base).run h).ready = []) (i : Nat) (c : Cfg) (p : Pool) (n : Nat)
    (hc : ((World.init base).run h).cfgs[i]? = some c) (hp : ((World.init base).run h).pools[i]? = some p)
    (hsz : c.size0 = .fin n) (hpos : 0 < n) (hall : p.AllTasksDone) :
    p.sem.value = .fin n ∧ p.sem.waiters = [] :=
  (atRest_strict ⟨i, hc, hp⟩ hn hg hidle).capacity_back hsz hpos hall

/-- **no spawner is left behind (deadlock freedom).** After every history without `pool_size` assignment and without
`gather_and_close`, in every pool of positive size (or unbounded): whenever the loop is idle and every asyncio Task of the
pool is done, **every spawner has finished** — none is suspended waiting for room or for a slot of its own call. -/
theorem C02_no_spawner_left_waiting (base : Nat) (h : History) (hn : h.NoSetSize) (hg : ∀ x ∈ h, x.admits noGac = true)
    (hidle : ((World.init base).run h).ready = []) (i : Nat) (c : Cfg) (p : Pool)
    (hc : ((World.init base).run h).cfgs[i]? = some c) (hp : ((World.init base).run h).pools[i]? = some p)
    (hsz : c.size0 = .inf ∨ ∃ n, c.size0 = .fin n ∧ 0 < n) (hall : p.AllTasksDone)
    (m : Nat) (r : Req) (hr : p.reqs[m]? = some r) : r.outcome.isSome = true :=
  (atRest_strict ⟨i, hc, hp⟩ hn hg hidle).no_spawner_left hsz hall m r hr

/-- **C04: no invocation is lost.** After every history without `pool_size` assignment and without `gather_and_close`, in
every pool of positive size (or unbounded): whenever the loop is idle and user code holds nothing back, an `apply` /
`start` request that was never cancelled has finished normally and **has started (or skipped, where the call raised) every
one of its `num` invocations** — however long it had to wait for room, whatever else was requested, cancelled or locked
in between. -/
theorem C04_all_invocations_at_quiescence (base : Nat) (h : History) (hn : h.NoSetSize) (hg : ∀ x ∈ h, x.admits noGac = true)
    (hidle : ((World.init base).run h).ready = []) (i : Nat) (c : Cfg) (p : Pool)
    (hc : ((World.init base).run h).cfgs[i]? = some c) (hp : ((World.init base).run h).pools[i]? = some p)
    (hsz : c.size0 = .inf ∨ ∃ n, c.size0 = .fin n ∧ 0 < n) (hall : p.AllTasksDone)
    (m : Nat) (r : Req) (hr : p.reqs[m]? = some r) (hnc : r.everCancelled = false) (hk : r.kind = .apply) :
    r.outcome = some .ok ∧ tasksOf p.tasks m + r.skipped = r.n0 :=
  (atRest_strict ⟨i, hc, hp⟩ hn hg hidle).all_invocations hsz hall m r hr hnc hk

/-- **C05: element-wise with nothing skipped, to the end.** Under the same conditions a map-style request that was never
cancelled has finished normally with **its whole iterable pulled and every element turned into a task of the call or
skipped because its call raised** — `tasks + skipped = length of the iterable`, nothing in hand, nothing dropped —
unless the argument iterator itself raised, which ends the request with that exception. -/
theorem C05_every_element_at_quiescence (base : Nat) (h : History) (hn : h.NoSetSize)
    (hg : ∀ x ∈ h, x.admits noGac = true)
    (hidle : ((World.init base).run h).ready = []) (i : Nat) (c : Cfg) (p : Pool)
    (hc : ((World.init base).run h).cfgs[i]? = some c) (hp : ((World.init base).run h).pools[i]? = some p)
    (hsz : c.size0 = .inf ∨ ∃ n, c.size0 = .fin n ∧ 0 < n) (hall : p.AllTasksDone)
    (m : Nat) (r : Req) (hr : p.reqs[m]? = some r) (hnc : r.everCancelled = false) (hk : r.kind = .map) :
    (r.outcome = some .ok ∧ r.items = [] ∧ r.pulled = r.n0 ∧ tasksOf p.tasks m + r.skipped = r.n0) ∨
    r.outcome = some (.exc (.user 4)) :=
  (atRest_strict ⟨i, hc, hp⟩ hn hg hidle).every_element hsz hall m r hr hnc hk

/-- **C08 / C13: the calls that wait do return.** After *every* history (resizes, `gather_and_close`, failures,
cancellations included): whenever the loop is idle, every asyncio Task of the pool is done and every spawner has
finished, **every `flush()` and every `gather_and_close()` call has returned** (normally or with an exception), and a
call still suspended in `until_closed()` means that the pool is not closed — nobody is left hanging on a gather whose
children have all completed (the count of a gather is exact, §4.5: every callback slot is counted, queued or registered
on an uncompleted child), and the closing step wakes every waiter of the closing event. -/
theorem C08_calls_return_at_quiescence (base : Nat) (h : History)
    (hidle : ((World.init base).run h).ready = []) (i : Nat) (c : Cfg) (p : Pool)
    (hc : ((World.init base).run h).cfgs[i]? = some c) (hp : ((World.init base).run h).pools[i]? = some p)
    (hall : p.AllTasksDone) (hsp : ∀ (m : Nat) (r : Req), p.reqs[m]? = some r → r.outcome.isSome = true)
    (a : Nat) (A : Api) (hA : p.apis[a]? = some A) :
    A.outcome.isSome = true ∨ (A.frame = .waitClosed ∧ p.closed = false) := by
  have hapi : ApiWant p := Reached.all ⟨i, hc, hp⟩ apiInvariant
  have hf : A.sched = false := by
    have := World.idle_no_flag base h hidle i p hp (.api a)
    simpa [Pool.flag, hA] using this
  have nE : ¬ False := fun x => x
  cases ho : A.outcome with
  | some o => exact Or.inl rfl
  | none =>
    right
    have hnd : A.frame ≠ .done := fun e => by
      have := (hapi.dn a A hA nE).2 e
      rw [ho] at this; cases this
    have hgath : ∀ g, (A.frame = .gather1 g ∨ A.frame = .gather2 g) → False := by
      intro g hg
      obtain ⟨G, hG, _, hs⟩ := hapi.gw a A g hA nE hg
      have hch := hapi.ch g G hG
      have hdone : G.outer.isSome = true := by
        refine World.gather_done_when_idle base h hidle i p hp g G hG ?_
        intro ch hmem
        have hex := hch ch hmem
        cases ch with
        | task t =>
          simp only [Pool.childExists] at hex
          obtain ⟨k, hk⟩ : ∃ k, p.tasks[t]? = some k := ⟨p.tasks[t], by simp [hex]⟩
          simpa [Pool.childOutcome, hk] using hall t k hk
        | spawner m =>
          simp only [Pool.childExists] at hex
          obtain ⟨r, hr⟩ : ∃ r, p.reqs[m]? = some r := ⟨p.reqs[m], by simp [hex]⟩
          simpa [Pool.childOutcome, hr] using hsp m r hr
      have := hs hdone
      rw [hf] at this; cases this
    cases hfr : A.frame with
    | notStarted =>
      have := hapi.ns a A hA nE hfr
      rw [hf] at this; cases this
    | done => exact absurd hfr hnd
    | gather1 g => exact (hgath g (Or.inl hfr)).elim
    | gather2 g => exact (hgath g (Or.inr hfr)).elim
    | waitClosed =>
      have hcw : a ∈ p.closedWaiters := by
        rcases hapi.cw a A hA nE hfr with x | x
        · exact x
        · rw [hf] at x; cases x
      have hncl : p.closed = false := by
        cases hcl : p.closed with
        | false => rfl
        | true => rw [hapi.cl hcl] at hcw; cases hcw
      exact ⟨rfl, hncl⟩

/-- **C13: every `flush()` returns.** The same for histories without `pool_size` assignment and `gather_and_close`, with the
premise about the spawners discharged by `C02_no_spawner_left_waiting`: whenever the loop is idle and user code holds
nothing back, every `flush()` call — however many overlap — has returned, and a call suspended in `until_closed()` is
waiting for a pool that is not closed. -/
theorem C13_flush_returns_at_quiescence (base : Nat) (h : History) (hn : h.NoSetSize) (hg : ∀ x ∈ h, x.admits noGac = true)
    (hidle : ((World.init base).run h).ready = []) (i : Nat) (c : Cfg) (p : Pool)
    (hc : ((World.init base).run h).cfgs[i]? = some c) (hp : ((World.init base).run h).pools[i]? = some p)
    (hsz : c.size0 = .inf ∨ ∃ n, c.size0 = .fin n ∧ 0 < n) (hall : p.AllTasksDone)
    (a : Nat) (A : Api) (hA : p.apis[a]? = some A) :
    A.outcome.isSome = true ∨ (A.frame = .waitClosed ∧ p.closed = false) :=
  C08_calls_return_at_quiescence base h hidle i c p hc hp hall
    (fun m r hr => C02_no_spawner_left_waiting base h hn hg hidle i c p hc hp hsz hall m r hr) a A hA

/-! Non-vacuity: `apply num=2` on a pool of size 1, both workers released one after the other, the loop run until nothing
is left: the premises of the quiescence theorems hold (idle, every asyncio Task done, request never cancelled), and so
do their conclusions; and an intermediate idle state (first worker suspended on its gate, spawner waiting for room)
meets the premises of the idle theorems. -/
def exRuns (n : Nat) : History := List.replicate n (WOp.run 0 [])
def exQuiet : History :=
  [WOp.mkpool (some 1) none none, WOp.on 0 [] (.apply 2 none Pool.gatedSpec)] ++ exRuns 3 ++
  [WOp.on 0 [] (.gate 0 .ok)] ++ exRuns 4 ++ [WOp.on 0 [] (.gate 1 .ok)] ++ exRuns 3
def exIdle : History :=
  [WOp.mkpool (some 1) none none, WOp.on 0 [] (.apply 2 none Pool.gatedSpec)] ++ exRuns 3

example : ((World.init 0).run exQuiet).ready = [] := List.eq_nil_of_length_eq_zero (by decide +kernel)
example : (((World.init 0).run exQuiet).pools.map fun p => p.tasks.map fun k => k.outcome.isSome) = [[true, true]] := by
  decide +kernel
example : (((World.init 0).run exQuiet).pools.map fun p => p.reqs.map fun r => (r.outcome, r.created, r.everCancelled)) =
    [[(some .ok, 2, false)]] := by decide +kernel
example : (((World.init 0).run exQuiet).pools.map fun p => (p.sem.value, p.sem.waiters.length)) = [(.fin 1, 0)] := by
  decide +kernel
example : ((World.init 0).run exIdle).ready = [] := List.eq_nil_of_length_eq_zero (by decide +kernel)
example : (((World.init 0).run exIdle).pools.map fun p => p.tasks.map fun k => (k.phase, k.fut, k.outcome.isSome)) =
    [[(.inWorker, .pending, false)]] := by decide +kernel
example : (((World.init 0).run exIdle).pools.map fun p =>
    (p.reqs.map fun r => (r.outcome, r.frame), p.sem.waiters.map fun w => (w.owner, w.st), p.isFull, p.running.length)) =
    [([(none, .waitRoom)], [(0, .pending)], true, 1)] := by decide +kernel

end Taskpool
