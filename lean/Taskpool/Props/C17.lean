import Taskpool.Inv.ControlParse
/-! C17 — a command does exactly what the method call would do.

`C17_roundtrip_general`: for every well-formed member table and every public method, however a call is written — a value
for each single positional parameter, any number of values for the var-positional one, options before or after them, each
as its short flag (`-c value`, `-cvalue`, `-c=value`), its long option string or an unambiguous abbreviation of it
(`--name value`, `--name=value`), or several in one single-dash string (`-abcV`), with or without `--` in front of, inside
or behind the positional strings — the parse is the call of that member whose namespace `C17_value_*` read out: each
positional its value, the var-positional all of its values, each written option its value, each omitted option the
method's own default (`dflt`; `False` for a flag).  The other `C17_roundtrip*` are its cases; `C17_dispatch_exact` splits
the namespace into `m(*positional, *var_positional, **keyword)`; `C17_reply_rule` is the reply.
Lexing of decimal numbers, Python literals and dotted paths is not part of the theorem: tokens are structured and a
value carries what Python's converter makes of it (validated by the differential run).

Every theorem that mentions a table assumes `wellFormed ms` (Model/Control.lean; what it excludes and why: the header of
Props/C16.lean). -/
namespace Taskpool.Control

/-- the round trip in its general form: options — each on its own in any of its forms, or several in one single-dash
string — before and behind the positional strings, with or without the separator `--` in front of, among or behind
these.  Behind the separator nothing is option-like (the lexer renders every string there as a word), so `post` is empty
then, and a positional parameter, or a positional string in front, must be there to take the separator in.  All other
round trips are cases of this one. -/
theorem C17_roundtrip_general (ms : List Member) (hwf : wellFormed ms = true) (m : Member) (hm : m ∈ ms)
    (he : m.exposed = true) (hfun : m.kind = .function)
    (singles starL : List Param) (hpos : m.params.filter Param.isPos = singles ++ starL)
    (hsing : ∀ p ∈ singles, p.kind = .positional)
    (hstar : starL = [] ∨ ∃ sp, starL = [sp] ∧ sp.kind = .varPositional)
    (cmd : Word) (hcmd : cmd.text = dash m.name)
    (pargs sargs : List PosArg) (hp : posOk singles pargs) (hs : ∀ x ∈ sargs, ∃ sp ∈ starL, x.ok sp)
    (pre post : List Item) (hpre : ∀ it ∈ pre, it.ok m.params) (hpost : ∀ it ∈ post, it.ok m.params)
    (w1 s w2 : List Tok) (hsplit : w1 ++ w2 = renderPos pargs ++ renderPos sargs)
    (hsep : s = [] ∨ s = [.sep] ∧ post = [] ∧ (w1 ≠ [] ∨ singles ++ starL ≠ [])) :
    parseLine (commandTable ms) (.word cmd :: (renderItems pre ++ (w1 ++ (s ++ (w2 ++ renderItems post)))))
      = some (.act (.call m.name
          (m.params.map fun p => (p.name, argFor (finalState singles starL pargs sargs (itemChoices (pre ++ post))) p)))) := by
  have hok := wf_params hwf hm he
  rw [parseLine_command (hcmd ▸ lookupCmd_exposed hwf hm he)
    fun t ht => (line_toks hok hpre hpost hsplit (hsep.imp_right And.left) t ht).2]
  exact parseCmd_roundtrip_general hfun hok hpos hsing hstar hp hs hpre hpost w1 s w2 hsplit hsep

/-- the round trip with clusters: every public method, a value per single positional, any values for the var-positional,
any options before and/or after them, each on its own in any of its forms or several in one single-dash string (flags,
then possibly an option with its value attached or in the next string) ⇒ the call of that member; the namespace is that
of the options written one by one (`itemChoices`), so `C17_value_*` read it out -/
theorem C17_roundtrip_cluster (ms : List Member) (hwf : wellFormed ms = true) (m : Member) (hm : m ∈ ms)
    (he : m.exposed = true) (hfun : m.kind = .function)
    (singles starL : List Param) (hpos : m.params.filter Param.isPos = singles ++ starL)
    (hsing : ∀ p ∈ singles, p.kind = .positional)
    (hstar : starL = [] ∨ ∃ sp, starL = [sp] ∧ sp.kind = .varPositional)
    (cmd : Word) (hcmd : cmd.text = dash m.name)
    (pargs sargs : List PosArg) (hp : posOk singles pargs) (hs : ∀ x ∈ sargs, ∃ sp ∈ starL, x.ok sp)
    (pre post : List Item) (hpre : ∀ it ∈ pre, it.ok m.params) (hpost : ∀ it ∈ post, it.ok m.params) :
    parseLine (commandTable ms) (.word cmd :: (renderItems pre ++ (renderPos pargs ++ (renderPos sargs ++ renderItems post))))
      = some (.act (.call m.name
          (m.params.map fun p => (p.name, argFor (finalState singles starL pargs sargs (itemChoices (pre ++ post))) p)))) :=
  C17_roundtrip_general ms hwf m hm he hfun singles starL hpos hsing hstar cmd hcmd pargs sargs hp hs pre post hpre hpost
    (renderPos pargs) [] (renderPos sargs) rfl (.inl rfl)

theorem C17_roundtrip (ms : List Member) (hwf : wellFormed ms = true) (m : Member) (hm : m ∈ ms)
    (he : m.exposed = true) (hfun : m.kind = .function)
    (singles starL : List Param) (hpos : m.params.filter Param.isPos = singles ++ starL)
    (hsing : ∀ p ∈ singles, p.kind = .positional)
    (hstar : starL = [] ∨ ∃ sp, starL = [sp] ∧ sp.kind = .varPositional)
    (cmd : Word) (hcmd : cmd.text = dash m.name)
    (pargs sargs : List PosArg) (hp : posOk singles pargs) (hs : ∀ x ∈ sargs, ∃ sp ∈ starL, x.ok sp)
    (pre post : List Choice) (hpre : ∀ c ∈ pre, c.ok m.params) (hpost : ∀ c ∈ post, c.ok m.params) :
    parseLine (commandTable ms) (.word cmd :: (renderOpts pre ++ (renderPos pargs ++ (renderPos sargs ++ renderOpts post))))
      = some (.act (.call m.name
          (m.params.map fun p => (p.name, argFor (finalState singles starL pargs sargs (pre ++ post)) p)))) := by
  have h := C17_roundtrip_cluster ms hwf m hm he hfun singles starL hpos hsing hstar cmd hcmd pargs sargs hp hs
    (pre.map .one) (post.map .one) (List.forall_mem_map.mpr hpre) (List.forall_mem_map.mpr hpost)
  rwa [← List.map_append, itemChoices_one, renderItems_one, renderItems_one] at h

/-- a var-positional parameter receives all of its values, in order -/
theorem C17_value_var (singles starL : List Param) (pargs sargs : List PosArg) (cs : List Choice) (p : Param)
    (hk : p.kind = .varPositional) :
    argFor (finalState singles starL pargs sargs cs) p = .many (sargs.map (·.a)) := by
  unfold argFor
  rw [hk]
  rfl

/-- a single positional parameter receives the value written at its place -/
theorem C17_value_positional (singles starL : List Param) (pargs sargs : List PosArg) (cs : List Choice)
    (hp : posOk singles pargs) (hn : (singles.map (·.name)).Nodup) (p : Param) (x : PosArg)
    (hk : p.kind = .positional) (hmem : (p, x) ∈ singles.zip pargs) :
    argFor (finalState singles starL pargs sargs cs) p = .one x.a := by
  have : lookupArg ((singles.zip pargs).map (fun y => ((y.1.name, ArgVal.one y.2.a) : Str × ArgVal))) p.name
      = some (.one x.a) :=
    lookupArg_unique ((zip_bound_names singles pargs hp).symm ▸ hn) (List.mem_map.mpr ⟨(p, x), hmem, rfl⟩)
  unfold argFor
  rw [hk]
  exact congrArg (Option.getD · ArgVal.dflt) this

/-- an option that was written (in any form) receives its value; a written flag is `True` -/
theorem C17_value_option_given (singles starL : List Param) (pargs sargs : List PosArg) (cs : List Choice)
    (hn : (cs.map (·.p.name)).Nodup) (c : Choice) (hc : c ∈ cs) (hopt : c.p.isOpt = true) :
    argFor (finalState singles starL pargs sargs cs) c.p = c.val := by
  have hnd : ((optEntries cs).map (·.1)).Nodup := by
    rw [optEntries_names]
    exact List.pairwise_reverse.mpr (hn.imp Ne.symm)
  have hmem : (c.p.name, c.val) ∈ optEntries cs := List.mem_reverse.mpr (List.mem_map.mpr ⟨c, hc, rfl⟩)
  have := lookupArg_unique hnd hmem
  simp only [Param.isOpt, Bool.or_eq_true, beq_iff_eq] at hopt
  rcases hopt with hk | hk <;> simp only [argFor, hk, finalState, this, Option.getD_some]

/-- an option that was not written takes the method's own default; an omitted flag is `False` -/
theorem C17_value_option_omitted (singles starL : List Param) (pargs sargs : List PosArg) (cs : List Choice)
    (p : Param) (hout : ∀ c ∈ cs, c.p.name ≠ p.name) :
    (p.kind = .optional → argFor (finalState singles starL pargs sargs cs) p = .dflt)
    ∧ (p.kind = .flag → argFor (finalState singles starL pargs sargs cs) p = .flag false) := by
  have : lookupArg (optEntries cs) p.name = none := by
    apply lookupArg_none
    intro a ha
    obtain ⟨c, hc, rfl⟩ := List.mem_map.mp (List.mem_reverse.mp ha)
    exact hout c hc
  constructor <;> intro hk <;> simp only [argFor, hk, finalState, this, Option.getD_none]

/-- the option as written in full, with its value behind a blank -/
def plainChoice (p : Param) (w : Word) (a : Atom) : Choice := { p := p, short := none, w := w, a := a }

/-- the namespace depends on which options were written with which values, not on how they were written -/
theorem C17_form_irrelevant (singles starL : List Param) (pargs sargs : List PosArg) (cs cs' : List Choice)
    (h : cs.map (fun c => (c.p, c.a)) = cs'.map (fun c => (c.p, c.a))) :
    finalState singles starL pargs sargs cs = finalState singles starL pargs sargs cs' := by
  have := congrArg (List.map fun x : Param × Atom => (x.1.name, if x.1.kind = .flag then ArgVal.flag true else .one x.2)) h
  rw [List.map_map, List.map_map] at this
  unfold finalState optEntries
  rw [show cs.map (fun c => (c.p.name, c.val)) = cs'.map (fun c => (c.p.name, c.val)) from this]

theorem choice_ok_long {ps : List Param} {p : Param} (hpm : p ∈ ps) (hopt : p.isOpt = true) {w : Word} {a : Atom}
    (hconv : p.kind ≠ .flag → convert p.conv w = some a) {abbr : Option Str}
    (habbr : ∀ n, abbr = some n → abbrevOk (optTable ps) n (dash p.name)) {eq : Bool} (hdd : eq = true → w.text ≠ dashdash) :
    ({ p := p, short := none, w := w, a := a, abbr := abbr, eq := eq } : Choice).ok ps :=
  ⟨hpm, hopt, fun _ h => (nomatch h), hconv, habbr, hdd, fun h => absurd h Bool.false_ne_true⟩

theorem plainChoice_ok {ps : List Param} {c : Choice} (hc : c.ok ps) : (plainChoice c.p c.w c.a).ok ps :=
  choice_ok_long hc.1 hc.2.1 hc.2.2.2.1 (abbr := none) nofun (eq := false) nofun

theorem choice_ok_short {ps : List Param} {p : Param} (hpm : p ∈ ps) (hopt : p.isOpt = true) {f : Char}
    (hf : (p, some f) ∈ assignFlags ps []) {w : Word} {a : Atom} (hconv : p.kind ≠ .flag → convert p.conv w = some a)
    {glued : Option Bool} (hgl : glued.isSome = true → w.text ≠ dashdash) (tail : List (Char × Option Word)) :
    ({ p := p, short := some f, w := w, a := a, glued := glued, tail := tail } : Choice).ok ps :=
  ⟨hpm, hopt, fun _ h => Option.some.inj h ▸ hf, hconv, nofun, fun h => absurd h Bool.false_ne_true, hgl⟩

/-- `toks` is what the form of `c` writes; a variable, so that a caller states it token by token -/
theorem roundtrip_one {ms : List Member} (hwf : wellFormed ms = true) {m : Member} (hm : m ∈ ms)
    (he : m.exposed = true) (hfun : m.kind = .function)
    {singles starL : List Param} (hpos : m.params.filter Param.isPos = singles ++ starL)
    (hsing : ∀ p ∈ singles, p.kind = .positional)
    (hstar : starL = [] ∨ ∃ sp, starL = [sp] ∧ sp.kind = .varPositional)
    {cmd : Word} (hcmd : cmd.text = dash m.name)
    {pargs sargs : List PosArg} (hp : posOk singles pargs) (hs : ∀ x ∈ sargs, ∃ sp ∈ starL, x.ok sp)
    (c : Choice) (hc : c.ok m.params) (toks : List Tok) (hr : c.render = toks) :
    parseLine (commandTable ms) (.word cmd :: (renderPos pargs ++ (renderPos sargs ++ toks)))
      = some (.act (.call m.name
          (m.params.map fun q => (q.name, argFor (finalState singles starL pargs sargs [plainChoice c.p c.w c.a]) q))))
    ∧ argFor (finalState singles starL pargs sargs [plainChoice c.p c.w c.a]) c.p = c.val := by
  have h := C17_roundtrip ms hwf m hm he hfun singles starL hpos hsing hstar cmd hcmd pargs sargs hp hs [] [c]
    (List.forall_mem_nil _) (fun _ h => List.mem_singleton.mp h ▸ hc)
  rw [show renderOpts [c] = toks from (List.append_nil c.render).trans hr] at h
  exact ⟨h, C17_value_option_given singles starL pargs sargs [plainChoice c.p c.w c.a] (List.pairwise_singleton _ _)
    (plainChoice c.p c.w c.a) (List.mem_singleton.mpr rfl) hc.2.1⟩

theorem optional_isOpt {p : Param} (hk : p.kind = .optional) : p.isOpt = true ∧ p.kind ≠ .flag :=
  ⟨by rw [Param.isOpt, hk]; rfl, fun h => nomatch hk.symm.trans h⟩

/-- `--name=value` (one string, split at the first `=`; the value may be empty, may start with `-`, may contain `=`, is
not `--`) binds the option exactly as `--name value` does: the parse is the same call, the option's entry is the value -/
theorem C17_roundtrip_eq_form (ms : List Member) (hwf : wellFormed ms = true) (m : Member) (hm : m ∈ ms)
    (he : m.exposed = true) (hfun : m.kind = .function)
    (singles starL : List Param) (hpos : m.params.filter Param.isPos = singles ++ starL)
    (hsing : ∀ p ∈ singles, p.kind = .positional)
    (hstar : starL = [] ∨ ∃ sp, starL = [sp] ∧ sp.kind = .varPositional)
    (cmd : Word) (hcmd : cmd.text = dash m.name)
    (pargs sargs : List PosArg) (hp : posOk singles pargs) (hs : ∀ x ∈ sargs, ∃ sp ∈ starL, x.ok sp)
    (p : Param) (hpm : p ∈ m.params) (hk : p.kind = .optional) (w : Word) (a : Atom)
    (hconv : convert p.conv w = some a) (hdd : w.text ≠ dashdash) :
    parseLine (commandTable ms) (.word cmd :: (renderPos pargs ++ (renderPos sargs ++ [.eq (dash p.name) w])))
      = some (.act (.call m.name
          (m.params.map fun q => (q.name, argFor (finalState singles starL pargs sargs [plainChoice p w a]) q))))
    ∧ parseLine (commandTable ms) (.word cmd :: (renderPos pargs ++ (renderPos sargs ++ [.eq (dash p.name) w])))
      = parseLine (commandTable ms) (.word cmd :: (renderPos pargs ++ (renderPos sargs ++ [.long (dash p.name), .word w])))
    ∧ argFor (finalState singles starL pargs sargs [plainChoice p w a]) p = .one a := by
  have ho := optional_isOpt hk
  have one := roundtrip_one hwf hm he hfun hpos hsing hstar hcmd hp hs
  have hc := choice_ok_long hpm ho.1 (fun _ => hconv) (abbr := none) nofun (eq := true) fun _ => hdd
  have h1 := one _ hc [.eq (dash p.name) w] (if_neg ho.2)
  have h2 := one (plainChoice p w a) (plainChoice_ok hc) [.long (dash p.name), .word w] (if_neg ho.2)
  exact ⟨h1.1, h1.1.trans h2.1.symm, h1.2.trans (if_neg ho.2)⟩

/-- an unambiguous abbreviation `--n` of an option's long string (a non-empty prefix of it and of no other long option
string of the command, `--help` included) is that option: with the value behind a blank, with the value behind `=`,
and — a flag — alone.  The parse is the call the full form gives. -/
theorem C17_roundtrip_abbrev (ms : List Member) (hwf : wellFormed ms = true) (m : Member) (hm : m ∈ ms)
    (he : m.exposed = true) (hfun : m.kind = .function)
    (singles starL : List Param) (hpos : m.params.filter Param.isPos = singles ++ starL)
    (hsing : ∀ p ∈ singles, p.kind = .positional)
    (hstar : starL = [] ∨ ∃ sp, starL = [sp] ∧ sp.kind = .varPositional)
    (cmd : Word) (hcmd : cmd.text = dash m.name)
    (pargs sargs : List PosArg) (hp : posOk singles pargs) (hs : ∀ x ∈ sargs, ∃ sp ∈ starL, x.ok sp)
    (p : Param) (hpm : p ∈ m.params) (hopt : p.isOpt = true) (n : Str)
    (hab : abbrevOk (optTable m.params) n (dash p.name)) (w : Word) (a : Atom) :
    let call := some (Verdict.act (.call m.name
          (m.params.map fun q => (q.name, argFor (finalState singles starL pargs sargs [plainChoice p w a]) q))))
    (p.kind = .optional → convert p.conv w = some a →
      parseLine (commandTable ms) (.word cmd :: (renderPos pargs ++ (renderPos sargs ++ [.long n, .word w]))) = call
      ∧ (w.text ≠ dashdash →
          parseLine (commandTable ms) (.word cmd :: (renderPos pargs ++ (renderPos sargs ++ [.eq n w]))) = call)
      ∧ argFor (finalState singles starL pargs sargs [plainChoice p w a]) p = .one a)
    ∧ (p.kind = .flag →
      parseLine (commandTable ms) (.word cmd :: (renderPos pargs ++ (renderPos sargs ++ [.long n]))) = call
      ∧ argFor (finalState singles starL pargs sargs [plainChoice p w a]) p = .flag true) := by
  intro call
  have one := roundtrip_one hwf hm he hfun hpos hsing hstar hcmd hp hs
  have habbr : ∀ n', some n = some n' → abbrevOk (optTable m.params) n' (dash p.name) := fun _ h => Option.some.inj h ▸ hab
  constructor
  · intro hk hconv
    have hkf := (optional_isOpt hk).2
    have h1 := one { p := p, short := none, w := w, a := a, abbr := some n }
      (choice_ok_long hpm hopt (fun _ => hconv) habbr nofun) [.long n, .word w] (if_neg hkf)
    refine ⟨h1.1, fun hdd => ?_, h1.2.trans (if_neg hkf)⟩
    exact (one { p := p, short := none, w := w, a := a, abbr := some n, eq := true }
      (choice_ok_long hpm hopt (fun _ => hconv) habbr fun _ => hdd) [.eq n w] (if_neg hkf)).1
  · intro hk
    have h1 := one { p := p, short := none, w := w, a := a, abbr := some n }
      (choice_ok_long hpm hopt (fun h => absurd hk h) habbr nofun) [.long n] (if_pos hk)
    exact ⟨h1.1, h1.2.trans (if_pos hk)⟩

theorem item_choices_ok {ps : List Param} {it : Item} (hit : it.ok ps) : ∀ c ∈ it.choices, c.ok ps := by
  cases it with
  | one c => exact fun x hx => List.mem_singleton.mp hx ▸ hit
  | cluster f jf fs c =>
    obtain ⟨hf, hfs, hc, _⟩ := hit
    intro x hx
    rcases List.mem_cons.mp hx with rfl | hx
    · exact hf.1
    · rcases List.mem_append.mp hx with hx | hx
      · obtain ⟨y, hy, rfl⟩ := List.mem_map.mp hx
        exact (hfs y hy).1
      · exact List.mem_singleton.mp hx ▸ hc

/-- several options in one single-dash string are the call their options give written one by one, each in full
(`--name`, `--name value`) -/
theorem C17_cluster_eq_separate (ms : List Member) (hwf : wellFormed ms = true) (m : Member) (hm : m ∈ ms)
    (he : m.exposed = true) (hfun : m.kind = .function)
    (singles starL : List Param) (hpos : m.params.filter Param.isPos = singles ++ starL)
    (hsing : ∀ p ∈ singles, p.kind = .positional)
    (hstar : starL = [] ∨ ∃ sp, starL = [sp] ∧ sp.kind = .varPositional)
    (cmd : Word) (hcmd : cmd.text = dash m.name)
    (pargs sargs : List PosArg) (hp : posOk singles pargs) (hs : ∀ x ∈ sargs, ∃ sp ∈ starL, x.ok sp)
    (it : Item) (hit : it.ok m.params) :
    parseLine (commandTable ms) (.word cmd :: (renderPos pargs ++ (renderPos sargs ++ it.render)))
      = parseLine (commandTable ms) (.word cmd :: (renderPos pargs ++ (renderPos sargs
          ++ renderOpts (it.choices.map fun c => plainChoice c.p c.w c.a)))) := by
  have h1 := C17_roundtrip_cluster ms hwf m hm he hfun singles starL hpos hsing hstar cmd hcmd pargs sargs hp hs [] [it]
    (List.forall_mem_nil _) (fun _ h => List.mem_singleton.mp h ▸ hit)
  have h2 := C17_roundtrip ms hwf m hm he hfun singles starL hpos hsing hstar cmd hcmd pargs sargs hp hs []
    (it.choices.map fun c => plainChoice c.p c.w c.a) (List.forall_mem_nil _)
    (List.forall_mem_map.mpr fun c hc => plainChoice_ok (item_choices_ok hit c hc))
  rw [show renderItems [it] = it.render from List.append_nil it.render,
    show itemChoices ([] ++ [it]) = it.choices from List.append_nil it.choices,
    C17_form_irrelevant singles starL pargs sargs it.choices (it.choices.map fun c => plainChoice c.p c.w c.a)
      (by rw [List.map_map]; rfl)] at h1
  exact h1.trans h2.symm

/-- `-cVALUE` and `-c=VALUE` (one string; `c` the letter of an option that takes a value, VALUE not `--`) bind the option
exactly as `-c VALUE` does: the same call, the option's entry is the value — whatever the lexer makes of VALUE read as
letters -/
theorem C17_roundtrip_attached (ms : List Member) (hwf : wellFormed ms = true) (m : Member) (hm : m ∈ ms)
    (he : m.exposed = true) (hfun : m.kind = .function)
    (singles starL : List Param) (hpos : m.params.filter Param.isPos = singles ++ starL)
    (hsing : ∀ p ∈ singles, p.kind = .positional)
    (hstar : starL = [] ∨ ∃ sp, starL = [sp] ∧ sp.kind = .varPositional)
    (cmd : Word) (hcmd : cmd.text = dash m.name)
    (pargs sargs : List PosArg) (hp : posOk singles pargs) (hs : ∀ x ∈ sargs, ∃ sp ∈ starL, x.ok sp)
    (p : Param) (hpm : p ∈ m.params) (hk : p.kind = .optional) (f : Char) (hf : (p, some f) ∈ assignFlags m.params [])
    (w : Word) (a : Atom) (hconv : convert p.conv w = some a) (hdd : w.text ≠ dashdash)
    (e : Bool) (letters : List (Char × Option Word)) :
    parseLine (commandTable ms) (.word cmd :: (renderPos pargs ++ (renderPos sargs ++ [.attached f e w letters])))
      = some (.act (.call m.name
          (m.params.map fun q => (q.name, argFor (finalState singles starL pargs sargs [plainChoice p w a]) q))))
    ∧ parseLine (commandTable ms) (.word cmd :: (renderPos pargs ++ (renderPos sargs ++ [.attached f e w letters])))
      = parseLine (commandTable ms) (.word cmd :: (renderPos pargs ++ (renderPos sargs ++ [.short f, .word w])))
    ∧ argFor (finalState singles starL pargs sargs [plainChoice p w a]) p = .one a := by
  have ho := optional_isOpt hk
  have one := roundtrip_one hwf hm he hfun hpos hsing hstar hcmd hp hs
  have h1 := one { p := p, short := some f, w := w, a := a, glued := some e, tail := letters }
    (choice_ok_short hpm ho.1 hf (fun _ => hconv) (fun _ => hdd) letters) [.attached f e w letters] (if_neg ho.2)
  have h2 := one { p := p, short := some f, w := w, a := a }
    (choice_ok_short hpm ho.1 hf (fun _ => hconv) (glued := none) nofun []) [.short f, .word w] (if_neg ho.2)
  exact ⟨h1.1, h1.1.trans h2.1.symm, h1.2.trans (if_neg ho.2)⟩

/-- the separator `--` anywhere in or in front of the positional strings (options, in any form, before it): the same
call as without it.  The strings behind it are words whatever they look like (the lexer's doing); the command must have
a positional parameter to take the separator in, unless a positional string stands in front of it -/
theorem C17_roundtrip_after_separator (ms : List Member) (hwf : wellFormed ms = true) (m : Member) (hm : m ∈ ms)
    (he : m.exposed = true) (hfun : m.kind = .function)
    (singles starL : List Param) (hpos : m.params.filter Param.isPos = singles ++ starL)
    (hsing : ∀ p ∈ singles, p.kind = .positional)
    (hstar : starL = [] ∨ ∃ sp, starL = [sp] ∧ sp.kind = .varPositional)
    (cmd : Word) (hcmd : cmd.text = dash m.name)
    (pargs sargs : List PosArg) (hp : posOk singles pargs) (hs : ∀ x ∈ sargs, ∃ sp ∈ starL, x.ok sp)
    (pre : List Item) (hpre : ∀ it ∈ pre, it.ok m.params)
    (w1 w2 : List Tok) (hsplit : w1 ++ w2 = renderPos pargs ++ renderPos sargs)
    (htake : w1 ≠ [] ∨ singles ++ starL ≠ []) :
    parseLine (commandTable ms) (.word cmd :: (renderItems pre ++ (w1 ++ .sep :: w2)))
      = some (.act (.call m.name
          (m.params.map fun p => (p.name, argFor (finalState singles starL pargs sargs (itemChoices pre)) p))))
    ∧ parseLine (commandTable ms) (.word cmd :: (renderItems pre ++ (w1 ++ .sep :: w2)))
      = parseLine (commandTable ms) (.word cmd :: (renderItems pre ++ (w1 ++ w2))) := by
  have g := C17_roundtrip_general ms hwf m hm he hfun singles starL hpos hsing hstar cmd hcmd pargs sargs hp hs pre []
    hpre (List.forall_mem_nil _) w1
  have hnil : renderItems ([] : List Item) = [] := rfl
  simp only [hnil, List.append_nil] at g
  have h1 := g [.sep] w2 hsplit (.inr ⟨rfl, trivial, htake⟩)
  exact ⟨h1, h1.trans (g [] w2 hsplit (.inl rfl)).symm⟩

/-- behind the letter of an option that takes no value (a flag, `-h`) stands a character that is no option letter of
the command (`-lx`, `-hx`), or nothing but the `=` (`-l=`, `-h=`): `ignored explicit argument`; nothing behind it is
looked at, nothing of the string takes effect -/
theorem C17_attached_refused (me : Str) (tbl : List OptSpec) (c : Char) (e : Bool) (v : Word)
    (more : List (Char × Option Word)) (rest : List Tok) (st : PState) (o : OptSpec)
    (hfind : findShort tbl c = some o) (hno : o.valued = none)
    (hbad : more = [] ∨ ∃ c' a' more', more = (c', a') :: more' ∧ findShort tbl c' = none) :
    scanOpts me tbl (.attached c e v more :: rest) st = .stop (some (.error .explicitArg)) :=
  scanOpts_refused (.attached hfind (walk_refused hno hbad v [])) rest st

/-- a single-dash string whose first letter is no option of the command is left over whole (`-zG`, `-z=G`, `-1x`), like
an unknown short flag: the scan goes on, and the line is answered `unrecognized arguments` if nothing else is wrong -/
theorem C17_unknown_attached_left_over (me : Str) (tbl : List OptSpec) (c : Char) (e : Bool) (v : Word)
    (more : List (Char × Option Word)) (rest : List Tok) (st : PState) (hfind : findShort tbl c = none) :
    scanOpts me tbl (.attached c e v more :: rest) st = scanOpts me tbl rest { st with extras := true } :=
  scanOpts_unknown (.attached hfind) rest st

/-- an exact option string wins over being the prefix of another one (`--n` with both `--n` and `--num` present) -/
theorem C17_exact_wins (ps : List Param) (hok : paramsOk ps = true) (o : OptSpec) (ho : o ∈ optTable ps) :
    resolveLong (optTable ps) o.long = .one o :=
  resolveLong_exact (optsOk_optTable hok) ho

/-- the prefix of two or more long option strings that is equal to none of them — anywhere behind the command word,
in either form — makes the whole line an error, whatever else it contains (a help request included) -/
theorem C17_ambiguous_rejected (c : Cmd) (toks : List Tok)
    (h : toks.any (ambiguousTok (optTable c.member.params)) = true) : parseCmd c toks = some (.error .ambiguous) :=
  if_pos h

/-- `--flag=value` and `--help=value`: an option that takes no value refuses one (`ignored explicit argument`), also
when the value is empty; nothing behind it is looked at -/
theorem C17_explicit_value_refused (me : Str) (tbl : List OptSpec) (n : Str) (v : Word) (rest : List Tok) (st : PState)
    (o : OptSpec) (hres : resolveLong tbl n = .one o) (hno : o.param = none ∨ ∃ p, o.param = some p ∧ p.kind = .flag) :
    scanOpts me tbl (.eq n v :: rest) st = .stop (some (.error .explicitArg)) := by
  refine scanOpts_refused (.eq hres ?_) rest st
  unfold OptSpec.valued
  rcases hno with h | ⟨p, h, hk⟩
  · rw [h]
  · rw [h]
    exact if_pos hk

/-- a long option string that is neither an option of the command nor a prefix of one is left over, like an unknown
short flag: the scan goes on, and the line is answered `unrecognized arguments` if nothing else is wrong with it -/
theorem C17_unknown_long_left_over (me : Str) (tbl : List OptSpec) (n : Str) (hn : n ≠ []) (v : Word) (rest : List Tok)
    (st : PState) (hres : resolveLong tbl n = .unknown) :
    scanOpts me tbl (.long n :: rest) st = scanOpts me tbl rest { st with extras := true }
    ∧ scanOpts me tbl (.eq n v :: rest) st = scanOpts me tbl rest { st with extras := true } :=
  ⟨scanOpts_unknown (.long hn hres) rest st, scanOpts_unknown (.eq hres) rest st⟩

/-- no two options of a command share a short flag -/
theorem C17_flags_unique (ps : List Param) (used : List Char) :
    ((assignFlags ps used).filterMap (·.2)).Nodup ∧ ∀ f ∈ (assignFlags ps used).filterMap (·.2), f ∉ used :=
  ⟨(assignFlags_spec ps used).2, fun f hf => ((assignFlags_spec ps used).1 f hf).2⟩

/-- the namespace is split exactly: positional-or-keyword parameters positionally in signature order, the
var-positional one unpacked, all others by keyword; every entry goes to exactly one place -/
theorem C17_dispatch_exact (ps : List Param) (val : Param → ArgVal) :
    dispatch ps (ps.map fun p => (p.name, val p))
      = { pos := (ps.filter fun p => p.pass == .byPosition).map val,
          star := ((ps.filter fun p => p.pass == .byStar).map fun p => starOf (val p)).flatten,
          kw := (ps.filter fun p => p.pass == .byKeyword).map fun p => (p.name, val p) }
    ∧ (ps.filter fun p => p.pass == .byPosition).length + (ps.filter fun p => p.pass == .byStar).length
        + (ps.filter fun p => p.pass == .byKeyword).length = ps.length :=
  ⟨dispatch_aligned ps val, pass_partition ps⟩

/-- `ok` for `None`, otherwise `str()` of the result or of the exception — property setters included; a getter
writes `str()` of whatever it returned -/
theorem C17_reply_rule (m : Str) (args : List (Str × ArgVal)) (v : Atom) (s : Str) :
    replyText (.call m args) .none = okText ∧ replyText (.set m v) .none = okText
    ∧ replyText (.call m args) (.value s) = s ∧ replyText (.call m args) (.raised s) = s
    ∧ replyText (.set m v) (.raised s) = s ∧ replyText (.get m) (.value s) = s ∧ replyText (.get m) (.raised s) = s :=
  ⟨rfl, rfl, rfl, rfl, rfl, rfl, rfl⟩

/-! non-vacuity: `say_hi(x, *more, how=1, loud=False)` called as `say-hi -l 4 5 6 --how 7` -/

def e17X : Param := { name := ['x'], kind := .positional, pass := .byPosition, conv := .int }
def e17More : Param := { name := ['m'], kind := .varPositional, pass := .byStar, conv := .int }
def e17How : Param := { name := ['h', 'o', 'w'], kind := .optional, pass := .byKeyword, conv := .int }
def e17Loud : Param := { name := ['l'], kind := .flag, pass := .byKeyword, conv := .str }
def e17Say : Member := { name := ['s', 'a', 'y', '_', 'h', 'i'], kind := .function, params := [e17X, e17More, e17How, e17Loud] }
def e17Num (t : Str) (i : Int) : Word := { text := t, int? := some i, floatOk := true, litOk := true, dotOk := false }
def e17CmdWord : Word := { text := ['s', 'a', 'y', '-', 'h', 'i'], int? := none, floatOk := false, litOk := false, dotOk := false }

example : parseLine (commandTable [e17Say])
    [.word e17CmdWord, .short 'l', .word (e17Num ['4'] 4), .word (e17Num ['5'] 5), .word (e17Num ['6'] 6),
     .long ['h', 'o', 'w'], .word (e17Num ['7'] 7)]
    = some (.act (.call e17Say.name [(['x'], .one (.int 4)), (['m'], .many [.int 5, .int 6]),
        (['h', 'o', 'w'], .one (.int 7)), (['l'], .flag true)])) := by decide +kernel

example : dispatch e17Say.params [(['x'], .one (.int 4)), (['m'], .many [.int 5, .int 6]),
        (['h', 'o', 'w'], .one (.int 7)), (['l'], .flag true)]
    = { pos := [.one (.int 4)], star := [.int 5, .int 6], kw := [(['h', 'o', 'w'], .one (.int 7)), (['l'], .flag true)] } := by
  decide +kernel

example : parseLine (commandTable [e17Say]) [.word e17CmdWord, .word (e17Num ['4'] 4)]
    = some (.act (.call e17Say.name [(['x'], .one (.int 4)), (['m'], .many []), (['h', 'o', 'w'], .dflt), (['l'], .flag false)])) := by
  decide +kernel

/-! non-vacuity of the `=` form and of abbreviations: `tune(speed=1, size=2, strict=False, n=0, num=0, hint="")` -/

def e17Opt (n : Str) (c : Conv) : Param := { name := n, kind := .optional, pass := .byPosition, conv := c }
def e17Speed : Param := e17Opt ['s', 'p', 'e', 'e', 'd'] .int
def e17Size : Param := e17Opt ['s', 'i', 'z', 'e'] .int
def e17Strict : Param := { name := ['s', 't', 'r', 'i', 'c', 't'], kind := .flag, pass := .byPosition, conv := .str }
def e17N : Param := e17Opt ['n'] .int
def e17Nu : Param := e17Opt ['n', 'u', 'm'] .int
def e17Hint : Param := e17Opt ['h', 'i', 'n', 't'] .str
def e17Tune : Member :=
  { name := ['t', 'u', 'n', 'e'], kind := .function, params := [e17Speed, e17Size, e17Strict, e17N, e17Nu, e17Hint] }
def e17TuneWord : Word := { text := ['t', 'u', 'n', 'e'], int? := none, floatOk := false, litOk := false, dotOk := false }
def e17Text (t : Str) : Word := { text := t, int? := none, floatOk := false, litOk := false, dotOk := false }
def e17T : Table := commandTable [e17Tune]

example : wellFormed [e17Tune] = true := by decide +kernel
-- `--sp` abbreviates `--speed` and nothing else; `--s` does not
example : abbrevOk (optTable e17Tune.params) ['s', 'p'] (dash e17Speed.name) := by unfold abbrevOk; decide +kernel
example : ¬ abbrevOk (optTable e17Tune.params) ['s'] (dash e17Speed.name) := by unfold abbrevOk; decide +kernel
-- `tune --sp=1 --str --hi=`: abbreviations, `=` form, an empty string value
example : parseLine e17T [.word e17TuneWord, .eq ['s', 'p'] (e17Num ['1'] 1), .long ['s', 't', 'r'], .eq ['h', 'i'] (e17Text [])]
    = some (.act (.call e17Tune.name [(e17Speed.name, .one (.int 1)), (e17Size.name, .dflt), (e17Strict.name, .flag true),
        (e17N.name, .dflt), (e17Nu.name, .dflt), (e17Hint.name, .one (.str []))])) := by decide +kernel
-- the same call written in full
example : parseLine e17T [.word e17TuneWord, .eq ['s', 'p'] (e17Num ['1'] 1), .long ['s', 't', 'r'], .eq ['h', 'i'] (e17Text [])]
    = parseLine e17T [.word e17TuneWord, .long e17Speed.name, .word (e17Num ['1'] 1), .long e17Strict.name,
        .long e17Hint.name, .word (e17Text [])] := by decide +kernel
-- `--n 3`: an exact option string although a prefix of `--num`; `--nu=2` is `--num`
example : parseLine e17T [.word e17TuneWord, .long ['n'], .word (e17Num ['3'] 3), .eq ['n', 'u'] (e17Num ['2'] 2)]
    = some (.act (.call e17Tune.name [(e17Speed.name, .dflt), (e17Size.name, .dflt), (e17Strict.name, .flag false),
        (e17N.name, .one (.int 3)), (e17Nu.name, .one (.int 2)), (e17Hint.name, .dflt)])) := by decide +kernel
-- `--s=1`, `--s`: speed, size or strict; also behind a help request, also in front of a bad value
example : parseLine e17T [.word e17TuneWord, .eq ['s'] (e17Num ['1'] 1)] = some (.error .ambiguous) := by decide +kernel
example : parseLine e17T [.word e17TuneWord, .short 'h', .long ['s']] = some (.error .ambiguous) := by decide +kernel
example : parseLine e17T [.word e17TuneWord, .eq e17Size.name (e17Text ['x']), .long ['s']] = some (.error .ambiguous) := by
  decide +kernel
-- `--strict=1`, `--str=`, `--help=1`, top-level `--hel=x`: no value wanted
example : parseLine e17T [.word e17TuneWord, .eq e17Strict.name (e17Num ['1'] 1)] = some (.error .explicitArg) := by decide +kernel
example : parseLine e17T [.word e17TuneWord, .eq ['s', 't', 'r'] (e17Text [])] = some (.error .explicitArg) := by decide +kernel
example : parseLine e17T [.word e17TuneWord, .eq helpName (e17Num ['1'] 1)] = some (.error .explicitArg) := by decide +kernel
example : parseLine e17T [.eq ['h', 'e', 'l'] (e17Text ['x'])] = some (.error .explicitArg) := by decide +kernel
-- `--he`: only `--help` starts like that (`--hint` does not); `--h` is ambiguous
example : parseLine e17T [.word e17TuneWord, .long ['h', 'e']] = some (.help (some e17Tune.name)) := by decide +kernel
example : parseLine e17T [.word e17TuneWord, .long ['h']] = some (.error .ambiguous) := by decide +kernel
-- `--speed=`: an empty string is no int
example : parseLine e17T [.word e17TuneWord, .eq e17Speed.name (e17Text [])] = some (.error .badValue) := by decide +kernel
-- `--zz=1`, `--zz`: no option starts like that — left over
example : parseLine e17T [.word e17TuneWord, .eq ['z', 'z'] (e17Num ['1'] 1)] = some (.error .unrecognized) := by decide +kernel
example : parseLine e17T [.word e17TuneWord, .long ['z', 'z']] = some (.error .unrecognized) := by decide +kernel
-- `--hint=--`: outside the fragment (argparse stores an empty list)
example : parseLine e17T [.word e17TuneWord, .eq e17Hint.name (e17Text dashdash)] = none := by decide +kernel

/-! non-vacuity of the single-dash forms and of the separator: `note(first, *words, sep="+", high=0, quiet=False, loud=False)`
— `-s SEP`, `-H HIGH` (`-h` is help), `-q`, `-l` -/

def e17First : Param := { name := ['f', 'i', 'r', 's', 't'], kind := .positional, pass := .byPosition, conv := .str }
def e17Words : Param := { name := ['w', 'o', 'r', 'd', 's'], kind := .varPositional, pass := .byStar, conv := .str }
def e17Sep : Param := { name := ['s', 'e', 'p'], kind := .optional, pass := .byKeyword, conv := .str }
def e17High : Param := { name := ['h', 'i', 'g', 'h'], kind := .optional, pass := .byKeyword, conv := .int }
def e17Quiet : Param := { name := ['q', 'u', 'i', 'e', 't'], kind := .flag, pass := .byKeyword, conv := .str }
def e17Lou : Param := { name := ['l', 'o', 'u', 'd'], kind := .flag, pass := .byKeyword, conv := .str }
def e17Note : Member :=
  { name := ['n', 'o', 't', 'e'], kind := .function, params := [e17First, e17Words, e17Sep, e17High, e17Quiet, e17Lou] }
def e17NT : Table := commandTable [e17Note, e17Tune]
def e17NoteWord : Word := e17Text ['n', 'o', 't', 'e']
def e17A : Word := e17Text ['a']
def e17B : Word := e17Text ['b']
def e17Three : Word := e17Num ['3'] 3
/-- the namespace of `note a … ` with the given option entries -/
def e17Call (ws : List Atom) (sep high quiet loud : ArgVal) : Option Verdict :=
  some (.act (.call e17Note.name [(e17First.name, .one (.str ['a'])), (e17Words.name, .many ws), (e17Sep.name, sep),
    (e17High.name, high), (e17Quiet.name, quiet), (e17Lou.name, loud)]))

example : wellFormed [e17Note, e17Tune] = true := by decide +kernel
example : assignFlags e17Note.params [] = [(e17First, none), (e17Words, none), (e17Sep, some 's'), (e17High, some 'H'),
    (e17Quiet, some 'q'), (e17Lou, some 'l')] := by decide +kernel
-- `note a -ql` = `note a -q -l`
example : parseLine e17NT [.word e17NoteWord, .word e17A, .attached 'q' false (e17Text ['l']) [('l', none)]]
    = e17Call [] .dflt .dflt (.flag true) (.flag true) := by decide +kernel
example : parseLine e17NT [.word e17NoteWord, .word e17A, .attached 'q' false (e17Text ['l']) [('l', none)]]
    = parseLine e17NT [.word e17NoteWord, .word e17A, .short 'q', .short 'l'] := by decide +kernel
-- `note a -H3`, `note a -H=3`, `note a -H 3`: the same call
example : parseLine e17NT [.word e17NoteWord, .word e17A, .attached 'H' false e17Three [('3', none)]]
    = e17Call [] .dflt (.one (.int 3)) (.flag false) (.flag false) := by decide +kernel
example : parseLine e17NT [.word e17NoteWord, .word e17A, .attached 'H' true e17Three [('3', none)]]
    = parseLine e17NT [.word e17NoteWord, .word e17A, .short 'H', .word e17Three] := by decide +kernel
-- `note -qlH3 a`, `note -qlH 3 a`: flags, then an option with its value attached / in the next string; options first
example : parseLine e17NT [.word e17NoteWord,
      .attached 'q' false (e17Text ['l', 'H', '3']) [('l', some (e17Text ['H', '3'])), ('H', some e17Three), ('3', none)], .word e17A]
    = e17Call [] .dflt (.one (.int 3)) (.flag true) (.flag true) := by decide +kernel
example : parseLine e17NT [.word e17NoteWord,
      .attached 'q' false (e17Text ['l', 'H']) [('l', some (e17Text ['H'])), ('H', none)], .word e17Three, .word e17A]
    = e17Call [] .dflt (.one (.int 3)) (.flag true) (.flag true) := by decide +kernel
-- `note a -q=l`: one `=` behind the first letter is dropped, also behind a flag
example : parseLine e17NT [.word e17NoteWord, .word e17A, .attached 'q' true (e17Text ['l']) [('l', none)]]
    = e17Call [] .dflt .dflt (.flag true) (.flag true) := by decide +kernel
-- `note a -s=`: an empty string value; `note a -H=`: no int
example : parseLine e17NT [.word e17NoteWord, .word e17A, .attached 's' true (e17Text []) []]
    = e17Call [] (.one (.str [])) .dflt (.flag false) (.flag false) := by decide +kernel
example : parseLine e17NT [.word e17NoteWord, .word e17A, .attached 'H' true (e17Text []) []] = some (.error .badValue) := by
  decide +kernel
-- `note a -qH=3`: inside a cluster the `=` belongs to the value (`=3` is no int); `-s` takes it
example : parseLine e17NT [.word e17NoteWord, .word e17A,
      .attached 'q' false (e17Text ['H', '=', '3']) [('H', some (e17Text ['=', '3'])), ('=', some e17Three), ('3', none)]]
    = some (.error .badValue) := by decide +kernel
example : parseLine e17NT [.word e17NoteWord, .word e17A,
      .attached 'q' false (e17Text ['s', '=', '3']) [('s', some (e17Text ['=', '3'])), ('=', some e17Three), ('3', none)]]
    = e17Call [] (.one (.str ['=', '3'])) .dflt (.flag true) (.flag false) := by decide +kernel
-- `-qx`, `-q=`, `-hx`: ignored explicit argument; nothing of the string takes effect
example : parseLine e17NT [.word e17NoteWord, .word e17A, .attached 'q' false (e17Text ['x']) [('x', none)]]
    = some (.error .explicitArg) := by decide +kernel
example : parseLine e17NT [.word e17NoteWord, .word e17A, .attached 'q' true (e17Text []) []] = some (.error .explicitArg) := by
  decide +kernel
example : parseLine e17NT [.word e17NoteWord, .word e17A, .attached 'h' false (e17Text ['x']) [('x', none)]]
    = some (.error .explicitArg) := by decide +kernel
-- `-qh`, `-hq`: the command's help; `-hH` at the end of the line: the missing value is reported first; `-hH x`: help
example : parseLine e17NT [.word e17NoteWord, .word e17A, .attached 'q' false (e17Text ['h']) [('h', none)]]
    = some (.help (some e17Note.name)) := by decide +kernel
example : parseLine e17NT [.word e17NoteWord, .word e17A, .attached 'h' false (e17Text ['q']) [('q', none)]]
    = some (.help (some e17Note.name)) := by decide +kernel
example : parseLine e17NT [.word e17NoteWord, .word e17A, .attached 'h' false (e17Text ['H']) [('H', none)]]
    = some (.error .needsValue) := by decide +kernel
example : parseLine e17NT [.word e17NoteWord, .word e17A, .attached 'h' false (e17Text ['H']) [('H', none)], .word (e17Text ['x'])]
    = some (.help (some e17Note.name)) := by decide +kernel
-- `-qHx`: the flag is fine, the value is no int
example : parseLine e17NT [.word e17NoteWord, .word e17A,
      .attached 'q' false (e17Text ['H', 'x']) [('H', some (e17Text ['x'])), ('x', none)]] = some (.error .badValue) := by
  decide +kernel
-- `-zG`: the first letter is no option of the command — left over whole
example : parseLine e17NT [.word e17NoteWord, .word e17A, .attached 'z' false (e17Text ['G']) [('G', none)]]
    = some (.error .unrecognized) := by decide +kernel
-- `-s--`: outside the fragment (argparse stores an empty list)
example : parseLine e17NT [.word e17NoteWord, .word e17A, .attached 's' false (e17Text dashdash) [('-', some (e17Text ['-'])), ('-', none)]]
    = none := by decide +kernel
-- top level: `-hh` is help, `-hx` and `-h=` are refused
example : parseLine e17NT [.attached 'h' false (e17Text ['h']) [('h', none)]] = some (.help none) := by decide +kernel
example : parseLine e17NT [.attached 'h' false (e17Text ['x']) [('x', none)], .word e17NoteWord] = some (.error .explicitArg) := by
  decide +kernel
example : parseLine e17NT [.attached 'h' true (e17Text []) []] = some (.error .explicitArg) := by decide +kernel
-- `note -- a b`, `note a -- b`, `note a b --`, `note -q -- a b`: the separator changes nothing
example : parseLine e17NT [.word e17NoteWord, .sep, .word e17A, .word e17B]
    = e17Call [.str ['b']] .dflt .dflt (.flag false) (.flag false) := by decide +kernel
example : parseLine e17NT [.word e17NoteWord, .word e17A, .sep, .word e17B]
    = parseLine e17NT [.word e17NoteWord, .word e17A, .word e17B] := by decide +kernel
example : parseLine e17NT [.word e17NoteWord, .word e17A, .word e17B, .sep]
    = parseLine e17NT [.word e17NoteWord, .word e17A, .word e17B] := by decide +kernel
example : parseLine e17NT [.word e17NoteWord, .short 'q', .sep, .word e17A, .word e17B]
    = e17Call [.str ['b']] .dflt .dflt (.flag true) (.flag false) := by decide +kernel
-- `note a -- -q`: behind the separator `-q` is a word
example : parseLine e17NT [.word e17NoteWord, .word e17A, .sep, .word (e17Text ['-', 'q'])]
    = e17Call [.str ['-', 'q']] .dflt .dflt (.flag false) (.flag false) := by decide +kernel
-- `note --`: the positional is missing; `note a -q --`, `note a -q -- b`: the separator and all behind it are left over
example : parseLine e17NT [.word e17NoteWord, .sep] = some (.error .missing) := by decide +kernel
example : parseLine e17NT [.word e17NoteWord, .word e17A, .short 'q', .sep] = some (.error .unrecognized) := by decide +kernel
example : parseLine e17NT [.word e17NoteWord, .word e17A, .short 'q', .sep, .word e17B] = some (.error .unrecognized) := by
  decide +kernel
-- `note -q --`: options, the separator, nothing behind it — the positional is missing
example : parseLine e17NT [.word e17NoteWord, .short 'q', .sep] = some (.error .missing) := by decide +kernel
-- `tune --`: a command without positional parameters leaves the separator over; `tune -n --`: the value is missing
example : parseLine e17NT [.word e17TuneWord, .sep] = some (.error .unrecognized) := by decide +kernel
example : parseLine e17NT [.word e17TuneWord, .short 'n', .sep, .word e17Three] = some (.error .needsValue) := by decide +kernel
-- an ambiguous abbreviation in front of the separator is fatal as ever
example : parseLine e17NT [.word e17TuneWord, .long ['s'], .sep] = some (.error .ambiguous) := by decide +kernel
-- a second `--` (the lexer's `other`) and `--` as the first string: outside the fragment
example : parseLine e17NT [.word e17NoteWord, .sep, .word e17A, .other] = none := by decide +kernel
example : parseLine e17NT [.sep, .word e17NoteWord, .word e17A] = none := by decide +kernel

end Taskpool.Control
