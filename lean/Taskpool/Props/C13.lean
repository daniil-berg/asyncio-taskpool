import Taskpool.Props.C03
import Taskpool.Props.C06
import Taskpool.Inv.GoodInv
/-! # C13 — flush forgets finished tasks only -/
namespace Taskpool
open Pool

/-- **what the last step of `flush` forgets, exactly**: the ids it had snapshotted before its second gather — an
id that entered the ended or cancelled registry while `flush` was waiting stays; the running registry, every task
record and the semaphore are untouched -/
theorem C13_forgets_only_awaited (p : Pool) (a : Nat) :
    let A := p.apis[a]?.getD default
    (p.flushAfter2 a .ok).ended = p.ended.filter (fun t => !(A.snapE.contains t || A.snapC.contains t)) ∧
    (p.flushAfter2 a .ok).cancelledR = p.cancelledR.filter (fun t => !A.snapC.contains t) ∧
    (p.flushAfter2 a .ok).running = p.running ∧ (p.flushAfter2 a .ok).tasks = p.tasks ∧
    (p.flushAfter2 a .ok).sem = p.sem := by
  exact ⟨rfl, rfl, rfl, rfl, rfl⟩

/-- an id that was not in the snapshot is still remembered afterwards -/
theorem C13_later_ids_stay (p : Pool) (a : Nat) (t : Nat)
    (h : ((p.apis[a]?.getD default).snapE.contains t || (p.apis[a]?.getD default).snapC.contains t) = false) :
    (t ∈ p.ended → t ∈ (p.flushAfter2 a .ok).ended) ∧ (t ∈ p.cancelledR → t ∈ (p.flushAfter2 a .ok).cancelledR) := by
  obtain ⟨h1, h2, _⟩ := C13_forgets_only_awaited p a
  simp only [Bool.or_eq_false_iff] at h
  constructor
  · intro ht; rw [h1]; exact List.mem_filter.mpr ⟨ht, by rw [h.1, h.2]; rfl⟩
  · intro ht; rw [h2]; exact List.mem_filter.mpr ⟨ht, by rw [h.2]; rfl⟩

/-- an id that was in the snapshot does not count as ended afterwards (what else the step removes is in
`C13_forgets_only_awaited`; what `cancel(id)` answers for an id in no registry is `C06_classification`) -/
theorem C13_snapshot_forgotten (p : Pool) (a : Nat) (t : Nat)
    (h : (p.apis[a]?.getD default).snapE.contains t = true ∨ (p.apis[a]?.getD default).snapC.contains t = true) :
    t ∉ (p.flushAfter2 a .ok).ended := by
  obtain ⟨h1, _⟩ := C13_forgets_only_awaited p a
  rw [h1]
  intro hm
  have := (List.mem_filter.mp hm).2
  rcases h with h | h <;> rw [h] at this <;> simp at this

/-- a failing flush (its gather raised) forgets nothing -/
theorem C13_failure_forgets_nothing (p : Pool) (a : Nat) (o : Outcome) (ho : o ≠ .ok) :
    (p.flushAfter2 a o).ended = p.ended ∧ (p.flushAfter2 a o).cancelledR = p.cancelledR ∧
    (p.flushAfter2 a o).running = p.running := by
  unfold flushAfter2
  split
  · exact absurd rfl ho
  · exact ⟨rfl, rfl, rfl⟩

/-- **`flush(return_exceptions=True)` never raises**: a gather that collects exceptions can only complete normally -/
theorem C13_re_verdict (G : Gather) (co : Option Outcome) (h : G.retExc = true) :
    gatherVerdict G co = none ∨ gatherVerdict G co = some .ok :=
  gatherVerdict_elim (P := fun v => v = none ∨ v = some .ok) G co (fun a => nomatch a.symm.trans h)
    (fun _ a => nomatch a.symm.trans h) (fun _ => .inr rfl) fun _ => .inl rfl

/-- an id filed as running is in neither of the two registries the snapshot is taken from (`ended`, `cancelledR`), given
that no id is filed twice — which `C03_one_registry` supplies for every reachable pool -/
theorem C13_running_never_in_snapshot (p : Pool) (hnd : (p.running ++ p.cancelledR ++ p.ended).Nodup) (t : Nat)
    (ht : t ∈ p.running) : t ∉ p.ended ∧ t ∉ p.cancelledR := by
  have := nodup3_mem_disj hnd t
  exact ⟨(this.1 ht).2, (this.1 ht).1⟩

/-! Non-vacuity: a finished task is forgotten by a flush that started after it ended. -/
def C13_demo : History :=
  [.mkpool (some 1) none none,
   .on 0 [] (.apply 1 none { Pool.gatedSpec with ws := { mode := .retNow, swallow := false } }),
   .run 0 [], .run 0 [], .on 0 [] (.flush true), .run 0 []]

example : (((World.init 0).run C13_demo).pools.map fun p => (p.ended, p.tasks.length, p.apis.map (·.outcome))) =
    [([], 1, [some Outcome.ok])] := by decide +kernel

/-- **`flush` never forgets a task that is still running or still inside its callbacks** — in every pool after every
history without `gather_and_close`, with any number of overlapping `flush()` calls landing anywhere relative to tasks
ending, being cancelled and sitting in slow callbacks: a task that has not yet handed back its slot is still counted as
running or as cancelled (so `cancel()` still knows it), and no wrapper ever missed its registry entry. The proof goes
through the invariant that a `flush` suspended in its second gather awaits every task of its cancelled-registry
snapshot and that a gather completes normally only when all its child tasks have finished (`FlushOK`, DESIGN §4.3). -/
theorem C13_never_forgets_unfinished (base : Nat) (h : History) (hn : ∀ x ∈ h, x.admits noGac = true) (i : Nat) (c : Cfg)
    (p : Pool) (hc : ((World.init base).run h).cfgs[i]? = some c) (hp : ((World.init base).run h).pools[i]? = some p) :
    p.lost = false ∧
    ∀ (t : Nat) (tk : PTask), p.tasks[t]? = some tk → tk.released = false → t ∈ p.running ∨ t ∈ p.cancelledR :=
  ⟨C03_never_lost base h hn i c p hc hp, C03_complete base h hn i c p hc hp⟩

end Taskpool
